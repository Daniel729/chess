import Chess.Lemmas.Abs
import Chess.Lemmas.AlphaBeta
import Chess.Lemmas.AlphaBetaAux
import Chess.Lemmas.AlphaBetaClamp
import Chess.Lemmas.AlphaBetaNode
import Chess.Lemmas.Attack
import Chess.Lemmas.AttackAux
import Chess.Lemmas.Bounds
import Chess.Lemmas.Budget
import Chess.Lemmas.Cache
import Chess.Lemmas.Defs
import Chess.Lemmas.FenAux
import Chess.Lemmas.FenRead
import Chess.Lemmas.FenWrite
import Chess.Lemmas.Generated
import Chess.Lemmas.Invariant
import Chess.Lemmas.KeyFacts
import Chess.Lemmas.Legal
import Chess.Lemmas.LegalAux
import Chess.Lemmas.Mate
import Chess.Lemmas.MoveText
import Chess.Lemmas.Pseudo
import Chess.Lemmas.PushPop
import Chess.Lemmas.Reach
import Chess.Lemmas.Refine
import Chess.Lemmas.RefineBase
import Chess.Lemmas.RefineBits
import Chess.Lemmas.RefineChecked
import Chess.Lemmas.RefineCor
import Chess.Lemmas.RefineShape
import Chess.Lemmas.RefineSquare
import Chess.Lemmas.SearchDriver
import Chess.Lemmas.SearchDriverAux
import Chess.Lemmas.SearchF
import Chess.Lemmas.SearchFAux
import Chess.Lemmas.Session
import Chess.Lemmas.SpecSums
import Chess.Lemmas.StartHash
import Chess.Lemmas.Go
import Chess.Lemmas.ShareF64
import Chess.Lemmas.ScoreRangeAux
import Chess.Lemmas.ScoreRange
import Chess.Lemmas.ScoreRangePop
import Chess.Lemmas.ScoreRangeExamples
import Chess.Lemmas.Autoplay
import Chess.Lemmas.FenEpRank
import Chess.Lemmas.Mate2
import Chess.Lemmas.CallShape
import Chess.Lemmas.Perft
import Chess.Lemmas.RepetitionGuard
import Chess.Lemmas.FnsEquiv
