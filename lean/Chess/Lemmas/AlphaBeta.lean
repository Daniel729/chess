import Chess.Lemmas.AlphaBetaNode

/-!
# C09: pruning and move ordering never change the search result
-/
namespace Chess.Search

variable {G M : Type}

/-- The move loop of the root. The running best score equals the true running maximum `T` after
clamping (not more: the re-search overwrites `bestScore` unconditionally); it stays in the engine's
range because every root move scores in that range. A move that scores below `scoreMin` is harmless
as long as its score is above `-K`: a probe that fails high is then not above the score. -/
theorem rootLoop_specK (K : Int) (hK : 0 ≤ K) (o : Ops G M)
    (child : G → Int → Int → Int → St M → Option (Int × St M))
    (cv : M → Int) (g : G) (ms : List M)
    (hc : ∀ m ∈ ms, ChildSoundK K child (o.push g m) 1 (cv m) ∧
      (-(cv m) ≤ -K → scoreMin ≤ -(cv m)) ∧ -(cv m) ≤ -scoreMin - 1)
    (index : Nat) (bs : Int) (bm : Option M) (st : St M) (T : Int)
    (h1 : scoreMin ≤ bs) (h2 : bs ≤ -scoreMin - 1) (ht : st.ttOff = true)
    (hJ : clampK K bs = clampK K T) :
    ∃ sc bm' st', rootLoop o child g ms index bs bm st = some (sc, bm', st') ∧ st'.ttOff = true ∧
      clampK K sc = clampK K ((ms.map fun m => -(cv m)).foldl max T) := by
  induction ms generalizing index bs bm st T with
  | nil => exact ⟨bs, bm, st, rfl, ht, hJ⟩
  | cons m ms ih =>
    have ih' := ih (fun m' hm' => hc m' (List.mem_cons_of_mem _ hm'))
    obtain ⟨hcs, hlo, hhi⟩ := hc m List.mem_cons_self
    have hKhi : -K ≤ -scoreMin - 1 := by simp only [scoreMin]; omega
    simp only [List.map_cons, List.foldl_cons]
    unfold rootLoop
    simp only []
    by_cases hidx : index ≤ Gen.fullWindowMaxIndex
    · rw [if_pos hidx]
      obtain ⟨r, st1, he, ht1, hb⟩ := hcs (scoreMin + 1) (-bs) st (by omega) (by omega) ht
      have hb := hb.neg
      simp only [Int.neg_neg] at hb
      simp only [he]
      have hstep := hb.root_step hK hJ (by omega)
      by_cases hs : -r > bs
      · rw [if_pos hs]
        rw [show max bs (-r) = -r by omega] at hstep
        exact ih' _ _ _ _ _ (by omega) (hb.le hhi h2 hKhi) ht1 hstep
      · rw [if_neg hs]
        rw [show max bs (-r) = bs by omega] at hstep
        exact ih' _ _ _ _ _ h1 h2 ht1 hstep
    · rw [if_neg hidx]
      obtain ⟨r, st1, he, ht1, hb⟩ := hcs (-bs - 1) (-bs) st (by omega) (by omega) ht
      have hb := hb.neg
      simp only [Int.neg_neg] at hb
      simp only [he]
      by_cases hs : -r > bs
      · rw [if_pos hs]
        obtain ⟨r2, st2, he2, ht2, hb2⟩ := hcs (scoreMin + 1) (- -r) st1 (by omega) (by omega) ht1
        have hb2 := hb2.neg
        simp only [Int.neg_neg] at hb2
        simp only [he2]
        have hsv : scoreMin ≤ -(cv m) := by have := hb.2; omega
        exact ih' _ _ _ _ _ (hb2.ge hsv (by omega) (by omega))
          (hb2.le hhi (hb.le hhi h2 hKhi) hKhi) ht2
          ((hb.clamp_research hK hs hb2 (by omega)).trans
            ((hb.research hb2).root_step hK hJ (by omega)))
      · rw [if_neg hs]
        have hstep := (hb.widen (β := -scoreMin - 1) (by omega)).root_step hK hJ hhi
        rw [show max bs (-r) = bs by omega] at hstep
        exact ih' _ _ _ _ _ h1 h2 ht1 hstep

theorem exists_lt_forall_mem (f : M → Int) (ms : List M) : ∃ L, ∀ m ∈ ms, L < f m := by
  induction ms with
  | nil => exact ⟨0, fun _ h => nomatch h⟩
  | cons x xs ih =>
    obtain ⟨L, hL⟩ := ih
    refine ⟨min L (f x - 1), fun m hm => ?_⟩
    rcases List.mem_cons.1 hm with rfl | h
    · omega
    · have := hL m h; omega

variable [DecidableEq M]

/-- **The root is exact up to clamping.** With table look-ups disabled, a flag that stays up, no
usable root entry and not exactly one legal move, `rootSearch` answers, and the score it returns
agrees with the plain negamax value `refRoot` after clamping both into `[-K, K]`, whatever the move
ordering (history, killers, `orderKey`, table move): below every root move the tree is `TameK K`,
and every root move scores at most `scoreMax` and, unless above `-K`, at least `scoreMin`. -/
theorem rootSearch_clamped (K : Int) (hK : 0 ≤ K) (o : Ops G M) (g : G) (depth : Nat) (st : St M)
    (hlen : (o.checked g).length ≠ 1) (ht : st.ttOff = true)
    (hmiss : ∀ e, st.tt[o.hash g]? = some e → ¬(e.depth ≥ depth ∧ e.flag = Flag.exact))
    (hT : ∀ m ∈ rootMoves o g, TameK K o (depth - 1) (o.push g m) 1 ∧
      (rootScore o depth g m ≤ -K → scoreMin ≤ rootScore o depth g m) ∧
      rootScore o depth g m ≤ scoreMax) :
    ∃ bm sc st', rootSearch o (fun _ => true) g depth st = some ((bm, sc, false), st') ∧
      st'.ttOff = true ∧ clampK K sc = clampK K (refRoot o depth g) := by
  rw [rootSearch_eq, if_neg hlen,
    rootHit_none_of_miss (x := ttGet (rootSt st) (o.hash g)) hmiss]
  have hp : (rootSorted o g (rootSt st)).Perm (rootMoves o g) := sortMoves_perm _ _
  obtain ⟨sc, bm', st', hrl, ht', hcl⟩ :=
    rootLoop_specK K hK o (node o (fun _ => true) (depth - 1))
      (fun m => refNode o (depth - 1) (o.push g m) 1) g (rootSorted o g (rootSt st))
      (fun m hm' => by
        obtain ⟨hTm, hlo, hhi⟩ := hT m (hp.mem_iff.1 hm')
        refine ⟨fun a b s ha hb hs => node_btwK K hK o _ _ a b _ s ha hb hs hTm, hlo, ?_⟩
        simp only [rootScore, scoreMax] at hhi
        simp only [scoreMin]
        omega)
      0 (scoreMin + 1) none (rootSt st) (scoreMin + 1) (by omega) (by simp only [scoreMin]; omega)
      ht rfl
  simp only [hrl]
  refine ⟨_, _, _, rfl, ?_, by rw [refRoot_perm o depth g hp.symm]; exact hcl⟩
  exact rootStore_ind (P := fun s => s.ttOff = true) ht' ht'

/-- What `root_exact` needs of the tree: below every root move the tree is `Tame`, and no root move
scores above `scoreMax` (the engine's scores are 16-bit). -/
def RootInRange (o : Ops G M) (depth : Nat) (g : G) : Prop :=
  ∀ m ∈ rootMoves o g, Tame o (depth - 1) (o.push g m) 1 ∧ rootScore o depth g m ≤ scoreMax

/-- **The root is exact.** With table look-ups disabled, a flag that stays up, no usable root
entry and not exactly one legal move, `rootSearch` answers, and the score it returns is the plain
negamax value `refRoot`, whatever the move ordering (history, killers, `orderKey`, table move). -/
theorem root_exact (o : Ops G M) (g : G) (depth : Nat) (st : St M)
    (hlen : (o.checked g).length ≠ 1) (ht : st.ttOff = true)
    (hmiss : ∀ e, st.tt[o.hash g]? = some e → ¬(e.depth ≥ depth ∧ e.flag = Flag.exact))
    (hT : RootInRange o depth g) :
    ∃ bm st', rootSearch o (fun _ => true) g depth st = some ((bm, refRoot o depth g, false), st') ∧
      st'.ttOff = true := by
  -- a `Tame` tree is `TameK K` for every `K`; take `K` beyond the value and all root scores
  obtain ⟨L, hL⟩ := exists_lt_forall_mem (rootScore o depth g) (rootMoves o g)
  obtain ⟨bm, sc, st', h, ht', hc⟩ :=
    rootSearch_clamped (max (-L) ((refRoot o depth g).natAbs + 1)) (by omega) o g depth st hlen ht
      hmiss fun m hm =>
        ⟨(hT m hm).1.tameK _, fun h => absurd h (by have := hL m hm; omega), (hT m hm).2⟩
  rw [eq_of_clampK_eq hc (by omega) (by omega)] at h
  exact ⟨bm, st', h, ht'⟩

/-! ## The statements in the form of the property text (`R`, proper windows) -/

omit [DecidableEq M] in
/-- **Quiescence is sound**: for a proper window the fail-hard result lies between the reference
value and its clamp into the window. (`QLive.tame` turns the strict hypothesis into `QTame`.) -/
theorem qsearch_sound (o : Ops G M) (fuel : Nat) (g : G) (α β rd : Int) (hαβ : α < β)
    (h : QTame o fuel g rd) :
    R α β (refQ o fuel g rd) (qsearch o fuel g α β rd) :=
  (R_iff_Btw hαβ _ _).2 <| Btw_iff_forall_BtwK.2 fun K _ =>
    qsearch_btwK K o fuel g α β rd (h.tameK K)

omit [DecidableEq M] in
theorem qsearch_sound_of_live (o : Ops G M) (fuel : Nat) (g : G) (α β rd : Int) (hαβ : α < β)
    (h : QLive o fuel g rd) :
    R α β (refQ o fuel g rd) (qsearch o fuel g α β rd) :=
  qsearch_sound o fuel g α β rd hαβ h.tame

omit [DecidableEq M] in
/-- **Depth 1 is sound.** A depth-1 node without moves returns its exact value; only the quiescence
below the moves needs the hypothesis. -/
theorem depth1_sound (o : Ops G M) (g : G) (α β rd : Int) (hαβ : α < β)
    (h : ∀ m ∈ o.unchecked g, QTame o qFuel (o.push g m) (rd + 1)) :
    R α β (refD1 o g rd) (depth1 o g α β rd) :=
  (R_iff_Btw hαβ _ _).2 <| Btw_iff_forall_BtwK.2 fun K _ =>
    depth1_btwK K o g α β rd fun m hm => (h m hm).tameK K

/-- **The interior node is sound**, for every game tree, every ordering (the state `st` with its
killers and history is arbitrary, as is `orderKey`), table switched off, flag up: it answers, the
table stays off, and the answer lies between the reference value and its clamp into the window.
The window must lie in the engine's range, `scoreMin ≤ α` and `β ≤ -scoreMin`: the loop starts
from `best_score = scoreMin` and decides the re-search by `test > best_score`. -/
theorem node_sound (o : Ops G M) (remaining : Nat) (g : G) (α β rd : Int) (st : St M)
    (hαβ : α < β) (hα : scoreMin ≤ α) (hβ : β ≤ -scoreMin) (ht : st.ttOff = true)
    (hT : Tame o remaining g rd) :
    ∃ r st', node o (fun _ => true) remaining g α β rd st = some (r, st') ∧ st'.ttOff = true ∧
      R α β (refNode o remaining g rd) r := by
  obtain ⟨r, st', h1, h2, h3⟩ := node_btw o remaining g α β rd st hα hβ ht hT
  exact ⟨r, st', h1, h2, (R_iff_Btw hαβ _ _).2 h3⟩

/-- the same, reading off a given result -/
theorem node_sound' (o : Ops G M) (remaining : Nat) (g : G) (α β rd : Int) (st st' : St M) (r : Int)
    (hαβ : α < β) (hα : scoreMin ≤ α) (hβ : β ≤ -scoreMin) (ht : st.ttOff = true)
    (hT : Tame o remaining g rd)
    (hr : node o (fun _ => true) remaining g α β rd st = some (r, st')) :
    st'.ttOff = true ∧ R α β (refNode o remaining g rd) r := by
  obtain ⟨r1, st1, h1, h2, h3⟩ := node_sound o remaining g α β rd st hαβ hα hβ ht hT
  rw [hr] at h1
  cases h1
  exact ⟨h2, h3⟩

/-- a window that contains the value gives the value -/
theorem node_exact (o : Ops G M) (remaining : Nat) (g : G) (α β rd : Int) (st : St M)
    (hα : scoreMin ≤ α) (hβ : β ≤ -scoreMin) (ht : st.ttOff = true)
    (hT : Tame o remaining g rd)
    (h1 : α < refNode o remaining g rd) (h2 : refNode o remaining g rd < β) :
    ∃ st', node o (fun _ => true) remaining g α β rd st = some (refNode o remaining g rd, st') := by
  obtain ⟨r, st', e, _, hb⟩ := node_btw o remaining g α β rd st hα hβ ht hT
  have : r = refNode o remaining g rd := by unfold Btw at hb; omega
  exact ⟨st', this ▸ e⟩

/-- **Ordering never changes the result**: two searches of the same position that differ in
everything that only orders moves (history, killers, table contents, poll count) return the same
score. -/
theorem root_order_independent (o : Ops G M) (g : G) (depth : Nat) (st₁ st₂ : St M)
    (hlen : (o.checked g).length ≠ 1) (ht₁ : st₁.ttOff = true) (ht₂ : st₂.ttOff = true)
    (hmiss₁ : ∀ e, st₁.tt[o.hash g]? = some e → ¬(e.depth ≥ depth ∧ e.flag = Flag.exact))
    (hmiss₂ : ∀ e, st₂.tt[o.hash g]? = some e → ¬(e.depth ≥ depth ∧ e.flag = Flag.exact))
    (hT : RootInRange o depth g) :
    ∃ bm₁ bm₂ s st₁' st₂',
      rootSearch o (fun _ => true) g depth st₁ = some ((bm₁, s, false), st₁') ∧
      rootSearch o (fun _ => true) g depth st₂ = some ((bm₂, s, false), st₂') := by
  obtain ⟨bm₁, st₁', h₁, _⟩ := root_exact o g depth st₁ hlen ht₁ hmiss₁ hT
  obtain ⟨bm₂, st₂', h₂, _⟩ := root_exact o g depth st₂ hlen ht₂ hmiss₂ hT
  exact ⟨bm₁, bm₂, _, st₁', st₂', h₁, h₂⟩

/-! ## Reordering the move generators -/

omit [DecidableEq M] in
theorem QTame.reordered {o o' : Ops G M} (h : Reordered o o') {fuel : Nat} {g : G}
    {rd : Int} : QTame o' fuel g rd ↔ QTame o fuel g rd := by
  induction fuel generalizing g rd with
  | zero => exact Iff.rfl
  | succ f ih =>
    simp only [QTame, h.eval, h.push, h.tactical, deadValue_reordered h,
      ← (h.unchecked g).isEmpty_eq, ← (h.unchecked g).mem_iff, ih]

omit [DecidableEq M] in
theorem Tame.reordered {o o' : Ops G M} (h : Reordered o o') {remaining : Nat} {g : G}
    {rd : Int} : Tame o' remaining g rd ↔ Tame o remaining g rd := by
  induction remaining using Nat.strongRecOn generalizing g rd with
  | _ n ih =>
    match n with
    | 0 => exact QTame.reordered h
    | 1 => simp only [Tame, h.push, ← (h.unchecked g).mem_iff, QTame.reordered h]
    | r + 2 =>
      simp only [Tame, h.push, ← (h.checked g).mem_iff, refNode_reordered h,
        ih (r + 1) (by omega)]

theorem RootInRange.reordered {o o' : Ops G M} (h : Reordered o o')
    (hrep : o'.repetition = o.repetition) {depth : Nat} {g : G} :
    RootInRange o' depth g ↔ RootInRange o depth g := by
  simp only [RootInRange, rootScore, h.push, ← (rootMoves_reordered h hrep g).mem_iff,
    refNode_reordered h, Tame.reordered h]

/-- **Neither pruning nor any ordering changes the result.** Let `o'` be the game `o` with the
move lists of every position generated in another order, and with *any* other hash, history index
and ordering key; let the two searches start from arbitrary (table-off) states. Then both return
the same score, the plain negamax value of `o`. -/
theorem root_reordered {o o' : Ops G M} (h : Reordered o o') (hrep : o'.repetition = o.repetition)
    (g : G) (depth : Nat) (st st' : St M)
    (hlen : (o.checked g).length ≠ 1) (ht : st.ttOff = true) (ht' : st'.ttOff = true)
    (hmiss : ∀ e, st.tt[o.hash g]? = some e → ¬(e.depth ≥ depth ∧ e.flag = Flag.exact))
    (hmiss' : ∀ e, st'.tt[o'.hash g]? = some e → ¬(e.depth ≥ depth ∧ e.flag = Flag.exact))
    (hT : RootInRange o depth g) :
    ∃ bm bm' s s',
      rootSearch o (fun _ => true) g depth st = some ((bm, refRoot o depth g, false), s) ∧
      rootSearch o' (fun _ => true) g depth st' = some ((bm', refRoot o depth g, false), s') := by
  obtain ⟨bm, s, h₁, _⟩ := root_exact o g depth st hlen ht hmiss hT
  obtain ⟨bm', s', h₂, _⟩ := root_exact o' g depth st'
    (by rw [← (h.checked g).length_eq]; exact hlen) ht' hmiss' ((RootInRange.reordered h hrep).2 hT)
  rw [refRoot_reordered h hrep] at h₂
  exact ⟨bm, bm', s, s', h₁, h₂⟩

/-! ## Boolean checkers for the tree predicates (used for the concrete examples) -/

omit [DecidableEq M] in
def qliveB (o : Ops G M) : Nat → G → Int → Bool
  | 0, _, _ => true
  | fuel + 1, g, rd =>
    !(o.unchecked g).isEmpty &&
    (o.unchecked g).all fun m => !o.tactical m || qliveB o fuel (o.push g m) (rd + 1)

omit [DecidableEq M] in
theorem qliveB_iff (o : Ops G M) (fuel : Nat) (g : G) (rd : Int) :
    qliveB o fuel g rd = true ↔ QLive o fuel g rd := by
  induction fuel generalizing g rd with
  | zero => simp only [qliveB, QLive]
  | succ f ih =>
    simp only [qliveB, QLive, Bool.and_eq_true, Bool.not_eq_true', List.all_eq_true,
      Bool.or_eq_true, ih, Decidable.imp_iff_not_or, Bool.not_eq_true]

omit [DecidableEq M] in
def liveB (o : Ops G M) : Nat → G → Int → Bool
  | 0, g, rd => qliveB o qFuel g rd
  | 1, g, rd => (o.unchecked g).all fun m => qliveB o qFuel (o.push g m) (rd + 1)
  | r + 2, g, rd =>
    (o.checked g).all fun m =>
      liveB o (r + 1) (o.push g m) (rd + 1) &&
      decide (scoreMin + 1 ≤ refNode o (r + 1) (o.push g m) (rd + 1)) &&
      decide (refNode o (r + 1) (o.push g m) (rd + 1) ≤ scoreMax)

omit [DecidableEq M] in
theorem liveB_iff (o : Ops G M) (remaining : Nat) (g : G) (rd : Int) :
    liveB o remaining g rd = true ↔ Live o remaining g rd := by
  induction remaining using Nat.strongRecOn generalizing g rd with
  | _ n ih =>
    match n with
    | 0 => exact qliveB_iff o _ _ _
    | 1 => simp only [liveB, Live, List.all_eq_true, qliveB_iff]
    | r + 2 =>
      simp only [liveB, Live, List.all_eq_true, Bool.and_eq_true, decide_eq_true_eq,
        ih (r + 1) (by omega), and_assoc]

def rootInRangeB (o : Ops G M) (depth : Nat) (g : G) : Bool :=
  (rootMoves o g).all fun m =>
    liveB o (depth - 1) (o.push g m) 1 && decide (rootScore o depth g m ≤ scoreMax)

theorem rootInRangeB_sound (o : Ops G M) (depth : Nat) (g : G) (h : rootInRangeB o depth g = true) :
    RootInRange o depth g := by
  simp only [rootInRangeB, List.all_eq_true, Bool.and_eq_true, decide_eq_true_eq] at h
  exact fun m hm => ⟨((liveB_iff o _ _ _).1 (h m hm).1).tame, (h m hm).2⟩

/-! ## Non-vacuity: a concrete game tree

Positions are paths (`List Nat`), a move appends its number. Interior positions have five legal
moves (so the null-window probes and re-searches of `nodeLoop`/`rootLoop` are exercised, the
full-window index being `2`), the static evaluation is a pseudo-random function of the path, moves
other than `0` are tactical, quiescence dies out at path length 5 where the only move is quiet, and
the root has a repetition move that `swapRemoveFirst` removes. `orderKey` sorts the moves in
*descending* order and history/killers change on the way, so the order in which moves are tried
differs from the order in which the reference lists them. -/
namespace Example

def exEval (g : List Nat) : Int :=
  ((g.foldl (fun a x => (a * 7 + x * 13 + 5) % 41) 3 : Nat) : Int) - 20

def ex : Ops (List Nat) Nat where
  checked g := if g.length < 3 then [0, 1, 2, 3, 4] else [0, 1]
  unchecked g := if g.length < 5 then [0, 1, 2] else [0]
  push g m := g ++ [m]
  eval := exEval
  safe _ := true
  hash _ := 0
  tactical m := m != 0
  histIdx m := some m
  orderKey m h := 10 - m + h m
  repetition g := if g = [] then some 1 else none

def st0 : St Nat :=
  { tt := {}, killers := Array.replicate 32 none, history := Array.replicate 768 0, polls := 0,
    ttOff := true }

/-- the hypothesis of `qsearch_sound` holds at the position `[0, 1, 2]` -/
theorem ex_qlive : QLive ex qFuel [0, 1, 2] 3 := (qliveB_iff _ _ _ _).1 (by decide +kernel)

/-- `qsearch_sound` observed: the value is 17; the window `(-5, 5)` fails high with `5` (between
`β` and `v`), the window `(-50, 50)` returns the value -/
example : refQ ex qFuel [0, 1, 2] 3 = 17 ∧ qsearch ex qFuel [0, 1, 2] (-5) 5 3 = 5 ∧
    qsearch ex qFuel [0, 1, 2] (-50) 50 3 = 17 ∧ qsearch ex qFuel [0, 1, 2] 20 30 3 = 20 := by
  decide +kernel

example : R (-5) 5 17 (qsearch ex qFuel [0, 1, 2] (-5) 5 3) := by
  have h := qsearch_sound_of_live ex qFuel [0, 1, 2] (-5) 5 3 (by decide) ex_qlive
  rwa [show refQ ex qFuel [0, 1, 2] 3 = 17 by decide +kernel] at h

/-- the hypothesis of `depth1_sound` holds at `[3, 1]` -/
theorem ex_d1live : ∀ m ∈ ex.unchecked [3, 1], QTame ex qFuel (ex.push [3, 1] m) (2 + 1) :=
  fun m hm => ((liveB_iff ex 1 [3, 1] 2).1 (by decide +kernel) m hm).tame

/-- `depth1_sound` observed: the value is 8; `(-5, 5)` fails high with `5`, `(-50, 50)` is exact,
`(10, 12)` fails low with a value between `v` and `α` -/
example : refD1 ex [3, 1] 2 = 8 ∧ depth1 ex [3, 1] (-5) 5 2 = 5 ∧ depth1 ex [3, 1] (-50) 50 2 = 8 ∧
    depth1 ex [3, 1] 10 12 2 = 10 := by
  decide +kernel

example : R (-5) 5 8 (depth1 ex [3, 1] (-5) 5 2) := by
  have h := depth1_sound ex [3, 1] (-5) 5 2 (by decide) ex_d1live
  rwa [show refD1 ex [3, 1] 2 = 8 by decide +kernel] at h

/-- Checker and value are evaluated in one go: the kernel then computes the values of the subtrees,
which both need, once. -/
theorem ex_live3B : liveB ex 3 [] 0 = true ∧ refNode ex 3 [] 0 = 3 := by decide +kernel

/-- the hypothesis of `node_sound` holds at the root of the example, three plies deep -/
theorem ex_live3 : Live ex 3 [] 0 := (liveB_iff _ _ _ _).1 ex_live3B.1

theorem ex_ref3 : refNode ex 3 [] 0 = 3 := ex_live3B.2

/-- `node_sound` observed (the state, with its hash table, is not evaluated by the kernel; the
theorem provides the result): the value is 3 and the window `(-50, 50)` returns it -/
example : ∃ st', node ex (fun _ => true) 3 [] (-50) 50 0 st0 = some (3, st') := by
  have h := node_exact ex 3 [] (-50) 50 0 st0 (by decide) (by decide) rfl ex_live3.tame
    (by rw [ex_ref3]; decide) (by rw [ex_ref3]; decide)
  rwa [ex_ref3] at h

/-- a window above the value: the result is between the value `3` and `α = 6` -/
example : ∃ r st', node ex (fun _ => true) 3 [] 6 9 0 st0 = some (r, st') ∧ 3 ≤ r ∧ r ≤ 6 := by
  obtain ⟨r, st', h, _, hR⟩ :=
    node_sound ex 3 [] 6 9 0 st0 (by decide) (by decide) (by decide) rfl ex_live3.tame
  rw [ex_ref3] at hR
  exact ⟨r, st', h, hR.1 (by decide)⟩

-- the compiled evaluator agrees (this is an observation, not a proof)
#guard (node ex (fun _ => true) 3 [] (-50) 50 0 st0).map (·.1) == some 3
#guard (node ex (fun _ => true) 3 [] 6 9 0 st0).map (·.1) == some 6
#guard (node ex (fun _ => true) 3 [] (-3) 4 0 st0).map (·.1) == some 3

theorem ex_rootB :
    rootInRangeB ex 4 [] = true ∧ refRoot ex 4 [] = 10 ∧ rootMoves ex [] = [0, 4, 2, 3] := by
  decide +kernel

/-- the hypotheses of `root_exact` hold for the example at depth 4 -/
theorem ex_root : RootInRange ex 4 [] := rootInRangeB_sound _ _ _ ex_rootB.1

theorem ex_refRoot : refRoot ex 4 [] = 10 ∧ rootMoves ex [] = [0, 4, 2, 3] := ex_rootB.2

/-- `root_exact` observed: the engine's score at depth 4 is the negamax value 10 -/
example : ∃ bm st', rootSearch ex (fun _ => true) [] 4 st0 = some ((bm, 10, false), st') := by
  obtain ⟨bm, st', h, _⟩ := root_exact ex [] 4 st0 (by decide) rfl
    (by intro e he; simp [st0] at he) ex_root
  rw [ex_refRoot.1] at h
  exact ⟨bm, st', h⟩

#guard (rootSearch ex (fun _ => true) [] 4 st0).map (·.1) == some (some 2, 10, false)

/-- Why quiescence needs its hypothesis: a position without moves, not in check (value 0), whose
static evaluation 10 is above `β = 5`. The engine stands pat before it looks at the moves and
returns 5 although the value 0 is inside the window `(-5, 5)`. -/
def dead : Ops Unit Nat where
  checked _ := []
  unchecked _ := []
  push g _ := g
  eval _ := 10
  safe _ := true
  hash _ := 0
  tactical _ := true
  histIdx _ := none
  orderKey _ _ := 0
  repetition _ := none

example : refQ dead 1 () 0 = 0 ∧ qsearch dead 1 () (-5) 5 0 = 5 ∧ ¬ R (-5) 5 0 5 := by
  refine ⟨by decide, by decide, ?_⟩
  unfold R; omega

/-- Why `node_sound` needs `scoreMin ≤ α` (and `Tame` needs the children's values in range): five
moves whose values `-40000, -39900, …, -39600` all lie below `scoreMin = best_score₀`. After the
three full-window moves `alpha = -39800 < best_score = scoreMin`; the null-window probes of the
last two moves return `test ≤ best_score`, are not re-searched, and the node returns `-39800`
although its value `-39600` is inside the window. (Observation by the compiled evaluator: the
kernel does not evaluate the hash table in the state.) Within the 16-bit range of the engine this
cannot happen. -/
def low : Ops (List Nat) Nat where
  checked g := if g = [] then [0, 1, 2, 3, 4] else [0]
  unchecked _ := [0]
  push g m := g ++ [m]
  eval g := -40000 + 100 * (g.headD 0 : Int)
  safe _ := true
  hash _ := 0
  tactical _ := false
  histIdx _ := none
  orderKey m _ := m
  repetition _ := none

example : refNode low 2 [] 0 = -39600 := by decide +kernel
#guard (node low (fun _ => true) 2 [] (-50000) (-100) 0 st0).map (·.1) == some (-39800)

end Example

end Chess.Search

open Chess.Search in
#print axioms qsearch_sound
open Chess.Search in
#print axioms depth1_sound
open Chess.Search in
#print axioms node_sound
open Chess.Search in
#print axioms root_exact
open Chess.Search in
#print axioms root_order_independent
open Chess.Search in
#print axioms root_reordered
open Chess.Search in
#print axioms refRoot_reordered
open Chess.Search in
#print axioms refNode_reordered
open Chess.Search in
#print axioms refRoot_perm
open Chess.Search in
#print axioms Example.ex_root
