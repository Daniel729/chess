import Chess.Spec.Negamax

/-!
# Alpha-beta soundness: relations, tree predicates, quiescence and depth 1

The relation carried through the induction is `Btw α β v r`: the returned value `r` lies between
`min v β` and `max v α`. For a proper window `α < β` this is exactly "`r` lies between `v` and the
clamp of `v` into `[α, β]`" (`R`, see `R_iff_Btw`), but `Btw` makes sense, and is inductive, for
*every* pair `α β`. That matters: the re-search of `nodeLoop` is called with the window
`(-β, -test)`, which is empty or inverted whenever the null-window probe returned `test ≥ β`.

`qsearch` tests the stand-pat cut-off *before* the no-move rule, so a quiescence node without moves
returns `β` when `eval ≥ β` and its no-move value otherwise. The tree hypothesis `QTame`
(`eval ≤ deadValue` at such nodes) excludes this. For chess that hypothesis fails at the nodes
reached by capturing a king (unchecked move lists below depth 2): there the side to move has no
king, the generator returns no moves, and both the static evaluation and the no-move value are
hopeless for the side to move: `eval ≤ -K` and `deadValue ≤ -K` for a large `K`. Under the weaker
hypothesis `QTameK K` (at a dead quiescence node either the old condition, or both `eval` and
`deadValue` are `≤ -K`) the search is still exact *after clamping into `[-K, K]`*, and the relation
is

`BtwK K α β v r := (min v β ≤ r ∨ (K ≤ v ∧ K ≤ r)) ∧ (r ≤ max v α ∨ (v ≤ -K ∧ r ≤ -K))`,

i.e. `Btw α β v r` where the lower bound may fail only if both values are `≥ K` and the upper bound
only if both are `≤ -K`. It is closed under negation and inductive for every window (also empty or
inverted ones). The running `alpha` of a move loop is related to the true running maximum `T` by
`NearK K T alpha` (the same with the degenerate window).

Everything is proved for `BtwK`; with `K` beyond the reference value `BtwK K` is `Btw`
(`Btw_iff_forall_BtwK`), and a `QTame` tree is `QTameK K` for every `K`.
-/
namespace Chess.Search

/-- `r` lies between `v` and the clamp of `v` into `[α, β]` -/
def R (α β v r : Int) : Prop :=
  (v ≤ α → v ≤ r ∧ r ≤ α) ∧ (α < v → v < β → r = v) ∧ (β ≤ v → β ≤ r ∧ r ≤ v)

/-- the same without any assumption on the window -/
def Btw (α β v r : Int) : Prop := min v β ≤ r ∧ r ≤ max v α

theorem R_iff_Btw {α β : Int} (h : α < β) (v r : Int) : R α β v r ↔ Btw α β v r := by
  unfold R Btw; omega

/-- clamp into `[-K, K]` -/
def clampK (K x : Int) : Int := max (-K) (min K x)

/-- `Btw α β v r`, except that `r` may be too low if both `v` and `r` are `≥ K` and too high if both
are `≤ -K` -/
def BtwK (K α β v r : Int) : Prop :=
  (min v β ≤ r ∨ (K ≤ v ∧ K ≤ r)) ∧ (r ≤ max v α ∨ (v ≤ -K ∧ r ≤ -K))

/-- the running `alpha` of a move loop against the true running maximum `T` -/
def NearK (K T a : Int) : Prop :=
  (T ≤ a ∨ (K ≤ T ∧ K ≤ a)) ∧ (a ≤ T ∨ (T ≤ -K ∧ a ≤ -K))

theorem Btw_iff_forall_BtwK {α β v r : Int} : Btw α β v r ↔ ∀ K, 0 ≤ K → BtwK K α β v r := by
  refine ⟨fun h K _ => ⟨Or.inl h.1, Or.inl h.2⟩, fun h => ?_⟩
  have := h (v.natAbs + 1) (by omega)
  exact ⟨by have := this.1; omega, by have := this.2; omega⟩

theorem BtwK.neg {K α β v r : Int} (h : BtwK K α β v r) : BtwK K (-β) (-α) (-v) (-r) :=
  ⟨by have := h.2; omega, by have := h.1; omega⟩

theorem BtwK.self (K α β v : Int) : BtwK K α β v v := by unfold BtwK; omega

theorem BtwK.weak {K α β v r : Int} (h : BtwK K α β v r) :
    Btw α β v r ∨ (v ≤ -K ∧ r ≤ -K) ∨ (K ≤ v ∧ K ≤ r) := by
  unfold BtwK at h; unfold Btw; omega

/-- a value inside the window is returned exactly, up to clamping -/
theorem BtwK.clamp_eq {K α β v r : Int} (hK : 0 ≤ K) (h : BtwK K α β v r)
    (hv1 : α < v) (hv2 : v < β) : clampK K r = clampK K v := by
  unfold BtwK at h; unfold clampK; omega

theorem BtwK.ge {K α β v r lo : Int} (h : BtwK K α β v r) (hv : lo ≤ v) (hβ : lo ≤ β)
    (hK : lo ≤ K) : lo ≤ r := by
  have := h.1; omega

theorem BtwK.le {K α β v r hi : Int} (h : BtwK K α β v r) (hv : v ≤ hi) (hα : α ≤ hi)
    (hK : -K ≤ hi) : r ≤ hi := by
  have := h.2; omega

/-- a null-window probe that fails low is sound for every window above `α` -/
theorem BtwK.widen {K α β β' v t : Int} (h : BtwK K α β' v t) (ht : t < β') : BtwK K α β v t :=
  ⟨by have := h.1; omega, h.2⟩

/-- A re-search with `α` raised to the result `t` of a probe is sound for the window of the probe:
if `t` is above the value, the probe has shown the value to be at most `α`. -/
theorem BtwK.research {K α β β' v t s : Int} (h : BtwK K α β' v t) (hs : BtwK K t β v s) :
    BtwK K α β v s :=
  ⟨hs.1, by have := h.2; have := hs.2; omega⟩

/-- a node whose moves start from `α`: soundness for the running maximum is soundness for the node -/
theorem BtwK.of_max {K α β v r : Int} (h : BtwK K (max α v) β (max α v) r) : BtwK K α β v r :=
  ⟨by have := h.1; omega, by have := h.2; omega⟩

theorem NearK.self (K a : Int) : NearK K a a := by unfold NearK; omega

theorem NearK.clamp_eq {K T a : Int} (hK : 0 ≤ K) (h : NearK K T a) : clampK K a = clampK K T := by
  unfold NearK at h; unfold clampK; omega

theorem NearK.btw {K T a : Int} (h : NearK K T a) (β : Int) : BtwK K T β T a :=
  ⟨by have := h.1; omega, by have := h.2; omega⟩

/-- one iteration of a move loop, searched with the window `(a, β)`, that does not cut -/
theorem NearK.step {K T a β v s : Int} (h : NearK K T a) (hs : BtwK K a β v s)
    (hcut : max a s < β) : NearK K (max T v) (max a s) := by
  obtain ⟨hl, hu⟩ := h
  obtain ⟨sl, su⟩ := hs
  constructor
  -- each half needs only the like halves of `h` and `hs`; the others are disjunctions that would
  -- make `omega` split cases for nothing
  · clear hu su; omega
  · clear hl sl hcut; omega

/-- one iteration that cuts, returning some `r` between `β` and the new `alpha`: `r` is sound for
every value `V` the remaining moves can lead to -/
theorem NearK.cut {K T a β v s r V : Int} (h : NearK K T a) (hs : BtwK K a β v s)
    (h1 : β ≤ r) (h2 : r ≤ max a s) (hV : max T v ≤ V) : BtwK K V β V r := by
  refine ⟨Or.inl (by omega), ?_⟩
  have hu := h.2
  have su := hs.2
  omega

/-- a value strictly inside `(-K, K)` is determined by its clamp -/
theorem eq_of_clampK_eq {K sc v : Int} (h : clampK K sc = clampK K v) (h1 : -K < v) (h2 : v < K) :
    sc = v := by
  unfold clampK at h; omega

theorem clampK_mono {K a b : Int} (h : a ≤ b) : clampK K a ≤ clampK K b := by
  unfold clampK; omega

theorem clampK_max (K a b : Int) : clampK K (max a b) = max (clampK K a) (clampK K b) := by
  rcases Int.le_total a b with h | h
  · rw [Int.max_eq_right h, Int.max_eq_right (clampK_mono h)]
  · rw [Int.max_eq_left h, Int.max_eq_left (clampK_mono h)]

/-- The search of a value not above `β`, maxed with `α`, is exact up to clamping, because the
clamp of `r` lies between those of `v` and `max v α`. -/
theorem BtwK.clamp_max {K α β v r : Int} (hK : 0 ≤ K) (h : BtwK K α β v r) (hv : v ≤ β) :
    clampK K (max α r) = clampK K (max α v) := by
  have h1 : clampK K v ≤ clampK K r := by have := h.1; unfold clampK; omega
  have h2 : clampK K r ≤ clampK K (max v α) := by have := h.2; unfold clampK; omega
  rw [clampK_max] at h2 ⊢
  rw [clampK_max]
  omega

/-- one iteration of the root's move loop: the best score `a` agrees with the true running maximum
`T` up to clamping, before and after -/
theorem BtwK.root_step {K a T β v s : Int} (hK : 0 ≤ K) (h : BtwK K a β v s)
    (hJ : clampK K a = clampK K T) (hv : v ≤ β) : clampK K (max a s) = clampK K (max T v) :=
  (h.clamp_max hK hv).trans (by rw [clampK_max, clampK_max, hJ])

/-- the re-search after a probe that failed high does not fall below `a`, up to clamping -/
theorem BtwK.clamp_research {K a β β' v t s : Int} (hK : 0 ≤ K) (h : BtwK K a β' v t) (ht : a < t)
    (hs : BtwK K t β v s) (hv : v ≤ β) : clampK K s = clampK K (max a s) := by
  -- the probe shows `t ≤ v` (or both hopeless), the re-search `v ≤ s` (or both beyond `K`)
  have hu := h.2
  have sl := hs.1
  have : a ≤ s ∨ (K ≤ s ∧ K ≤ a) ∨ (s ≤ -K ∧ a ≤ -K) := by omega
  unfold clampK; omega

theorem ite_gt_eq_max (s a : Int) : (if s > a then s else a) = max a s := by
  split <;> omega

/-! ## folds of `max` -/

theorem le_foldl_max (l : List Int) (a : Int) : a ≤ l.foldl max a :=
  ((foldl_max_le_iff l a _).1 (Int.le_refl _)).1

theorem foldl_max_max (l : List Int) (a b : Int) : l.foldl max (max a b) = max a (l.foldl max b) := by
  induction l generalizing b with
  | nil => rfl
  | cons x xs ih =>
    simp only [List.foldl_cons]
    rw [show max (max a b) x = max a (max b x) by omega, ih]

variable {G M : Type}

/-- the running maximum over the moves of a node that has moves, started from `a` -/
theorem foldl_max_eq_max_nodeValue {ms : List M} (h : ms.isEmpty = false) (dead : Int)
    (f : M → Int) (a : Int) : (ms.map f).foldl max a = max a (nodeValue dead f ms) := by
  cases ms with
  | nil => cases h
  | cons x xs => exact foldl_max_max _ _ _

/-! ## tree predicates -/

/-- no node reached inside quiescence is without moves -/
def QLive (o : Ops G M) : Nat → G → Int → Prop
  | 0, _, _ => True
  | fuel + 1, g, rd =>
    (o.unchecked g).isEmpty = false ∧
    ∀ m ∈ o.unchecked g, o.tactical m = true → QLive o fuel (o.push g m) (rd + 1)

/-- weaker than `QLive`: a node without moves reached inside quiescence has a static evaluation not
above its no-move value (so that standing pat cannot beat it) -/
def QTame (o : Ops G M) : Nat → G → Int → Prop
  | 0, _, _ => True
  | fuel + 1, g, rd =>
    ((o.unchecked g).isEmpty = true → o.eval g ≤ deadValue o Gen.mateQ g rd) ∧
    ∀ m ∈ o.unchecked g, o.tactical m = true → QTame o fuel (o.push g m) (rd + 1)

/-- weaker than `QTame`: a node without moves reached inside quiescence either has a static
evaluation not above its no-move value, or both are hopeless (`≤ -K`) for the side to move -/
def QTameK (K : Int) (o : Ops G M) : Nat → G → Int → Prop
  | 0, _, _ => True
  | fuel + 1, g, rd =>
    ((o.unchecked g).isEmpty = true →
      o.eval g ≤ deadValue o Gen.mateQ g rd ∨
      (o.eval g ≤ -K ∧ deadValue o Gen.mateQ g rd ≤ -K)) ∧
    ∀ m ∈ o.unchecked g, o.tactical m = true → QTameK K o fuel (o.push g m) (rd + 1)

theorem QLive.tame {o : Ops G M} {fuel : Nat} {g : G} {rd : Int} (h : QLive o fuel g rd) :
    QTame o fuel g rd := by
  induction fuel generalizing g rd with
  | zero => trivial
  | succ f ih =>
    refine ⟨fun he => ?_, fun m hm ht => ih (h.2 m hm ht)⟩
    rw [h.1] at he; cases he

theorem QTame.tameK (K : Int) {o : Ops G M} {fuel : Nat} {g : G} {rd : Int}
    (h : QTame o fuel g rd) : QTameK K o fuel g rd := by
  induction fuel generalizing g rd with
  | zero => trivial
  | succ f ih => exact ⟨fun he => Or.inl (h.1 he), fun m hm ht => ih (h.2 m hm ht)⟩

/-- a smaller `K` is a weaker hypothesis -/
theorem QTameK.mono {K K' : Int} (hK : K' ≤ K) {o : Ops G M} {fuel : Nat} {g : G} {rd : Int}
    (h : QTameK K o fuel g rd) : QTameK K' o fuel g rd := by
  induction fuel generalizing g rd with
  | zero => trivial
  | succ f ih =>
    refine ⟨fun he => ?_, fun m hm ht => ih (h.2 m hm ht)⟩
    have := h.1 he
    omega

/-- What the soundness of an interior node needs of the tree below it: the quiescence leaves are
`QTame`, and no child of an interior node has a reference value above `-scoreMin` (i.e. no move
scores below `scoreMin`, the initial `best_score`). -/
def Tame (o : Ops G M) : Nat → G → Int → Prop
  | 0, g, rd => QTame o qFuel g rd
  | 1, g, rd => ∀ m ∈ o.unchecked g, QTame o qFuel (o.push g m) (rd + 1)
  | r + 2, g, rd =>
    ∀ m ∈ o.checked g,
      Tame o (r + 1) (o.push g m) (rd + 1) ∧ refNode o (r + 1) (o.push g m) (rd + 1) ≤ -scoreMin

/-- `Tame` with `QTameK` at the quiescence leaves -/
def TameK (K : Int) (o : Ops G M) : Nat → G → Int → Prop
  | 0, g, rd => QTameK K o qFuel g rd
  | 1, g, rd => ∀ m ∈ o.unchecked g, QTameK K o qFuel (o.push g m) (rd + 1)
  | r + 2, g, rd =>
    ∀ m ∈ o.checked g,
      TameK K o (r + 1) (o.push g m) (rd + 1) ∧ refNode o (r + 1) (o.push g m) (rd + 1) ≤ -scoreMin

/-- the strict form: quiescence is `QLive`, and every child value below an interior node lies in
the 16-bit range `[scoreMin + 1, scoreMax]` of the engine -/
def Live (o : Ops G M) : Nat → G → Int → Prop
  | 0, g, rd => QLive o qFuel g rd
  | 1, g, rd => ∀ m ∈ o.unchecked g, QLive o qFuel (o.push g m) (rd + 1)
  | r + 2, g, rd =>
    ∀ m ∈ o.checked g,
      Live o (r + 1) (o.push g m) (rd + 1) ∧
      scoreMin + 1 ≤ refNode o (r + 1) (o.push g m) (rd + 1) ∧
      refNode o (r + 1) (o.push g m) (rd + 1) ≤ scoreMax

theorem Live.tame {o : Ops G M} {remaining : Nat} {g : G} {rd : Int} (h : Live o remaining g rd) :
    Tame o remaining g rd := by
  induction remaining using Nat.strongRecOn generalizing g rd with
  | _ n ih =>
    match n with
    | 0 => exact QLive.tame h
    | 1 => exact fun m hm => QLive.tame (h m hm)
    | r + 2 =>
      intro m hm
      have := h m hm
      refine ⟨ih (r + 1) (by omega) this.1, ?_⟩
      have h2 := this.2.2
      simp only [scoreMax, scoreMin] at *
      omega

theorem Tame.tameK (K : Int) {o : Ops G M} {remaining : Nat} {g : G} {rd : Int}
    (h : Tame o remaining g rd) : TameK K o remaining g rd := by
  induction remaining using Nat.strongRecOn generalizing g rd with
  | _ n ih =>
    match n with
    | 0 => exact QTame.tameK K h
    | 1 => exact fun m hm => QTame.tameK K (h m hm)
    | r + 2 => exact fun m hm => ⟨ih (r + 1) (by omega) (h m hm).1, (h m hm).2⟩

/-! ## quiescence -/

theorem eval_le_refQK (K : Int) (o : Ops G M) {fuel : Nat} {g : G} {rd : Int}
    (h : QTameK K o fuel g rd) :
    o.eval g ≤ refQ o fuel g rd ∨ (o.eval g ≤ -K ∧ refQ o fuel g rd ≤ -K) := by
  cases fuel with
  | zero => exact Or.inl (Int.le_refl _)
  | succ f =>
    simp only [refQ]
    split
    · next he => exact h.1 he
    · exact Or.inl (le_foldl_max _ _)

theorem qLoop_specK (K : Int) (o : Ops G M) (child : G → Int → Int → Int → Int) (cv : M → Int)
    (g : G) (β rd : Int) (ms : List M)
    (hc : ∀ m ∈ ms, o.tactical m = true →
      ∀ a b, BtwK K a b (cv m) (child (o.push g m) a b (rd + 1)))
    (alpha T : Int) (h : alpha < β) (hJ : NearK K T alpha) :
    BtwK K (((ms.filter o.tactical).map fun m => -(cv m)).foldl max T) β
      (((ms.filter o.tactical).map fun m => -(cv m)).foldl max T)
      (qLoop o child g β rd ms alpha) := by
  induction ms generalizing alpha T with
  | nil => exact hJ.btw β
  | cons m ms ih =>
    have ih' := ih (fun m' hm' => hc m' (List.mem_cons_of_mem _ hm'))
    cases ht : o.tactical m with
    | false =>
      simp only [qLoop, ht, Bool.not_false, if_true, List.filter_cons, Bool.false_eq_true, if_false]
      exact ih' _ _ h hJ
    | true =>
      have hb := (hc m List.mem_cons_self ht (-β) (-alpha)).neg
      simp only [Int.neg_neg] at hb
      simp only [qLoop, ht, Bool.not_true, Bool.false_eq_true, if_false, List.filter_cons,
        if_true, List.map_cons, List.foldl_cons, ite_gt_eq_max]
      by_cases hcut : max alpha (-(child (o.push g m) (-β) (-alpha) (rd + 1))) ≥ β
      · rw [if_pos hcut]
        -- the cut returns `β` (fail-hard)
        exact hJ.cut hb (Int.le_refl _) hcut (le_foldl_max _ _)
      · rw [if_neg hcut]
        exact ih' _ _ (by omega) (hJ.step hb (by omega))

/-- `qsearch` against the reference, for every window -/
theorem qsearch_btwK (K : Int) (o : Ops G M) (fuel : Nat) (g : G) (α β rd : Int)
    (h : QTameK K o fuel g rd) :
    BtwK K α β (refQ o fuel g rd) (qsearch o fuel g α β rd) := by
  induction fuel generalizing g α β rd with
  | zero => simp only [qsearch, refQ, BtwK]; omega
  | succ f ih =>
    have hev := eval_le_refQK K o h
    unfold qsearch
    simp only []
    by_cases hsp : max α (o.eval g) ≥ β
    · rw [if_pos hsp]; unfold BtwK; omega
    · rw [if_neg hsp]
      cases he : (o.unchecked g).isEmpty with
      | true =>
        simp only [if_true, refQ, he, deadValue]
        exact BtwK.self _ _ _ _
      | false =>
        have hq := qLoop_specK K o (qsearch o f) (fun m => refQ o f (o.push g m) (rd + 1)) g β rd
          (o.unchecked g) (fun m hm ht a b => ih _ _ _ _ (h.2 m hm ht)) (max α (o.eval g))
          (max α (o.eval g)) (by omega) (NearK.self _ _)
        simp only [Bool.false_eq_true, if_false, refQ, he] at hq ⊢
        rw [foldl_max_max] at hq
        exact hq.of_max

/-! ## depth 1 -/

theorem d1Loop_specK (K : Int) (o : Ops G M) (g : G) (β rd : Int) (ms : List M)
    (hc : ∀ m ∈ ms, QTameK K o qFuel (o.push g m) (rd + 1)) (alpha T : Int)
    (hJ : NearK K T alpha) :
    BtwK K ((ms.map (d1Score o g rd)).foldl max T) β ((ms.map (d1Score o g rd)).foldl max T)
      (d1Loop o g β rd ms alpha) := by
  induction ms generalizing alpha T with
  | nil => exact hJ.btw β
  | cons m ms ih =>
    have hb := (qsearch_btwK K o qFuel (o.push g m) (-β) (-alpha) (rd + 1)
      (hc m List.mem_cons_self)).neg
    simp only [Int.neg_neg] at hb
    simp only [d1Loop, List.map_cons, List.foldl_cons, ite_gt_eq_max]
    by_cases hcut : max alpha (-(qsearch o qFuel (o.push g m) (-β) (-alpha) (rd + 1))) ≥ β
    · rw [if_pos hcut]
      -- the cut returns the new `alpha` (fail-soft)
      exact hJ.cut hb hcut (Int.le_refl _) (le_foldl_max _ _)
    · rw [if_neg hcut]
      exact ih (fun m' hm' => hc m' (List.mem_cons_of_mem _ hm')) _ _ (hJ.step hb (by omega))

/-- `depth1` against the reference, for every window -/
theorem depth1_btwK (K : Int) (o : Ops G M) (g : G) (α β rd : Int)
    (h : ∀ m ∈ o.unchecked g, QTameK K o qFuel (o.push g m) (rd + 1)) :
    BtwK K α β (refD1 o g rd) (depth1 o g α β rd) := by
  rw [refD1_eq]
  unfold depth1
  cases he : (o.unchecked g).isEmpty with
  | true =>
    simp only [if_true, nodeValue, he, deadValue]
    exact BtwK.self _ _ _ _
  | false =>
    have := d1Loop_specK K o g β rd (o.unchecked g) h α α (NearK.self _ _)
    rw [foldl_max_eq_max_nodeValue he (deadValue o Gen.mateD1 g rd)] at this
    simp only [he, Bool.false_eq_true, if_false]
    exact this.of_max

end Chess.Search
