import Chess.Lemmas.AlphaBeta

/-!
# C09, clamped: alpha-beta is exact up to clamping when dead quiescence nodes are hopeless

The root theorems under the hypothesis `RootInRangeK K`, made for chess trees (see
`AlphaBetaAux.lean` for the relation `BtwK` behind them; that a chess tree meets it is not proved
but tested per tree), its Boolean checker, and a tree on which the unclamped hypothesis fails.
-/
namespace Chess.Search

variable {G M : Type} [DecidableEq M]

/-- What `root_exact_clamped` needs of the tree: below every root move the tree is `TameK K`, and
every root move scores in `[scoreMin, scoreMax]`. (`RootInRange` has no lower bound. Here the
re-search of `rootLoop` overwrites `best_score`, and a deviating result must not leave the range in
which `node` is sound; it is the condition `Tame` puts on the children of an interior node.) -/
def RootInRangeK (K : Int) (o : Ops G M) (depth : Nat) (g : G) : Prop :=
  ∀ m ∈ rootMoves o g, TameK K o (depth - 1) (o.push g m) 1 ∧
    scoreMin ≤ rootScore o depth g m ∧ rootScore o depth g m ≤ scoreMax

theorem RootInRange.toK (K : Int) {o : Ops G M} {depth : Nat} {g : G} (h : RootInRange o depth g)
    (hlo : ∀ m ∈ rootMoves o g, scoreMin ≤ rootScore o depth g m) : RootInRangeK K o depth g :=
  fun m hm => ⟨(h m hm).1.tameK K, hlo m hm, (h m hm).2⟩

/-- **The root is exact up to clamping.** With table look-ups disabled, a flag that stays up, no
usable root entry and not exactly one legal move, `rootSearch` answers, and the score it returns
agrees with the plain negamax value `refRoot` after clamping both into `[-K, K]`, whatever the move
ordering (history, killers, `orderKey`, table move). -/
theorem root_exact_clamped (K : Int) (hK : 0 ≤ K) (o : Ops G M) (g : G) (depth : Nat) (st : St M)
    (hlen : (o.checked g).length ≠ 1) (ht : st.ttOff = true)
    (hmiss : ∀ e, st.tt[o.hash g]? = some e → ¬(e.depth ≥ depth ∧ e.flag = Flag.exact))
    (hT : RootInRangeK K o depth g) :
    ∃ bm sc st', rootSearch o (fun _ => true) g depth st = some ((bm, sc, false), st') ∧
      st'.ttOff = true ∧ clampK K sc = clampK K (refRoot o depth g) :=
  rootSearch_clamped K hK o g depth st hlen ht hmiss fun m hm =>
    ⟨(hT m hm).1, fun _ => (hT m hm).2.1, (hT m hm).2.2⟩

/-- If the negamax value lies strictly inside `(-K, K)`, the engine returns it exactly. -/
theorem root_exact_of_inside (K : Int) (hK : 0 ≤ K) (o : Ops G M) (g : G) (depth : Nat) (st : St M)
    (hlen : (o.checked g).length ≠ 1) (ht : st.ttOff = true)
    (hmiss : ∀ e, st.tt[o.hash g]? = some e → ¬(e.depth ≥ depth ∧ e.flag = Flag.exact))
    (hT : RootInRangeK K o depth g)
    (h1 : -K < refRoot o depth g) (h2 : refRoot o depth g < K) :
    ∃ bm st', rootSearch o (fun _ => true) g depth st = some ((bm, refRoot o depth g, false), st') ∧
      st'.ttOff = true := by
  obtain ⟨bm, sc, st', h, ht', hc⟩ := root_exact_clamped K hK o g depth st hlen ht hmiss hT
  rw [eq_of_clampK_eq hc h1 h2] at h
  exact ⟨bm, st', h, ht'⟩

/-- the converse reading: a returned score strictly inside `(-K, K)` is the negamax value -/
theorem root_exact_of_score_inside (K : Int) (hK : 0 ≤ K) (o : Ops G M) (g : G) (depth : Nat)
    (st st' : St M) (bm : Option M) (sc : Int) (flag : Bool)
    (hlen : (o.checked g).length ≠ 1) (ht : st.ttOff = true)
    (hmiss : ∀ e, st.tt[o.hash g]? = some e → ¬(e.depth ≥ depth ∧ e.flag = Flag.exact))
    (hT : RootInRangeK K o depth g)
    (hr : rootSearch o (fun _ => true) g depth st = some ((bm, sc, flag), st'))
    (h1 : -K < sc) (h2 : sc < K) : sc = refRoot o depth g := by
  obtain ⟨bm1, sc1, st1, h, _, hc⟩ := root_exact_clamped K hK o g depth st hlen ht hmiss hT
  rw [hr] at h
  cases h
  exact (eq_of_clampK_eq hc.symm h1 h2).symm

/-- **Ordering never changes the clamped result**: two searches of the same position that differ in
everything that only orders moves (history, killers, table contents, poll count) return scores that
agree after clamping. -/
theorem root_order_independent_clamped (K : Int) (hK : 0 ≤ K) (o : Ops G M) (g : G) (depth : Nat)
    (st₁ st₂ : St M)
    (hlen : (o.checked g).length ≠ 1) (ht₁ : st₁.ttOff = true) (ht₂ : st₂.ttOff = true)
    (hmiss₁ : ∀ e, st₁.tt[o.hash g]? = some e → ¬(e.depth ≥ depth ∧ e.flag = Flag.exact))
    (hmiss₂ : ∀ e, st₂.tt[o.hash g]? = some e → ¬(e.depth ≥ depth ∧ e.flag = Flag.exact))
    (hT : RootInRangeK K o depth g) :
    ∃ bm₁ bm₂ s₁ s₂ st₁' st₂',
      rootSearch o (fun _ => true) g depth st₁ = some ((bm₁, s₁, false), st₁') ∧
      rootSearch o (fun _ => true) g depth st₂ = some ((bm₂, s₂, false), st₂') ∧
      clampK K s₁ = clampK K s₂ := by
  obtain ⟨bm₁, s₁, st₁', h₁, _, c₁⟩ := root_exact_clamped K hK o g depth st₁ hlen ht₁ hmiss₁ hT
  obtain ⟨bm₂, s₂, st₂', h₂, _, c₂⟩ := root_exact_clamped K hK o g depth st₂ hlen ht₂ hmiss₂ hT
  exact ⟨bm₁, bm₂, s₁, s₂, st₁', st₂', h₁, h₂, c₁.trans c₂.symm⟩

/-! ## Reordering the move generators -/

omit [DecidableEq M] in
theorem QTameK.reordered {K : Int} {o o' : Ops G M} (h : Reordered o o') {fuel : Nat} {g : G}
    {rd : Int} : QTameK K o' fuel g rd ↔ QTameK K o fuel g rd := by
  induction fuel generalizing g rd with
  | zero => exact Iff.rfl
  | succ f ih =>
    simp only [QTameK, h.eval, h.push, h.tactical, deadValue_reordered h,
      ← (h.unchecked g).isEmpty_eq, ← (h.unchecked g).mem_iff, ih]

omit [DecidableEq M] in
theorem TameK.reordered {K : Int} {o o' : Ops G M} (h : Reordered o o') {remaining : Nat} {g : G}
    {rd : Int} : TameK K o' remaining g rd ↔ TameK K o remaining g rd := by
  induction remaining using Nat.strongRecOn generalizing g rd with
  | _ n ih =>
    match n with
    | 0 => exact QTameK.reordered h
    | 1 => simp only [TameK, h.push, ← (h.unchecked g).mem_iff, QTameK.reordered h]
    | r + 2 =>
      simp only [TameK, h.push, ← (h.checked g).mem_iff, refNode_reordered h,
        ih (r + 1) (by omega)]

theorem RootInRangeK.reordered {K : Int} {o o' : Ops G M} (h : Reordered o o')
    (hrep : o'.repetition = o.repetition) {depth : Nat} {g : G} :
    RootInRangeK K o' depth g ↔ RootInRangeK K o depth g := by
  simp only [RootInRangeK, rootScore, h.push, ← (rootMoves_reordered h hrep g).mem_iff,
    refNode_reordered h, TameK.reordered h]

/-- **Neither pruning nor any ordering changes the clamped result.** Let `o'` be the game `o` with
the move lists of every position generated in another order, and with *any* other hash, history
index and ordering key; let the two searches start from arbitrary (table-off) states. Then both
answer, and both scores agree with the plain negamax value of `o` after clamping. -/
theorem root_reordered_clamped (K : Int) (hK : 0 ≤ K) {o o' : Ops G M} (h : Reordered o o')
    (hrep : o'.repetition = o.repetition)
    (g : G) (depth : Nat) (st st' : St M)
    (hlen : (o.checked g).length ≠ 1) (ht : st.ttOff = true) (ht' : st'.ttOff = true)
    (hmiss : ∀ e, st.tt[o.hash g]? = some e → ¬(e.depth ≥ depth ∧ e.flag = Flag.exact))
    (hmiss' : ∀ e, st'.tt[o'.hash g]? = some e → ¬(e.depth ≥ depth ∧ e.flag = Flag.exact))
    (hT : RootInRangeK K o depth g) :
    ∃ bm bm' sc sc' s s',
      rootSearch o (fun _ => true) g depth st = some ((bm, sc, false), s) ∧
      rootSearch o' (fun _ => true) g depth st' = some ((bm', sc', false), s') ∧
      clampK K sc = clampK K (refRoot o depth g) ∧ clampK K sc' = clampK K (refRoot o depth g) := by
  obtain ⟨bm, sc, s, h₁, _, c₁⟩ := root_exact_clamped K hK o g depth st hlen ht hmiss hT
  obtain ⟨bm', sc', s', h₂, _, c₂⟩ := root_exact_clamped K hK o' g depth st'
    (by rw [← (h.checked g).length_eq]; exact hlen) ht' hmiss' ((RootInRangeK.reordered h hrep).2 hT)
  rw [refRoot_reordered h hrep] at c₂
  exact ⟨bm, bm', sc, sc', s, s', h₁, h₂, c₁, c₂⟩

/-! ## Boolean checkers for the tree predicates (run on concrete trees) -/

omit [DecidableEq M] in
def qtameKB (K : Int) (o : Ops G M) : Nat → G → Int → Bool
  | 0, _, _ => true
  | fuel + 1, g, rd =>
    (!(o.unchecked g).isEmpty ||
      decide (o.eval g ≤ deadValue o Gen.mateQ g rd) ||
      (decide (o.eval g ≤ -K) && decide (deadValue o Gen.mateQ g rd ≤ -K))) &&
    (o.unchecked g).all fun m => !o.tactical m || qtameKB K o fuel (o.push g m) (rd + 1)

omit [DecidableEq M] in
theorem qtameKB_iff (K : Int) (o : Ops G M) (fuel : Nat) (g : G) (rd : Int) :
    qtameKB K o fuel g rd = true ↔ QTameK K o fuel g rd := by
  induction fuel generalizing g rd with
  | zero => simp only [qtameKB, QTameK]
  | succ f ih =>
    simp only [qtameKB, QTameK, Bool.and_eq_true, Bool.or_eq_true, Bool.not_eq_true',
      List.all_eq_true, decide_eq_true_eq, ih, Decidable.imp_iff_not_or, Bool.not_eq_true, or_assoc]

omit [DecidableEq M] in
def tameKB (K : Int) (o : Ops G M) : Nat → G → Int → Bool
  | 0, g, rd => qtameKB K o qFuel g rd
  | 1, g, rd => (o.unchecked g).all fun m => qtameKB K o qFuel (o.push g m) (rd + 1)
  | r + 2, g, rd =>
    (o.checked g).all fun m =>
      tameKB K o (r + 1) (o.push g m) (rd + 1) &&
      decide (refNode o (r + 1) (o.push g m) (rd + 1) ≤ -scoreMin)

omit [DecidableEq M] in
theorem tameKB_iff (K : Int) (o : Ops G M) (remaining : Nat) (g : G) (rd : Int) :
    tameKB K o remaining g rd = true ↔ TameK K o remaining g rd := by
  induction remaining using Nat.strongRecOn generalizing g rd with
  | _ n ih =>
    match n with
    | 0 => exact qtameKB_iff K o _ _ _
    | 1 => simp only [tameKB, TameK, List.all_eq_true, qtameKB_iff]
    | r + 2 =>
      simp only [tameKB, TameK, List.all_eq_true, Bool.and_eq_true, decide_eq_true_eq,
        ih (r + 1) (by omega)]

/-- the executable form of `RootInRangeK` -/
def rootInRangeKB (K : Int) (o : Ops G M) (depth : Nat) (g : G) : Bool :=
  (rootMoves o g).all fun m =>
    tameKB K o (depth - 1) (o.push g m) 1 &&
    decide (scoreMin ≤ rootScore o depth g m) && decide (rootScore o depth g m ≤ scoreMax)

theorem rootInRangeKB_sound (K : Int) (o : Ops G M) (depth : Nat) (g : G)
    (h : rootInRangeKB K o depth g = true) : RootInRangeK K o depth g := by
  simp only [rootInRangeKB, List.all_eq_true, Bool.and_eq_true, decide_eq_true_eq] at h
  exact fun m hm => ⟨(tameKB_iff K o _ _ _).1 (h m hm).1.1, (h m hm).1.2, (h m hm).2⟩

/-! ## Non-vacuity: the example tree of `AlphaBeta.lean` with king-capture-style dead nodes

`exK` is `Example.ex` except that a position reached by the moves `…, 1, 2` at plies 4 and 5 (inside
quiescence: "move 1 leaves the king en prise, move 2 captures it") has no moves, is not `safe`, and
evaluates to `-20000` for the side to move. Its no-move value is `scoreMin + mateQ + rd = -29763`,
so `eval > deadValue`: `QTame` fails there, `RootInRange` fails for the tree, but with `K = 1000`
both numbers are `≤ -K` and `RootInRangeK 1000` holds. -/
namespace ExampleK

open Example

def kDead (g : List Nat) : Bool := g.length == 5 && g.drop 3 == [1, 2]

def exK : Ops (List Nat) Nat :=
  { ex with
    unchecked := fun g => if kDead g then [] else ex.unchecked g
    eval := fun g => if kDead g then -20000 else exEval g
    safe := fun g => !kDead g }

/-- the dead node: stand pat `-20000` is above the no-move value `-29763` -/
theorem exK_dead : exK.unchecked [0, 0, 0, 1, 2] = [] ∧ exK.eval [0, 0, 0, 1, 2] = -20000 ∧
    deadValue exK Gen.mateQ [0, 0, 0, 1, 2] 5 = -29763 := by decide +kernel

theorem exK_dead_not_qtame (f : Nat) : ¬ QTame exK (f + 1) [0, 0, 0, 1, 2] 5 := fun h =>
  absurd (h.1 (by decide +kernel)) (by decide +kernel)

/-- `QTame` fails at the dead node … -/
theorem exK_not_qtame : ¬ QTame exK qFuel [0, 0, 0, 1, 2] 5 := exK_dead_not_qtame 99

/-- … hence the hypothesis of `root_exact` fails for the tree (its checker returns `false` too,
`exK_rootInRangeB`; the checker being sound only, that alone would prove nothing) … -/
theorem exK_not_rootInRange : ¬ RootInRange exK 4 [] := fun h =>
  have h3 : Tame exK 3 [0] 1 := (h 0 (by decide +kernel)).1
  have h2 : Tame exK 2 [0, 0] 2 := (h3 0 (by decide +kernel)).1
  have h1 : Tame exK 1 [0, 0, 0] 3 := (h2 0 (by decide +kernel)).1
  have h0 : QTame exK qFuel [0, 0, 0, 1] 4 := h1 1 (by decide +kernel)
  exK_dead_not_qtame 98 (h0.2 2 (by decide +kernel) (by decide +kernel))

theorem exK_rootInRangeB : rootInRangeB exK 4 [] = false := by decide +kernel

theorem exK_rootB : rootInRangeKB 1000 exK 4 [] = true ∧ refRoot exK 4 [] = 10 := by
  decide +kernel

/-- … while the hypothesis of `root_exact_clamped` holds, by the Boolean checker -/
theorem exK_root : RootInRangeK 1000 exK 4 [] := rootInRangeKB_sound _ _ _ _ exK_rootB.1

/-- The raw values differ. At the dead node the window `(-26000, -25000)` lies below the stand-pat
value: `qsearch` returns `β = -25000` although the value `-29763` is below `α`. One ply up, at
`[0, 0, 0, 1]` (value `29763`, the king can be taken), the window `(25000, 26000)` fails *low* with
`25000` although the value is above `β`: not `Btw`, but `BtwK 1000`, and equal after clamping. -/
theorem exK_deviation :
    refQ exK 99 [0, 0, 0, 1, 2] 5 = -29763 ∧
    qsearch exK 99 [0, 0, 0, 1, 2] (-26000) (-25000) 5 = -25000 ∧
    refQ exK qFuel [0, 0, 0, 1] 4 = 29763 ∧
    qsearch exK qFuel [0, 0, 0, 1] 25000 26000 4 = 25000 ∧
    ¬ Btw 25000 26000 29763 25000 ∧
    clampK 1000 (qsearch exK qFuel [0, 0, 0, 1] 25000 26000 4) =
      clampK 1000 (refQ exK qFuel [0, 0, 0, 1] 4) := by
  refine ⟨by decide +kernel, by decide +kernel, by decide +kernel, by decide +kernel, ?_,
    by decide +kernel⟩
  unfold Btw; omega

/-- `qsearch_btwK` observed at that node -/
example : BtwK 1000 25000 26000 29763 (qsearch exK qFuel [0, 0, 0, 1] 25000 26000 4) := by
  have h := qsearch_btwK 1000 exK qFuel [0, 0, 0, 1] 25000 26000 4
    ((qtameKB_iff _ _ _ _ _).1 (by decide +kernel))
  rwa [exK_deviation.2.2.1] at h

theorem exK_refRoot : refRoot exK 4 [] = 10 := exK_rootB.2

/-- `root_exact_clamped` / `root_exact_of_inside` observed: the value `10` lies inside `(-1000, 1000)`,
so the engine's score at depth 4 is exactly the negamax value -/
example : ∃ bm st', rootSearch exK (fun _ => true) [] 4 st0 = some ((bm, 10, false), st') := by
  obtain ⟨bm, st', h, _⟩ := root_exact_of_inside 1000 (by decide) exK [] 4 st0 (by decide) rfl
    (by intro e he; simp [st0] at he) exK_root (by rw [exK_refRoot]; decide)
    (by rw [exK_refRoot]; decide)
  rw [exK_refRoot] at h
  exact ⟨bm, st', h⟩

-- the compiled evaluator agrees (an observation, not a proof)
#guard (rootSearch exK (fun _ => true) [] 4 st0).map (·.1) == some (some 2, 10, false)
#guard rootInRangeKB 1000 exK 4 [] && !rootInRangeB exK 4 []

end ExampleK

end Chess.Search

open Chess.Search in
#print axioms root_exact_clamped
open Chess.Search in
#print axioms node_btwK
open Chess.Search in
#print axioms root_order_independent_clamped
open Chess.Search in
#print axioms rootInRangeKB_sound
open Chess.Search in
#print axioms root_reordered_clamped
open Chess.Search in
#print axioms root_exact_of_inside
open Chess.Search in
#print axioms ExampleK.exK_root
