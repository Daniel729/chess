import Chess.Lemmas.AlphaBetaAux

/-!
# Alpha-beta soundness: the interior node; the pieces of `node` and `rootSearch` named, with their
unfolding equations
-/
namespace Chess.Search

variable {G M : Type}

/-- the child function answers every window in the engine's range, keeps the table switched off,
and is sound for the reference value `cv` -/
def ChildSoundK (K : Int) (child : G → Int → Int → Int → St M → Option (Int × St M)) (g' : G)
    (rd' : Int) (cv : Int) : Prop :=
  ∀ a b st, scoreMin ≤ a → b ≤ -scoreMin → st.ttOff = true →
    ∃ r st', child g' a b rd' st = some (r, st') ∧ st'.ttOff = true ∧ BtwK K a b cv r

/-- one iteration of `nodeLoop` before the cut-off test -/
def nodeStep (o : Ops G M) (child : G → Int → Int → Int → St M → Option (Int × St M))
    (g : G) (rd beta : Int) (m : M) (index : Nat) (alpha bestScore : Int) (bestMove : Option M)
    (st : St M) : Option (Int × Int × Option M × St M) :=
  let g' := o.push g m
  if index ≤ Gen.fullWindowMaxIndex then
    match child g' (-beta) (-alpha) (rd + 1) st with
    | none => none
    | some (v, st) =>
      let score := -v
      let (bestScore, bestMove) := if score > bestScore then (score, some m) else (bestScore, bestMove)
      some (max alpha score, bestScore, bestMove, st)
  else
    match child g' (-alpha - 1) (-alpha) (rd + 1) st with
    | none => none
    | some (v, st) =>
      let test := -v
      if test > bestScore then
        match child g' (-beta) (-test) (rd + 1) st with
        | none => none
        | some (v2, st) =>
          let score := -v2
          some (max alpha score, score, some m, st)
      else some (alpha, bestScore, bestMove, st)

theorem nodeLoop_cons (o : Ops G M) (child : G → Int → Int → Int → St M → Option (Int × St M))
    (g : G) (remaining : Nat) (rd beta : Int) (m : M) (ms : List M) (index : Nat)
    (alpha bestScore : Int) (bestMove : Option M) (st : St M) :
    nodeLoop o child g remaining rd beta (m :: ms) index alpha bestScore bestMove st =
      match nodeStep o child g rd beta m index alpha bestScore bestMove st with
      | none => none
      | some (alpha, bestScore, bestMove, st) =>
        if alpha ≥ beta then
          let st := { st with killers := st.killers.setIfInBounds rd.toNat (some m) }
          let st := match o.histIdx m with
            | some i => { st with history := st.history.setIfInBounds i (historyBonus remaining (st.history.getD i 0)) }
            | none => st
          some ⟨alpha, bestScore, bestMove, st⟩
        else nodeLoop o child g remaining rd beta ms (index + 1) alpha bestScore bestMove st := by
  rfl

/-- The step: it answers, keeps `scoreMin ≤ bestScore ≤ alpha`, and the new `alpha` is
`max alpha s` for a score `s` that is sound for the window `(alpha, β)`. With the full window `s` is
the score of the move. A null-window probe that is not re-searched has failed low, and its result
stands for the full window (`BtwK.widen`); a re-search result does by `BtwK.research`. -/
theorem nodeStep_specK (K : Int) (hK : 0 ≤ K) (o : Ops G M)
    (child : G → Int → Int → Int → St M → Option (Int × St M))
    (g : G) (rd β : Int) (m : M) (index : Nat) (alpha bs : Int) (bm : Option M) (st : St M)
    (cv : Int) (hc : ChildSoundK K child (o.push g m) (rd + 1) cv) (hcv : cv ≤ -scoreMin)
    (h1 : scoreMin ≤ bs) (h2 : bs ≤ alpha) (h3 : β ≤ -scoreMin)
    (h4 : index ≤ Gen.fullWindowMaxIndex ∨ alpha < β) (h5 : st.ttOff = true) :
    ∃ a' s bs' bm' st', nodeStep o child g rd β m index alpha bs bm st = some (a', bs', bm', st') ∧
      st'.ttOff = true ∧ scoreMin ≤ bs' ∧ bs' ≤ a' ∧ a' = max alpha s ∧ BtwK K alpha β (-cv) s := by
  unfold nodeStep
  simp only []
  by_cases hidx : index ≤ Gen.fullWindowMaxIndex
  · rw [if_pos hidx]
    obtain ⟨r, st', he, ht, hb⟩ := hc (-β) (-alpha) st (by omega) (by omega) h5
    have hb := hb.neg
    simp only [Int.neg_neg] at hb
    simp only [he]
    by_cases hs : -r > bs
    · simp only [hs, if_true]
      exact ⟨_, -r, _, _, _, rfl, ht, by omega, by omega, rfl, hb⟩
    · simp only [hs, if_false]
      exact ⟨_, -r, _, _, _, rfl, ht, h1, by omega, rfl, hb⟩
  · rw [if_neg hidx]
    have hab : alpha < β := h4.resolve_left hidx
    obtain ⟨r, st', he, ht, hb⟩ := hc (-alpha - 1) (-alpha) st (by omega) (by omega) h5
    have hb := hb.neg
    simp only [Int.neg_neg] at hb
    simp only [he]
    by_cases hs : -r > bs
    · simp only [hs, if_true]
      obtain ⟨r2, st2, he2, ht2, hb2⟩ := hc (-β) (- -r) st' (by omega) (by omega) ht
      have hb2 := hb2.neg
      simp only [Int.neg_neg] at hb2
      simp only [he2]
      exact ⟨_, -r2, _, _, _, rfl, ht2,
        hb2.ge (by omega) (by omega) (by simp only [scoreMin]; omega), by omega, rfl,
        hb.research hb2⟩
    · simp only [hs, if_false]
      exact ⟨_, -r, _, _, _, rfl, ht, h1, h2, by omega, hb.widen (by omega)⟩

/-- the move loop of an interior node -/
theorem nodeLoop_specK (K : Int) (hK : 0 ≤ K) (o : Ops G M)
    (child : G → Int → Int → Int → St M → Option (Int × St M))
    (cv : M → Int) (g : G) (remaining : Nat) (rd β : Int) (ms : List M)
    (hc : ∀ m ∈ ms, ChildSoundK K child (o.push g m) (rd + 1) (cv m) ∧ cv m ≤ -scoreMin)
    (h3 : β ≤ -scoreMin)
    (index : Nat) (alpha bs : Int) (bm : Option M) (st : St M) (T : Int)
    (h1 : scoreMin ≤ bs) (h2 : bs ≤ alpha)
    (h4 : index ≤ Gen.fullWindowMaxIndex ∨ alpha < β) (h5 : st.ttOff = true)
    (hJ : NearK K T alpha) :
    ∃ out, nodeLoop o child g remaining rd β ms index alpha bs bm st = some out ∧
      out.st.ttOff = true ∧
      BtwK K ((ms.map fun m => -(cv m)).foldl max T) β ((ms.map fun m => -(cv m)).foldl max T)
        out.alpha := by
  induction ms generalizing index alpha bs bm st T with
  | nil => exact ⟨⟨alpha, bs, bm, st⟩, rfl, h5, hJ.btw β⟩
  | cons m ms ih =>
    obtain ⟨a', s, bs', bm', st', he, ht, k1, k2, rfl, hb⟩ :=
      nodeStep_specK K hK o child g rd β m index alpha bs bm st (cv m) (hc m List.mem_cons_self).1
        (hc m List.mem_cons_self).2 h1 h2 h3 h4 h5
    rw [nodeLoop_cons, he]
    simp only [List.map_cons, List.foldl_cons]
    by_cases hcut : max alpha s ≥ β
    · simp only [hcut, if_true]
      refine ⟨_, rfl, ?_, hJ.cut hb hcut (Int.le_refl _) (le_foldl_max _ _)⟩
      cases o.histIdx m <;> exact ht
    · simp only [hcut, if_false]
      exact ih (fun m' hm' => hc m' (List.mem_cons_of_mem _ hm')) (index + 1) _ bs' bm' st' _ k1 k2
        (Or.inr (by omega)) ht (hJ.step hb (by omega))

theorem sortMoves_perm (key : M → Nat) (ms : List M) : (sortMoves key ms).Perm ms := by
  unfold sortMoves
  have h := (List.mergeSort_perm (ms.map fun m => (key m, m)) (fun a b => a.1 ≤ b.1)).map (·.2)
  simpa [List.map_map, Function.comp_def] using h

variable [DecidableEq M]

/-! ## the pieces of `node` and `rootSearch`, named -/

/-- the state after the poll at the entry of a node -/
def pollSt (st : St M) : St M :=
  { st with polls := st.polls + 1, tt := if st.ttOff then {} else st.tt }

/-- the table cut-off of a node -/
def ttCut (entry : Option (Entry M)) (remaining : Nat) (alpha beta : Int) : Option Int :=
  match entry with
  | some e =>
    if e.depth ≥ remaining then
      match e.flag with
      | .exact => some e.score
      | .lower => if e.score ≥ beta then some e.score else none
      | .upper => if e.score ≤ alpha then some e.score else none
    else none
  | none => none

/-- the flag of the entry stored by an interior node -/
def storeFlag (bestScore alpha beta : Int) : Flag :=
  if bestScore ≤ alpha then Flag.upper else if bestScore ≥ beta then Flag.lower else Flag.exact

/-- the table store at the end of an interior node -/
def nodeStore (h : UInt64) (d : Nat) (e : Entry M) (st : St M) : St M :=
  match st.tt[h]? with
  | some old =>
    if old.depth < d || (old.depth = d && e.flag = .exact) then { st with tt := st.tt.insert h e }
    else st
  | none => { st with tt := st.tt.insert h e }

/-- the sorted move list of an interior node in state `st` (after the poll) -/
def nodeMoves (o : Ops G M) (g : G) (rd : Int) (st : St M) : List M :=
  sortMoves (moveKey o ((ttGet st (o.hash g)).bind (·.pv)) (st.killers.getD rd.toNat none) st.history)
    (o.checked g)

theorem node_eq (o : Ops G M) (runs : Nat → Bool) (remaining : Nat) (g : G) (α β rd : Int)
    (st : St M) :
    node o runs remaining g α β rd st =
      if !runs st.polls then none else
      match ttCut (ttGet (pollSt st) (o.hash g)) remaining α β with
      | some v => some (v, pollSt st)
      | none =>
        match remaining with
        | 0 => some (qsearch o qFuel g α β rd, pollSt st)
        | 1 => some (depth1 o g α β rd, pollSt st)
        | r + 2 =>
          if (o.checked g).isEmpty then
            some ((if o.safe g then 0 else scoreMin + Gen.mateNode + rd), pollSt st)
          else
            match nodeLoop o (node o runs (r + 1)) g (r + 2) rd β (nodeMoves o g rd (pollSt st)) 0 α
                scoreMin none (pollSt st) with
            | none => none
            | some out =>
              some (out.alpha, nodeStore (o.hash g) (r + 2)
                ⟨out.bestScore, out.bestMove, r + 2, storeFlag out.bestScore α β⟩ out.st) := by
  unfold node
  rfl

theorem node_eq_of_runs {runs : Nat → Bool} {st : St M} (hr : runs st.polls = true)
    (o : Ops G M) (remaining : Nat) (g : G) (α β rd : Int) :
    node o runs remaining g α β rd st =
      match ttCut (ttGet (pollSt st) (o.hash g)) remaining α β with
      | some v => some (v, pollSt st)
      | none =>
        match remaining with
        | 0 => some (qsearch o qFuel g α β rd, pollSt st)
        | 1 => some (depth1 o g α β rd, pollSt st)
        | r + 2 =>
          if (o.checked g).isEmpty then
            some ((if o.safe g then 0 else scoreMin + Gen.mateNode + rd), pollSt st)
          else
            match nodeLoop o (node o runs (r + 1)) g (r + 2) rd β (nodeMoves o g rd (pollSt st)) 0 α
                scoreMin none (pollSt st) with
            | none => none
            | some out =>
              some (out.alpha, nodeStore (o.hash g) (r + 2)
                ⟨out.bestScore, out.bestMove, r + 2, storeFlag out.bestScore α β⟩ out.st) := by
  rw [node_eq, hr]
  rfl

omit [DecidableEq M] in
theorem ttGet_pollSt_of_off {st : St M} (h : st.ttOff = true) (k : UInt64) :
    ttGet (pollSt st) k = none := by
  simp only [ttGet, pollSt, h, if_true]
  exact Std.HashMap.getElem?_empty

/-- the state in which the root search starts: fresh killers -/
def rootSt (st : St M) : St M := { st with killers := Array.replicate Gen.killerLen none }

/-- the usable root entry, if any -/
def rootHit (entry : Option (Entry M)) (depth : Nat) : Option (Entry M) :=
  match entry with
  | some e => if e.depth ≥ depth && e.flag = Flag.exact then some e else none
  | none => none

/-- the table store at the end of the root search -/
def rootStore (h : UInt64) (d : Nat) (e : Entry M) (st : St M) : St M :=
  match st.tt[h]? with
  | some old => if old.depth ≤ d then { st with tt := st.tt.insert h e } else st
  | none => { st with tt := st.tt.insert h e }

/-- the sorted move list of the root -/
def rootSorted (o : Ops G M) (g : G) (st : St M) : List M :=
  sortMoves (moveKey o ((ttGet st (o.hash g)).bind (·.pv)) none st.history) (rootMoves o g)

theorem rootSearch_eq (o : Ops G M) (runs : Nat → Bool) (g : G) (depth : Nat) (st : St M) :
    rootSearch o runs g depth st =
      if (o.checked g).length = 1 then some (((o.checked g).head?, 0, true), st) else
      match rootHit (ttGet (rootSt st) (o.hash g)) depth with
      | some e => some ((e.pv, e.score, false), rootSt st)
      | none =>
        match rootLoop o (node o runs (depth - 1)) g (rootSorted o g (rootSt st)) 0 (scoreMin + 1)
            none (rootSt st) with
        | none => none
        | some (bestScore, bestMove, st2) =>
          some ((bestMove, bestScore, false),
            rootStore (o.hash g) depth ⟨bestScore, bestMove, depth, .exact⟩ st2) := by
  unfold rootSearch
  rfl

omit [DecidableEq M] in
theorem nodeStore_ind {P : St M → Prop} {h : UInt64} {d : Nat} {e : Entry M} {st : St M}
    (h0 : P st) (h1 : P { st with tt := st.tt.insert h e }) : P (nodeStore h d e st) := by
  unfold nodeStore
  split
  · split
    · exact h1
    · exact h0
  · exact h1

omit [DecidableEq M] in
theorem rootStore_ind {P : St M → Prop} {h : UInt64} {d : Nat} {e : Entry M} {st : St M}
    (h0 : P st) (h1 : P { st with tt := st.tt.insert h e }) : P (rootStore h d e st) := by
  unfold rootStore
  split
  · split
    · exact h1
    · exact h0
  · exact h1

omit [DecidableEq M] in
theorem rootHit_eq_some_iff {x : Option (Entry M)} {depth : Nat} {e : Entry M} :
    rootHit x depth = some e ↔ x = some e ∧ depth ≤ e.depth ∧ e.flag = Flag.exact := by
  cases x with
  | none => simp [rootHit]
  | some e' =>
    simp only [rootHit, ge_iff_le, Bool.and_eq_true, decide_eq_true_eq, Option.ite_none_right_eq_some,
      Option.some.injEq]
    constructor
    · rintro ⟨h, rfl⟩
      exact ⟨rfl, h⟩
    · rintro ⟨rfl, h⟩
      exact ⟨h, rfl⟩

omit [DecidableEq M] in
theorem rootHit_none_of_miss {x : Option (Entry M)} {depth : Nat}
    (h : ∀ e, x = some e → ¬(depth ≤ e.depth ∧ e.flag = Flag.exact)) : rootHit x depth = none :=
  Option.eq_none_iff_forall_ne_some.2 fun e he => h e (rootHit_eq_some_iff.1 he).1 (rootHit_eq_some_iff.1 he).2

/-- `node` with the table switched off and a flag that stays up: it answers, the table stays off,
and the answer is `BtwK`-sound for `refNode`, for every window in the engine's range -/
theorem node_btwK (K : Int) (hK : 0 ≤ K) (o : Ops G M) (remaining : Nat) (g : G) (α β rd : Int) (st : St M)
    (hα : scoreMin ≤ α) (hβ : β ≤ -scoreMin) (ht : st.ttOff = true)
    (hT : TameK K o remaining g rd) :
    ∃ r st', node o (fun _ => true) remaining g α β rd st = some (r, st') ∧ st'.ttOff = true ∧
      BtwK K α β (refNode o remaining g rd) r := by
  induction remaining using Nat.strongRecOn generalizing g α β rd st with
  | _ n ih =>
    rw [node_eq_of_runs rfl, ttGet_pollSt_of_off ht]
    simp only [ttCut]
    match n with
    | 0 => exact ⟨_, _, rfl, ht, qsearch_btwK K o qFuel g α β rd hT⟩
    | 1 => exact ⟨_, _, rfl, ht, depth1_btwK K o g α β rd hT⟩
    | r + 2 =>
      cases he : (o.checked g).isEmpty with
      | true =>
        simp only [if_true, refNode, he, deadValue]
        exact ⟨_, _, rfl, ht, BtwK.self _ _ _ _⟩
      | false =>
        simp only [Bool.false_eq_true, if_false]
        have hp : (nodeMoves o g rd (pollSt st)).Perm (o.checked g) := sortMoves_perm _ _
        obtain ⟨out, hout, hto, hb⟩ :=
          nodeLoop_specK K hK o (node o (fun _ => true) (r + 1))
            (fun m => refNode o (r + 1) (o.push g m) (rd + 1)) g (r + 2) rd β
            (nodeMoves o g rd (pollSt st))
            (fun m hm => ⟨fun a b s ha hb hs =>
                ih (r + 1) (by omega) _ a b _ s ha hb hs (hT m (hp.mem_iff.1 hm)).1,
              (hT m (hp.mem_iff.1 hm)).2⟩)
            hβ 0 α scoreMin none (pollSt st) α (Int.le_refl _) hα (Or.inl (Nat.zero_le _)) ht
            (NearK.self _ _)
        rw [hout]
        refine ⟨_, _, rfl, ?_, ?_⟩
        · exact nodeStore_ind (P := fun s => s.ttOff = true) hto hto
        · rw [refNode_perm o r g rd hp.symm]
          rw [foldl_max_eq_max_nodeValue (hp.isEmpty_eq.trans he)
            (deadValue o Gen.mateNode g rd)] at hb
          exact hb.of_max

/-- the same for `Tame` trees, without clamping -/
theorem node_btw (o : Ops G M) (remaining : Nat) (g : G) (α β rd : Int) (st : St M)
    (hα : scoreMin ≤ α) (hβ : β ≤ -scoreMin) (ht : st.ttOff = true)
    (hT : Tame o remaining g rd) :
    ∃ r st', node o (fun _ => true) remaining g α β rd st = some (r, st') ∧ st'.ttOff = true ∧
      Btw α β (refNode o remaining g rd) r := by
  obtain ⟨r, st', h, ht', _⟩ := node_btwK 0 (Int.le_refl _) o remaining g α β rd st hα hβ ht (hT.tameK 0)
  refine ⟨r, st', h, ht', Btw_iff_forall_BtwK.2 fun K hK => ?_⟩
  obtain ⟨r', _, h', _, hb⟩ := node_btwK K hK o remaining g α β rd st hα hβ ht (hT.tameK K)
  rw [h] at h'
  cases h'
  exact hb

end Chess.Search
