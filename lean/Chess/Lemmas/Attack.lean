import Chess.Lemmas.AttackAux

/-!
# L1 of C01: the engine's attack scan `Game.isTargeted` is the rules' `Spec.attacked`

The ray lemma (`firstOnRay_iff`) reads the scan along a direction as "first piece at distance `k`,
nothing before"; the rules' slider clause is brought to the same form (`attacksFrom_slider_iff`).
Corollary: the king-safety test of the legality filter is `!inCheck`. L2 for knight and sliders:
`Piece::get_moves` yields exactly the rules' pseudo-legal moves (`pieceMoves_simple_iff`).
-/
namespace Chess
open Spec

/-! ## The ray lemma with the engine's fuel 7 -/

/-- on a valid square, along one of the eight directions, seven steps see the first piece of the
ray, wherever it is -/
theorem Game.firstOnRay_seven_iff (g : Game) {p : Pos} (hp : p.Valid) {d : Int × Int}
    (hd : UnitDir d) (pc : Piece) :
    g.firstOnRay p d 7 = some pc ↔
      ∃ k : Nat, 1 ≤ k ∧ g.abs.at (p.row + k * d.1, p.col + k * d.2) = some pc ∧
        ∀ j : Nat, 1 ≤ j → j < k → g.abs.at (p.row + j * d.1, p.col + j * d.2) = none := by
  rw [Game.firstOnRay_iff]
  constructor
  · rintro ⟨k, h1, _, hk, hj⟩
    exact ⟨k, h1, hk, fun j a b => (hj j a b).2⟩
  · rintro ⟨k, h1, hk, hj⟩
    have hb := APos.onBoard_of_at hk
    exact ⟨k, h1, ray_le_seven hp hd hb, hk,
      fun j a b => ⟨ray_between_onBoard hp hd hb b, hj j a b⟩⟩

theorem Game.at_eq_some_iff (g : Game) (r c : Int) (pc : Piece) :
    g.abs.at (r, c) = some pc ↔ onBoard (r, c) = true ∧ g.get ⟨r, c⟩ = some pc :=
  ⟨fun h => ⟨APos.onBoard_of_at h, (g.get_mk (APos.onBoard_of_at h)).trans h⟩,
    fun ⟨hb, h⟩ => (g.get_mk hb).symm.trans h⟩

theorem Game.onBoard_and_at (g : Game) (r c : Int) (o : Option Piece) :
    (onBoard (r, c) = true ∧ g.abs.at (r, c) = o) ↔ (onBoard (r, c) = true ∧ g.get ⟨r, c⟩ = o) :=
  and_congr_right fun hb => by rw [g.get_mk hb]

/-- the general-fuel ray lemma in the engine's own view (`Game.get` on valid squares) -/
theorem Game.firstOnRay_iff_get (g : Game) (d : Int × Int) (n : Nat) (p : Pos) (pc : Piece) :
    g.firstOnRay p d n = some pc ↔
      ∃ k : Nat, 1 ≤ k ∧ k ≤ n ∧
        (onBoard (p.row + k * d.1, p.col + k * d.2) = true ∧
          g.get ⟨p.row + k * d.1, p.col + k * d.2⟩ = some pc) ∧
        ∀ j : Nat, 1 ≤ j → j < k →
          onBoard (p.row + j * d.1, p.col + j * d.2) = true ∧
          g.get ⟨p.row + j * d.1, p.col + j * d.2⟩ = none := by
  simp only [Game.firstOnRay_iff, g.at_eq_some_iff, g.onBoard_and_at]

/-- seven steps suffice: with any fuel `n ≥ 7` the scan from a valid square along a unit direction
gives the same answer -/
theorem Game.firstOnRay_fuel (g : Game) {p : Pos} (hp : p.Valid) {d : Int × Int}
    (hd : UnitDir d) {n : Nat} (hn : 7 ≤ n) : g.firstOnRay p d n = g.firstOnRay p d 7 := by
  refine Option.ext fun pc => ?_
  rw [Game.firstOnRay_iff, Game.firstOnRay_iff]
  exact ⟨fun ⟨k, h1, _, hk, hj⟩ => ⟨k, h1, ray_le_seven hp hd (APos.onBoard_of_at hk), hk, hj⟩,
    fun ⟨k, h1, h7, hk, hj⟩ => ⟨k, h1, by omega, hk, hj⟩⟩

/-! ## The engine's scan, part by part -/

theorem Game.enemyAt_iff (g : Game) (pl : Player) (ty : PieceType) (p : Pos) (d : Int × Int) :
    g.enemyAt pl ty p d = true ↔
      ∃ pc, g.abs.at (p.row + d.1, p.col + d.2) = some pc ∧ pc.owner = pl.other ∧
        pc.pieceType = ty := by
  unfold Game.enemyAt
  rw [← g.get_add p d]
  cases p.add d with
  | none => simp
  | some q =>
    simp only
    cases g.get q with
    | none => simp
    | some pc =>
      simp only [Bool.and_eq_true, decide_eq_true_eq, Option.some.injEq, exists_eq_left',
        Player.ne_iff_eq_other]

theorem Game.rayHits_iff (g : Game) (pl : Player) (t1 t2 : PieceType) {p : Pos} (hp : p.Valid)
    {d : Int × Int} (hd : UnitDir d) :
    g.rayHits pl t1 t2 p d = true ↔
      ∃ (k : Nat) (pc : Piece), 1 ≤ k ∧
        g.abs.at (p.row + k * d.1, p.col + k * d.2) = some pc ∧
        pc.owner = pl.other ∧ (pc.pieceType = t1 ∨ pc.pieceType = t2) ∧
        ∀ j : Nat, 1 ≤ j → j < k → g.abs.at (p.row + j * d.1, p.col + j * d.2) = none := by
  unfold Game.rayHits
  constructor
  · intro h
    cases hf : g.firstOnRay p d 7 with
    | none => rw [hf] at h; cases h
    | some pc =>
      rw [hf] at h
      simp only [Bool.and_eq_true, Bool.or_eq_true, decide_eq_true_eq,
        Player.ne_iff_eq_other] at h
      obtain ⟨k, h1, hk, hj⟩ := (g.firstOnRay_seven_iff hp hd pc).1 hf
      exact ⟨k, pc, h1, hk, h.1, h.2, hj⟩
  · rintro ⟨k, pc, h1, hk, ho, ht, hj⟩
    rw [(g.firstOnRay_seven_iff hp hd pc).2 ⟨k, h1, hk, hj⟩]
    simp only [Bool.and_eq_true, Bool.or_eq_true, decide_eq_true_eq, Player.ne_iff_eq_other]
    exact ⟨ho, ht⟩

/-! ## The rules' side -/

theorem Spec.mem_allSqs (s : Sq) : s ∈ allSqs ↔ onBoard s = true := by
  obtain ⟨r, c⟩ := s
  rw [Spec.onBoard_iff]
  simp only [allSqs, List.mem_map, List.mem_range, Prod.mk.injEq]
  constructor
  · rintro ⟨i, hi, rfl, rfl⟩; omega
  · rintro ⟨h1, h2, h3, h4⟩
    exact ⟨(r * 8 + c).toNat, by omega, by omega, by omega⟩

theorem Spec.attacked_iff (a : APos) (t : Sq) (by_ : Player) :
    attacked a t by_ = true ↔
      ∃ (s : Sq) (pc : Piece), a.at s = some pc ∧ pc.owner = by_ ∧ attacksFrom a pc s t = true := by
  unfold attacked
  simp only [List.any_eq_true, Spec.mem_allSqs]
  constructor
  · rintro ⟨s, _, h⟩
    cases hs : a.at s with
    | none => rw [hs] at h; cases h
    | some pc =>
      rw [hs] at h
      simp only [Bool.and_eq_true, decide_eq_true_eq] at h
      exact ⟨s, pc, hs, h.1, h.2⟩
  · rintro ⟨s, pc, hs, ho, ha⟩
    refine ⟨s, APos.onBoard_of_at hs, ?_⟩
    rw [hs]; simp [ho, ha]

/-- which unit directions a slider kind moves along -/
def lineOK : PieceType → Int × Int → Prop
  | .rook, d => d.1 = 0 ∨ d.2 = 0
  | .bishop, d => d.1 ≠ 0 ∧ d.2 ≠ 0
  | .queen, _ => True
  | _, _ => False

theorem lineOK_ray (ty : PieceType) (r c : Int) {d : Int × Int} (hd : UnitDir d) {k : Nat}
    (hk : 1 ≤ k) : lineOK ty (r + k * d.1 - r, c + k * d.2 - c) ↔ lineOK ty d := by
  cases ty <;> simp only [lineOK, ne_eq, ray_coord_zero r hk hd.1, ray_coord_zero c hk hd.2.1]

/-- the rules' slider clause: on a common line, of the piece's kind, nothing between -/
theorem Spec.attacksFrom_slider (a : APos) (pc : Piece) (s t : Sq)
    (hty : pc.pieceType = .rook ∨ pc.pieceType = .bishop ∨ pc.pieceType = .queen) :
    attacksFrom a pc s t = true ↔
      (((t.1 - s.1 = 0 ∨ t.2 - s.2 = 0 ∨ (t.1 - s.1).natAbs = (t.2 - s.2).natAbs) ∧
        (t.1 - s.1 ≠ 0 ∨ t.2 - s.2 ≠ 0)) ∧ lineOK pc.pieceType (t.1 - s.1, t.2 - s.2)) ∧
      clearBetween a s t = true := by
  rcases hty with e | e | e <;>
    simp only [attacksFrom, e, lineOK, Bool.and_eq_true, Bool.or_eq_true, decide_eq_true_eq,
      ne_eq] <;>
    refine and_congr_left' ?_ <;>
    by_cases hx : t.1 - s.1 = 0 <;> by_cases hy : t.2 - s.2 = 0 <;> simp [hx, hy]

/-- a slider on `s` attacks `t` iff `t` is `k ≥ 1` unit steps from `s` along a line of its kind,
with nothing strictly between (the direction the generator scans) -/
theorem Spec.attacksFrom_slider_iff_fwd (a : APos) (pc : Piece) (s t : Sq)
    (hty : pc.pieceType = .rook ∨ pc.pieceType = .bishop ∨ pc.pieceType = .queen) :
    attacksFrom a pc s t = true ↔
      ∃ (e : Int × Int) (k : Nat), UnitDir e ∧ 1 ≤ k ∧ t = (s.1 + k * e.1, s.2 + k * e.2) ∧
        lineOK pc.pieceType e ∧
        ∀ j : Nat, 1 ≤ j → j < k → a.at (s.1 + j * e.1, s.2 + j * e.2) = none := by
  rw [attacksFrom_slider a pc s t hty]
  constructor
  · rintro ⟨⟨hl, hk⟩, hc⟩
    obtain ⟨e, k, he, hk1, rfl⟩ := line_decomp s t hl
    exact ⟨e, k, he, hk1, rfl, (lineOK_ray _ _ _ he hk1).1 hk, (clearBetween_ray a s he hk1).1 hc⟩
  · rintro ⟨e, k, he, hk, rfl, hl, hc⟩
    exact ⟨⟨ray_onLine s he hk, (lineOK_ray _ _ _ he hk).2 hl⟩, (clearBetween_ray a s he hk).2 hc⟩

theorem UnitDir.neg {d : Int × Int} (h : UnitDir d) : UnitDir (-d.1, -d.2) := by
  unfold UnitDir at *; simp only at *; omega

theorem lineOK_neg {ty : PieceType} {d : Int × Int} (h : lineOK ty d) : lineOK ty (-d.1, -d.2) := by
  cases ty <;> simp only [lineOK] at * <;> omega

/-- the slider lemma read from the attacked square back to the slider (the direction the attack
scan looks) -/
theorem Spec.attacksFrom_slider_iff (a : APos) (pc : Piece) (s t : Sq)
    (hty : pc.pieceType = .rook ∨ pc.pieceType = .bishop ∨ pc.pieceType = .queen) :
    attacksFrom a pc s t = true ↔
      ∃ (d : Int × Int) (k : Nat), UnitDir d ∧ 1 ≤ k ∧ s = (t.1 + k * d.1, t.2 + k * d.2) ∧
        lineOK pc.pieceType d ∧
        ∀ j : Nat, 1 ≤ j → j < k → a.at (t.1 + j * d.1, t.2 + j * d.2) = none := by
  rw [attacksFrom_slider_iff_fwd a pc s t hty]
  constructor
  · rintro ⟨e, k, he, hk, rfl, hl, hc⟩
    refine ⟨(-e.1, -e.2), k, he.neg, hk, ?_, lineOK_neg hl, ?_⟩
    · obtain ⟨s1, s2⟩ := s
      simp only [Int.mul_neg, Prod.mk.injEq]; omega
    · intro j h1 h2
      simp only
      rw [ray_flip _ (by omega), ray_flip _ (by omega)]
      exact hc (k - j) (by omega) (by omega)
  · rintro ⟨d, k, hd, hk, rfl, hl, hc⟩
    refine ⟨(-d.1, -d.2), k, hd.neg, hk, ?_, lineOK_neg hl, ?_⟩
    · obtain ⟨t1, t2⟩ := t
      simp only [Int.mul_neg, Prod.mk.injEq]; omega
    · intro j h1 h2
      simp only
      rw [ray_flip _ (by omega), ray_flip _ (by omega)]
      exact hc (k - j) (by omega) (by omega)

theorem Spec.sq_add_sub (s : Sq) (r c : Int) : (r + (s.1 - r), c + (s.2 - c)) = s := by
  obtain ⟨a, b⟩ := s
  simp only [Prod.mk.injEq]; omega

/-- the scan as a disjunction of its five parts; for the pawn part the engine looks from `p` one
row *forward for `pl`*, which is where an enemy pawn that attacks `p` stands -/
theorem Game.isTargeted_parts (g : Game) (p : Pos) (pl : Player) :
    g.isTargeted p pl = true ↔
      ((((∃ d, d ∈ Gen.tKingDeltas ∧ g.enemyAt pl .king p d = true)
        ∨ (∃ d, d ∈ Gen.tKnightDeltas ∧ g.enemyAt pl .knight p d = true))
        ∨ (∃ d : Int × Int, (d.1 = forward pl ∧ d.2.natAbs = 1) ∧ g.enemyAt pl .pawn p d = true))
        ∨ (∃ d, d ∈ Gen.tLineRays ∧ g.rayHits pl .rook .queen p d = true))
        ∨ (∃ d, d ∈ Gen.tDiagRays ∧ g.rayHits pl .bishop .queen p d = true) := by
  cases pl <;>
    simp only [Game.isTargeted, Bool.or_eq_true, List.any_eq_true, mem_tPawnW, mem_tPawnB, forward]

/-- king, knight, pawn: if the deltas `D` scanned from `p` are those from which a piece of kind `ty`
attacks `p`, the scan finds exactly the enemy pieces of that kind that attack `p` -/
theorem Game.enemyAt_scan (g : Game) (pl : Player) (ty : PieceType) (p : Pos) (D : Int × Int → Prop)
    (hD : ∀ (pc : Piece) (s : Sq), pc.pieceType = ty → pc.owner = pl.other →
      (attacksFrom g.abs pc s (p.row, p.col) = true ↔ D (s.1 - p.row, s.2 - p.col))) :
    (∃ d, D d ∧ g.enemyAt pl ty p d = true) ↔
      ∃ (s : Sq) (pc : Piece), g.abs.at s = some pc ∧ pc.owner = pl.other ∧ pc.pieceType = ty ∧
        attacksFrom g.abs pc s (p.row, p.col) = true := by
  constructor
  · rintro ⟨d, hd, he⟩
    obtain ⟨pc, hat, ho, hty⟩ := (g.enemyAt_iff pl ty p d).1 he
    refine ⟨_, pc, hat, ho, hty, (hD pc _ hty ho).2 ?_⟩
    rwa [show (p.row + d.1 - p.row, p.col + d.2 - p.col) = d from
      Prod.ext (by simp only; omega) (by simp only; omega)]
  · rintro ⟨s, pc, hat, ho, hty, hatt⟩
    exact ⟨_, (hD pc s hty ho).1 hatt,
      (g.enemyAt_iff pl ty p _).2 ⟨pc, by rw [sq_add_sub]; exact hat, ho, hty⟩⟩

/-- rook, bishop, queen: a hit along a ray is an attack by the slider found there, and every
attacking slider is found along the ray towards it -/
theorem Game.rayHits_scan (g : Game) (pl : Player) {p : Pos} (hp : p.Valid) :
    ((∃ d, d ∈ Gen.tLineRays ∧ g.rayHits pl .rook .queen p d = true)
      ∨ (∃ d, d ∈ Gen.tDiagRays ∧ g.rayHits pl .bishop .queen p d = true)) ↔
      ∃ (s : Sq) (pc : Piece), g.abs.at s = some pc ∧ pc.owner = pl.other ∧
        (pc.pieceType = .rook ∨ pc.pieceType = .bishop ∨ pc.pieceType = .queen) ∧
        attacksFrom g.abs pc s (p.row, p.col) = true := by
  constructor
  · have ray : ∀ {t1 t2 : PieceType} {d : Int × Int}, UnitDir d →
        (∀ ty, ty = t1 ∨ ty = t2 → (ty = .rook ∨ ty = .bishop ∨ ty = .queen) ∧ lineOK ty d) →
        g.rayHits pl t1 t2 p d = true → ∃ (s : Sq) (pc : Piece), g.abs.at s = some pc ∧
          pc.owner = pl.other ∧ (pc.pieceType = .rook ∨ pc.pieceType = .bishop ∨ pc.pieceType = .queen) ∧
          attacksFrom g.abs pc s (p.row, p.col) = true := by
      intro t1 t2 d hd hk hr
      obtain ⟨k, pc, h1, hat, ho, hty, hclr⟩ := (g.rayHits_iff pl _ _ hp hd).1 hr
      exact ⟨_, pc, hat, ho, (hk _ hty).1, (attacksFrom_slider_iff _ _ _ _ (hk _ hty).1).2
        ⟨d, k, hd, h1, rfl, (hk _ hty).2, hclr⟩⟩
    rintro (⟨d, hd, hr⟩ | ⟨d, hd, hr⟩)
    · rw [mem_tLineRays] at hd
      exact ray hd.1 (fun ty h => by rcases h with rfl | rfl <;> simp [lineOK, hd.2]) hr
    · rw [mem_tDiagRays] at hd
      exact ray hd.1 (fun ty h => by rcases h with rfl | rfl <;> simp [lineOK, hd.2]) hr
  · rintro ⟨s, pc, hat, ho, hty, hatt⟩
    obtain ⟨d, k, hd, hk, rfl, hline, hclr⟩ := (attacksFrom_slider_iff _ _ _ _ hty).1 hatt
    by_cases hl : d.1 = 0 ∨ d.2 = 0
    · left
      refine ⟨d, (mem_tLineRays d).2 ⟨hd, hl⟩,
        (g.rayHits_iff pl _ _ hp hd).2 ⟨k, pc, hk, hat, ho, ?_, hclr⟩⟩
      rcases hty with e | e | e
      · exact .inl e
      · rw [e] at hline; simp only [lineOK] at hline; omega
      · exact .inr e
    · right
      refine ⟨d, (mem_tDiagRays d).2 ⟨hd, by omega⟩,
        (g.rayHits_iff pl _ _ hp hd).2 ⟨k, pc, hk, hat, ho, ?_, hclr⟩⟩
      rcases hty with e | e | e
      · rw [e] at hline; simp only [lineOK] at hline; omega
      · exact .inl e
      · exact .inr e

/-- **L1 of C01**: the engine's `is_targeted(p, pl)` answers exactly whether the rules say `p` is
attacked by the opponent of `pl` -/
theorem Game.isTargeted_iff_attacked (g : Game) {p : Pos} (hp : p.Valid) (pl : Player) :
    g.isTargeted p pl = attacked g.abs (p.row, p.col) pl.other := by
  rw [Bool.eq_iff_iff, Game.isTargeted_parts, Spec.attacked_iff, or_assoc, g.rayHits_scan pl hp]
  simp only [mem_tKingDeltas, mem_tKnightDeltas]
  rw [g.enemyAt_scan pl .king p _ fun pc s hty _ => by
      simp only [attacksFrom, hty, decide_eq_true_eq]; omega,
    g.enemyAt_scan pl .knight p _ fun pc s hty _ => by
      simp only [attacksFrom, hty, Bool.or_eq_true, Bool.and_eq_true, decide_eq_true_eq]; omega,
    g.enemyAt_scan pl .pawn p _ fun pc s hty ho => by
      simp only [attacksFrom, hty, ho, Bool.and_eq_true, decide_eq_true_eq]
      cases pl <;> simp only [forward, Player.other] <;> omega]
  constructor
  · rintro (((⟨s, pc, a, b, _, c⟩ | ⟨s, pc, a, b, _, c⟩) | ⟨s, pc, a, b, _, c⟩) | ⟨s, pc, a, b, _, c⟩) <;>
      exact ⟨s, pc, a, b, c⟩
  · rintro ⟨s, pc, a, b, c⟩
    cases hty : pc.pieceType with
    | king => exact .inl (.inl (.inl ⟨s, pc, a, b, hty, c⟩))
    | knight => exact .inl (.inl (.inr ⟨s, pc, a, b, hty, c⟩))
    | pawn => exact .inl (.inr ⟨s, pc, a, b, hty, c⟩)
    | rook => exact .inr ⟨s, pc, a, b, .inl hty, c⟩
    | bishop => exact .inr ⟨s, pc, a, b, .inr (.inl hty), c⟩
    | queen => exact .inr ⟨s, pc, a, b, .inr (.inr hty), c⟩

/-! ## Corollary: the king-safety test of the legality filter -/

theorem Spec.kingSq_eq_of_unique (a : APos) (pl : Player) (s : Sq)
    (h1 : a.at s = some ⟨.king, pl⟩) (h2 : ∀ t, a.at t = some ⟨.king, pl⟩ → t = s) :
    kingSq a pl = some s := by
  unfold kingSq
  cases hf : allSqs.find? (fun s => a.at s = some ⟨.king, pl⟩) with
  | none =>
    rw [List.find?_eq_none] at hf
    have := hf s ((Spec.mem_allSqs _).2 (APos.onBoard_of_at h1))
    simp [h1] at this
  | some t =>
    have := List.find?_some hf
    simp only [decide_eq_true_eq] at this
    rw [h2 t this]

theorem Game.KingInv.kvalid {g : Game} (h : g.KingInv) (pl : Player) : (g.kingPos pl).Valid := by
  cases pl
  · exact h.wvalid
  · exact h.bvalid

/-- under `KingInv` every king the rules see stands on the cached square of its colour -/
theorem Game.king_at (g : Game) (hinv : g.KingInv) {t : Sq} {pl : Player}
    (ht : g.abs.at t = some ⟨.king, pl⟩) : t = ((g.kingPos pl).row, (g.kingPos pl).col) := by
  have hb := APos.onBoard_of_at ht
  rw [hinv.unique ⟨t.1, t.2⟩ pl (Pos.valid_mk hb) ((g.get_mk hb).trans ht)]

/-- so a king of `pl` standing on the cached square is the king the rules find (`Spec.kingSq` returns
the *first* such square) -/
theorem Game.kingSq_eq_kingPos (g : Game) (pl : Player) (hinv : g.KingInv)
    (hk : g.get (g.kingPos pl) = some ⟨.king, pl⟩) :
    kingSq g.abs pl = some ((g.kingPos pl).row, (g.kingPos pl).col) := by
  exact kingSq_eq_of_unique _ pl _ ((g.get_eq_at _ (hinv.kvalid pl)).symm.trans hk)
    fun t ht => g.king_at hinv ht

/-- **King safety**, with the hypothesis stated on the rules' side: if the king the
rules find is on the cached square, the filter's test `!is_targeted(king_pos, pl)` is `!inCheck`. -/
theorem Game.kingSafe_iff' (g : Game) (pl : Player) (hv : (g.kingPos pl).Valid)
    (hk : kingSq g.abs pl = some ((g.kingPos pl).row, (g.kingPos pl).col)) :
    (!g.isTargeted (g.kingPos pl) pl) = !inCheck g.abs pl := by
  rw [g.isTargeted_iff_attacked hv pl]
  unfold inCheck
  rw [hk]

/-- **King safety**, with the hypotheses stated on the engine's side. `king_exists` only tests the
*kind* of the piece on the cached square, so the owner is asked for separately. -/
theorem Game.kingSafe_iff (g : Game) (pl : Player) (hex : g.kingExists pl = true)
    (hinv : g.KingInv)
    (hown : ∀ pc, g.get (g.kingPos pl) = some pc → pc.owner = pl) :
    (!g.isTargeted (g.kingPos pl) pl) = !inCheck g.abs pl := by
  apply g.kingSafe_iff' pl (hinv.kvalid pl)
  apply g.kingSq_eq_kingPos pl hinv
  unfold Game.kingExists at hex
  cases hg : g.get (g.kingPos pl) with
  | none => rw [hg] at hex; cases hex
  | some pc =>
    rw [hg] at hex
    have ho := hown pc hg
    obtain ⟨ty, ow⟩ := pc
    simp only [decide_eq_true_eq] at hex ho
    subst hex; subst ho; rfl

/-- without a king of `pl` the rules never report check (so the equation of `kingSafe_iff` can fail
there: the engine still scans the stale cached square) -/
theorem Spec.inCheck_of_no_king (a : APos) (pl : Player) (h : kingSq a pl = none) :
    inCheck a pl = false := by
  unfold inCheck; rw [h]


/-! ## L2: the generators of knight and sliders -/

set_option linter.unusedSimpArgs false in
/-- `Spec.pseudo` for a piece that is neither pawn nor king, unfolded. (The move is given by its
components so that it is found by first-order unification.) -/
theorem Spec.pseudo_simple_iff (a : APos) (s d : Sq) (pr : Option PieceType) (pc : Piece)
    (hsrc : a.at s = some pc) (hp : pc.pieceType ≠ .pawn) (hk : pc.pieceType ≠ .king) :
    pseudo a ⟨s, d, pr⟩ = true ↔
      onBoard d = true ∧ pc.owner = a.side ∧ (∀ o, a.at d = some o → o.owner ≠ a.side) ∧
        pr = none ∧ attacksFrom a pc s d = true := by
  have hb := APos.onBoard_of_at hsrc
  unfold pseudo
  simp only [hsrc]
  -- Kind by kind (pawn and king contradict `hp`, `hk`), and for `d` empty or not, both sides are
  -- the same conjunction once the Boolean clauses of `pseudo` are read as propositions.
  cases hd : a.at d <;> cases hty : pc.pieceType <;>
    simp_all only [ne_eq, not_true_eq_false, not_false_eq_true, Bool.and_eq_true, Bool.true_and, decide_eq_true_eq,
      Bool.not_eq_true', Bool.not_false, decide_eq_false_iff_not, Option.isNone_iff_eq_none, reduceCtorEq,
      Option.some.injEq, forall_eq', false_implies, implies_true, true_and, Bool.false_eq_true]

def NotOwn (g : Game) (q : Pos) : Prop := ∀ o, g.get q = some o → o.owner ≠ g.player

/-- one delta of a step piece: the move to `p + d` unless that square is off the board, holds an own
piece or is `bad` (`get_knight_moves`: none is; `get_king_moves`: those next to the enemy king) -/
def Game.stepMove (g : Game) (pc : Piece) (p : Pos) (bad : Pos → Bool) (d : Int × Int) : List Move :=
  match p.add d with
  | none => []
  | some q =>
    let place := g.get q
    let own : Bool := match place with
      | some o => o.owner = g.player
      | none => false
    if own then [] else if bad q then [] else [Move.normal pc p q place]

theorem Game.knightMoves_eq (g : Game) (pc : Piece) (p : Pos) :
    g.knightMoves pc p = Gen.knightDeltas.flatMap (g.stepMove pc p fun _ => false) := rfl

theorem Game.mem_stepMove (g : Game) (pc : Piece) (p : Pos) (bad : Pos → Bool) (d : Int × Int)
    (m : Move) :
    m ∈ g.stepMove pc p bad d ↔
      ∃ q, p.add d = some q ∧ NotOwn g q ∧ bad q = false ∧ m = .normal pc p q (g.get q) := by
  unfold Game.stepMove NotOwn
  cases hq : p.add d with
  | none => simp
  | some q =>
    simp only [Option.some.injEq, exists_eq_left']
    cases hg : g.get q with
    | none => cases bad q <;> simp
    | some o => by_cases ho : o.owner = g.player <;> cases bad q <;> simp [ho]

/-- **`get_knight_moves`**: exactly the knight jumps of the rules to valid squares not held by an
own piece -/
theorem Game.knightMoves_attacks (g : Game) (pc : Piece) (hty : pc.pieceType = .knight) (p : Pos)
    (m : Move) :
    m ∈ g.knightMoves pc p ↔
      ∃ q : Pos, q.Valid ∧ attacksFrom g.abs pc (p.row, p.col) (q.row, q.col) = true ∧
        NotOwn g q ∧ m = .normal pc p q (g.get q) := by
  simp only [attacksFrom, hty, Bool.or_eq_true, Bool.and_eq_true, decide_eq_true_eq,
    Game.knightMoves_eq, List.mem_flatMap, Game.mem_stepMove, mem_knightDeltas]
  constructor
  · rintro ⟨d, hd, q, hq, hno, _, rfl⟩
    obtain ⟨rfl, hb⟩ := (Pos.add_eq_some_iff _ _ _).1 hq
    exact ⟨_, Pos.valid_mk hb, by simp only; omega, hno, rfl⟩
  · rintro ⟨q, hv, hgeo, hno, rfl⟩
    exact ⟨(q.row - p.row, q.col - p.col), hgeo, q, p.add_sub q hv, hno, trivial, rfl⟩


/-- **one ray of `search_deltas!`**, general fuel: the generated moves go to the empty squares before
the first piece of the ray and to that piece's square if it is not an own piece -/
theorem Game.rayMoves_iff (g : Game) (pc : Piece) (start : Pos) (d : Int × Int) (n : Nat) (p : Pos)
    (m : Move) :
    m ∈ g.rayMoves pc start p d n ↔
      ∃ k : Nat, 1 ≤ k ∧ k ≤ n ∧
        (onBoard (p.row + k * d.1, p.col + k * d.2) = true ∧
          (∀ o, g.abs.at (p.row + k * d.1, p.col + k * d.2) = some o → o.owner ≠ g.player) ∧
          m = .normal pc start ⟨p.row + k * d.1, p.col + k * d.2⟩
                (g.abs.at (p.row + k * d.1, p.col + k * d.2))) ∧
        ∀ j : Nat, 1 ≤ j → j < k →
          onBoard (p.row + j * d.1, p.col + j * d.2) = true ∧
          g.abs.at (p.row + j * d.1, p.col + j * d.2) = none := by
  induction n generalizing p with
  | zero =>
    simp only [Game.rayMoves, List.not_mem_nil, false_iff]
    rintro ⟨k, h1, h2, _⟩; omega
  | succ n ih =>
    unfold Game.rayMoves
    refine Iff.trans ?_ (exists_first_succ
      (fun k => onBoard (p.row + k * d.1, p.col + k * d.2) = true ∧
        (∀ o, g.abs.at (p.row + k * d.1, p.col + k * d.2) = some o → o.owner ≠ g.player) ∧
        m = .normal pc start ⟨p.row + k * d.1, p.col + k * d.2⟩
              (g.abs.at (p.row + k * d.1, p.col + k * d.2)))
      (fun j => onBoard (p.row + j * d.1, p.col + j * d.2) = true ∧
        g.abs.at (p.row + j * d.1, p.col + j * d.2) = none) n).symm
    simp only [ray_shift, Int.natCast_one, Int.one_mul]
    rw [← ih ⟨p.row + d.1, p.col + d.2⟩, Pos.add_eq]
    cases hb : onBoard (p.row + d.1, p.col + d.2) with
    | false => simp [APos.at_offBoard _ _ hb]
    | true =>
      simp only [if_true, g.get_mk hb]
      cases hc : g.abs.at (p.row + d.1, p.col + d.2) with
      | none => simp
      | some o => by_cases ho : o.owner = g.player <;> simp [ho]

/-- **`search_deltas!` over a list of unit rays** from a valid square -/
theorem Game.slideMoves_spec (g : Game) (pc : Piece) {p : Pos} (hp : p.Valid)
    (rays : List (Int × Int)) (hr : ∀ d ∈ rays, UnitDir d) (m : Move) :
    m ∈ g.slideMoves pc p rays ↔
      ∃ d ∈ rays, ∃ k : Nat, 1 ≤ k ∧ onBoard (p.row + k * d.1, p.col + k * d.2) = true ∧
        (∀ j : Nat, 1 ≤ j → j < k → g.abs.at (p.row + j * d.1, p.col + j * d.2) = none) ∧
        (∀ o, g.abs.at (p.row + k * d.1, p.col + k * d.2) = some o → o.owner ≠ g.player) ∧
        m = .normal pc p ⟨p.row + k * d.1, p.col + k * d.2⟩
              (g.abs.at (p.row + k * d.1, p.col + k * d.2)) := by
  unfold Game.slideMoves
  simp only [List.mem_flatMap, Game.rayMoves_iff]
  constructor
  · rintro ⟨d, hd, k, h1, _, ⟨hb, hno, rfl⟩, hj⟩
    exact ⟨d, hd, k, h1, hb, fun j a b => (hj j a b).2, hno, rfl⟩
  · rintro ⟨d, hd, k, h1, hb, hj, hno, rfl⟩
    exact ⟨d, hd, k, h1, ray_le_seven hp (hr d hd) hb, ⟨hb, hno, rfl⟩,
      fun j a b => ⟨ray_between_onBoard hp (hr d hd) hb b, hj j a b⟩⟩

theorem Game.slideMoves_attacks (g : Game) (pc : Piece) {p : Pos} (hp : p.Valid)
    (hty : pc.pieceType = .rook ∨ pc.pieceType = .bishop ∨ pc.pieceType = .queen)
    (rays : List (Int × Int)) (hr : ∀ d, d ∈ rays ↔ UnitDir d ∧ lineOK pc.pieceType d) (m : Move) :
    m ∈ g.slideMoves pc p rays ↔
      ∃ q : Pos, q.Valid ∧ attacksFrom g.abs pc (p.row, p.col) (q.row, q.col) = true ∧
        NotOwn g q ∧ m = .normal pc p q (g.get q) := by
  rw [g.slideMoves_spec pc hp rays (fun d hd => ((hr d).1 hd).1)]
  constructor
  · rintro ⟨d, hd, k, h1, hb, hj, hno, rfl⟩
    refine ⟨⟨_, _⟩, Pos.valid_mk hb, (attacksFrom_slider_iff_fwd _ _ _ _ hty).2
      ⟨d, k, ((hr d).1 hd).1, h1, rfl, ((hr d).1 hd).2, hj⟩, ?_, ?_⟩
    · intro o ho; exact hno o ((g.get_mk hb).symm.trans ho)
    · rw [g.get_mk hb]
  · rintro ⟨⟨qr, qc⟩, hv, hatt, hno, rfl⟩
    obtain ⟨e, k, he, hk, hq, hl, hc⟩ := (attacksFrom_slider_iff_fwd _ _ _ _ hty).1 hatt
    obtain ⟨rfl, rfl⟩ := Prod.mk.inj hq
    have hb := (Pos.valid_iff_onBoard _).1 hv
    exact ⟨e, (hr e).2 ⟨he, hl⟩, k, hk, hb, hc, fun o ho => hno o ((g.get_mk hb).trans ho),
      by rw [g.get_mk hb]⟩


/-- **From a generator's description to `Spec.pseudo`** for a piece that is neither pawn nor king:
if a list holds exactly the `Normal` moves of `pc` from `p` to the valid squares it attacks that
hold no own piece, then its `toSpec` image is exactly the set of pseudo-legal moves from `p`. -/
theorem Game.gen_pseudo_iff (g : Game) {pc : Piece} {p : Pos} (hp : p.Valid)
    (hg : g.get p = some pc) (hown : pc.owner = g.player)
    (hnp : pc.pieceType ≠ .pawn) (hnk : pc.pieceType ≠ .king) (L : List Move)
    (hL : ∀ m, m ∈ L ↔ ∃ q : Pos, q.Valid ∧
      attacksFrom g.abs pc (p.row, p.col) (q.row, q.col) = true ∧ NotOwn g q ∧
      m = .normal pc p q (g.get q)) (u : UciMove) :
    (pseudo g.abs u = true ∧ u.src = (p.row, p.col)) ↔ ∃ m ∈ L, m.toSpec = u := by
  have hat : g.abs.at (p.row, p.col) = some pc := (g.get_eq_at p hp).symm.trans hg
  constructor
  · rintro ⟨hps, hsrc⟩
    obtain ⟨us, ud, upr⟩ := u
    obtain rfl : us = (p.row, p.col) := hsrc
    obtain ⟨hb, _, hno, rfl, hatt⟩ := (pseudo_simple_iff g.abs _ _ _ pc hat hnp hnk).1 hps
    exact ⟨.normal pc p ⟨ud.1, ud.2⟩ (g.get ⟨ud.1, ud.2⟩),
      (hL _).2 ⟨_, Pos.valid_mk hb, hatt, fun o ho => hno o ((g.get_mk hb).symm.trans ho), rfl⟩, rfl⟩
  · rintro ⟨m, hm, rfl⟩
    obtain ⟨q, hv, hatt, hno, rfl⟩ := (hL m).1 hm
    have hb := (Pos.valid_iff_onBoard q).1 hv
    exact ⟨(pseudo_simple_iff g.abs _ _ _ pc hat hnp hnk).2
      ⟨hb, hown, fun o ho => hno o ((g.get_eq_at q hv).trans ho), rfl, hatt⟩, rfl⟩

/-- knight, rook, bishop, queen: `Piece::get_moves` yields the `Normal` moves to the valid squares
the piece attacks by the rules that hold no own piece -/
theorem Game.pieceMoves_simple_iff (g : Game) {pc : Piece} {p : Pos} (hp : p.Valid)
    (hnp : pc.pieceType ≠ .pawn) (hnk : pc.pieceType ≠ .king) (m : Move) :
    m ∈ g.pieceMoves pc p ↔ ∃ q : Pos, q.Valid ∧
      attacksFrom g.abs pc (p.row, p.col) (q.row, q.col) = true ∧ NotOwn g q ∧
      m = .normal pc p q (g.get q) := by
  unfold Game.pieceMoves
  cases hty : pc.pieceType with
  | pawn => exact absurd hty hnp
  | king => exact absurd hty hnk
  | knight => exact g.knightMoves_attacks pc hty p m
  | rook =>
    refine g.slideMoves_attacks pc hp (.inl hty) _ (fun d => ?_) m
    rw [mem_rookRays, hty]; rfl
  | bishop =>
    refine g.slideMoves_attacks pc hp (.inr (.inl hty)) _ (fun d => ?_) m
    rw [mem_bishopRays, hty]; rfl
  | queen =>
    refine g.slideMoves_attacks pc hp (.inr (.inr hty)) _ (fun d => ?_) m
    rw [mem_queenRays, hty]; simp only [lineOK, and_true]

/-- **L2 for knight, rook, bishop and queen**: for an own piece `pc` of one of these kinds on the
valid square `p`, `Piece::get_moves` yields (up to `toSpec`) exactly the pseudo-legal moves of the
rules that start on `p`. -/
theorem Game.pieceMoves_pseudo_iff (g : Game) {pc : Piece} {p : Pos} (hp : p.Valid)
    (hg : g.get p = some pc) (hown : pc.owner = g.player)
    (hnp : pc.pieceType ≠ .pawn) (hnk : pc.pieceType ≠ .king) (u : UciMove) :
    (pseudo g.abs u = true ∧ u.src = (p.row, p.col)) ↔ ∃ m ∈ g.pieceMoves pc p, m.toSpec = u :=
  g.gen_pseudo_iff hp hg hown hnp hnk _ (g.pieceMoves_simple_iff hp hnp hnk) u


/-! ## Non-vacuity: a concrete position on which hypotheses and conclusions are exercised -/

/-- white Ke1, Qd2, Ng1; black Ra1, Ke8; white to move -/
def demoBoard_x : Vector (Option Piece) 64 :=
  (((((Vector.replicate 64 none).set 4 (some ⟨.king, .white⟩)).set 0 (some ⟨.rook, .black⟩)).set 60
    (some ⟨.king, .black⟩)).set 11 (some ⟨.queen, .white⟩)).set 6 (some ⟨.knight, .white⟩)

def demo_x : Game :=
  { score := 0, player := .white, moveStack := [], endgame := false, hash := 0,
    board := demoBoard_x, pastScores := Vector.replicate 64 0, pastHashes := Vector.replicate 64 0,
    wking := ⟨0, 4⟩, bking := ⟨7, 4⟩, state := [8] }

-- the rook on a1 gives check along the first rank: both sides of the main theorem are `true`
example : demo_x.isTargeted ⟨0, 4⟩ .white = true := by decide
example : attacked demo_x.abs (0, 4) .black = true := by decide
example : demo_x.firstOnRay ⟨0, 4⟩ (0, -1) 7 = some ⟨.rook, .black⟩ := by decide
-- … and both are `false` one square up
example : demo_x.isTargeted ⟨1, 4⟩ .white = false := by decide
example : attacked demo_x.abs (1, 4) .black = false := by decide
-- the main theorem instantiated
example : demo_x.isTargeted ⟨0, 4⟩ .white = attacked demo_x.abs (0, 4) .black :=
  demo_x.isTargeted_iff_attacked (p := ⟨0, 4⟩) (by decide) .white
-- the hypotheses of `kingSafe_iff'` hold here
example : (demo_x.kingPos .white).Valid ∧ kingSq demo_x.abs .white = some (0, 4) := by decide
example : (!demo_x.isTargeted (demo_x.kingPos .white) .white) = !inCheck demo_x.abs .white :=
  demo_x.kingSafe_iff' .white (by decide) (by decide)
-- the generators are not empty and the pseudo-legal set is not empty
example : (demo_x.knightMoves ⟨.knight, .white⟩ ⟨0, 6⟩).length = 3 := by decide
example : (demo_x.pieceMoves ⟨.queen, .white⟩ ⟨1, 3⟩).length = 22 := by decide
example : pseudo demo_x.abs ⟨(0, 6), (2, 5), none⟩ = true := by decide
example : ∃ m ∈ demo_x.pieceMoves ⟨.knight, .white⟩ ⟨0, 6⟩, m.toSpec = ⟨(0, 6), (2, 5), none⟩ :=
  (demo_x.pieceMoves_pseudo_iff (p := ⟨0, 6⟩) (by decide) (by decide) (by decide) (by decide)
    (by decide) _).1 ⟨by decide, rfl⟩

/-- Off the board `Spec.APos.at` reads `none` (`APos.at_offBoard`), but
`Game.get` does *not*: it only tests `idx < 64`, and `idx` aliases, e.g. `⟨0, 11⟩` with `⟨1, 3⟩`.
Every square the scanners read comes out of `Pos.add`, hence is valid, so this never matters for
`isTargeted` — but "`get` is `none` off the board" is false as a statement about the model. -/
example : demo_x.get ⟨0, 11⟩ = some ⟨.queen, .white⟩ ∧ demo_x.abs.at (0, 11) = none := by decide

end Chess

#print axioms Chess.Game.get_eq_at
#print axioms Chess.Pos.add_eq_some_iff
#print axioms Chess.Game.firstOnRay_iff
#print axioms Chess.Game.firstOnRay_iff_get
#print axioms Chess.Game.firstOnRay_seven_iff
#print axioms Chess.Game.firstOnRay_fuel
#print axioms Chess.Game.isTargeted_iff_attacked
#print axioms Chess.Game.kingSq_eq_kingPos
#print axioms Chess.Game.kingSafe_iff'
#print axioms Chess.Game.kingSafe_iff
#print axioms Chess.Game.rayMoves_iff
#print axioms Chess.Game.slideMoves_spec
#print axioms Chess.Game.slideMoves_attacks
#print axioms Chess.Game.gen_pseudo_iff
#print axioms Chess.Game.pieceMoves_pseudo_iff
