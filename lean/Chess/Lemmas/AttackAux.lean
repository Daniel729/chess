import Chess.Lemmas.Defs

/-!
# The two views of the board, the geometry of the generated delta tables, the ray scan
-/
namespace Chess

open Spec

theorem Player.ne_iff_eq_other (a b : Player) : a ≠ b ↔ a = b.other := by
  cases a <;> cases b <;> decide

/-! ## The two views of the board -/

theorem Spec.onBoard_iff (s : Sq) : onBoard s = true ↔ 0 ≤ s.1 ∧ s.1 < 8 ∧ 0 ≤ s.2 ∧ s.2 < 8 := by
  simp only [onBoard, Bool.and_eq_true, decide_eq_true_eq, and_assoc]

theorem Pos.valid_iff_onBoard (p : Pos) : p.Valid ↔ onBoard (p.row, p.col) = true :=
  (Spec.onBoard_iff (p.row, p.col)).symm

/-- `valid_iff_onBoard` for a square given by its coordinates (so that `r`, `c` are found by
first-order unification) -/
theorem Pos.valid_mk {r c : Int} (h : onBoard (r, c) = true) : (Pos.mk r c).Valid :=
  (Pos.valid_iff_onBoard ⟨r, c⟩).2 h

theorem Spec.APos.at_offBoard (a : APos) (s : Sq) (h : onBoard s = false) : a.at s = none := by
  unfold APos.at; simp [h]

theorem Spec.APos.onBoard_of_at {a : APos} {s : Sq} {pc : Piece} (h : a.at s = some pc) :
    onBoard s = true := by
  cases hb : onBoard s
  · rw [a.at_offBoard s hb] at h; cases h
  · rfl

/-- on a valid square the engine's `get` and the rules' `at` read the same cell `board[r*8+c]` -/
theorem Game.get_eq_at (g : Game) (p : Pos) (hp : p.Valid) : g.get p = g.abs.at (p.row, p.col) := by
  have hb : onBoard (p.row, p.col) = true := (Pos.valid_iff_onBoard p).1 hp
  have hi : p.idx < 64 := Pos.idx_lt hp
  unfold Game.get APos.at
  simp only [hi, hb, ↓reduceDIte, ↓reduceIte]
  show g.board[p.idx] = g.board.toArray.getD p.idx none
  simp [Array.getD, hi]

theorem Game.get_mk (g : Game) {r c : Int} (h : onBoard (r, c) = true) :
    g.get ⟨r, c⟩ = g.abs.at (r, c) :=
  g.get_eq_at ⟨r, c⟩ (Pos.valid_mk h)

/-- `Position::add` in closed form -/
theorem Pos.add_eq (p : Pos) (d : Int × Int) :
    p.add d = if onBoard (p.row + d.1, p.col + d.2) = true then some ⟨p.row + d.1, p.col + d.2⟩
      else none := rfl

theorem Pos.add_eq_some_iff (p q : Pos) (d : Int × Int) :
    p.add d = some q ↔ q = ⟨p.row + d.1, p.col + d.2⟩ ∧ onBoard (q.row, q.col) = true := by
  rw [Pos.add_eq]
  constructor
  · intro h
    split at h
    · rename_i hb
      cases h; exact ⟨rfl, hb⟩
    · cases h
  · rintro ⟨rfl, hb⟩
    exact if_pos hb

theorem Pos.add_sub (p q : Pos) (hq : q.Valid) :
    p.add (q.row - p.row, q.col - p.col) = some q := by
  rw [Pos.add_eq_some_iff]
  refine ⟨?_, (Pos.valid_iff_onBoard q).1 hq⟩
  cases q; simp only [Pos.mk.injEq]; omega

theorem Pos.add_eq_none_iff (p : Pos) (d : Int × Int) :
    p.add d = none ↔ onBoard (p.row + d.1, p.col + d.2) = false := by
  rw [Pos.add_eq]
  cases onBoard (p.row + d.1, p.col + d.2) <;> simp

/-- reading the square reached by `add`: in all cases what the rules see at `p + d` -/
theorem Game.get_add (g : Game) (p : Pos) (d : Int × Int) :
    (match p.add d with | none => none | some q => g.get q) = g.abs.at (p.row + d.1, p.col + d.2) := by
  rw [Pos.add_eq]
  cases hb : onBoard (p.row + d.1, p.col + d.2) with
  | false => exact (APos.at_offBoard _ _ hb).symm
  | true => exact g.get_mk hb

/-! ## `sgn` -/

theorem Spec.sgn_pos {x : Int} (h : 0 < x) : sgn x = 1 := by unfold sgn; simp [h]
theorem Spec.sgn_neg {x : Int} (h : x < 0) : sgn x = -1 := by
  unfold sgn; rw [if_neg (by omega), if_pos h]
theorem Spec.sgn_zero : sgn 0 = 0 := by decide
theorem Spec.sgn_cases (x : Int) : (0 < x ∧ sgn x = 1) ∨ (x < 0 ∧ sgn x = -1) ∨ (x = 0 ∧ sgn x = 0) := by
  rcases Int.lt_trichotomy x 0 with h | h | h
  · exact .inr (.inl ⟨h, sgn_neg h⟩)
  · subst h; exact .inr (.inr ⟨rfl, sgn_zero⟩)
  · exact .inl ⟨h, sgn_pos h⟩
theorem Spec.natAbs_mul_sgn (x : Int) : (x.natAbs : Int) * sgn x = x := by
  rcases sgn_cases x with ⟨h, e⟩ | ⟨h, e⟩ | ⟨h, e⟩ <;> rw [e] <;> omega

/-! ## Geometry of the generated tables

Each characterisation unfolds the generated literal list, so a wrong delta in the source breaks it. -/

/-- one of the eight compass directions -/
def UnitDir (d : Int × Int) : Prop :=
  (d.1 = -1 ∨ d.1 = 0 ∨ d.1 = 1) ∧ (d.2 = -1 ∨ d.2 = 0 ∨ d.2 = 1) ∧ (d.1 ≠ 0 ∨ d.2 ≠ 0)

theorem unitDir_iff_max (d : Int × Int) : UnitDir d ↔ max d.1.natAbs d.2.natAbs = 1 := by
  unfold UnitDir; omega

theorem mem_queenRays (d : Int × Int) : d ∈ Gen.queenRays ↔ UnitDir d := by
  obtain ⟨a, b⟩ := d
  simp only [Gen.queenRays, UnitDir, List.mem_cons, Prod.mk.injEq, List.not_mem_nil, or_false]
  omega

theorem mem_rookRays (d : Int × Int) :
    d ∈ Gen.rookRays ↔ UnitDir d ∧ (d.1 = 0 ∨ d.2 = 0) := by
  obtain ⟨a, b⟩ := d
  simp only [Gen.rookRays, UnitDir, List.mem_cons, Prod.mk.injEq, List.not_mem_nil, or_false]
  omega

theorem mem_bishopRays (d : Int × Int) :
    d ∈ Gen.bishopRays ↔ UnitDir d ∧ d.1 ≠ 0 ∧ d.2 ≠ 0 := by
  obtain ⟨a, b⟩ := d
  simp only [Gen.bishopRays, UnitDir, List.mem_cons, Prod.mk.injEq, List.not_mem_nil, or_false]
  omega

theorem mem_knightDeltas (d : Int × Int) :
    d ∈ Gen.knightDeltas ↔
      (d.1.natAbs = 1 ∧ d.2.natAbs = 2) ∨ (d.1.natAbs = 2 ∧ d.2.natAbs = 1) := by
  obtain ⟨a, b⟩ := d
  simp only [Gen.knightDeltas, List.mem_cons, Prod.mk.injEq, List.not_mem_nil, or_false]
  omega

/-! The tables of the attack scan repeat those of the generators: literally for knights and rays,
in another order for the king. -/

theorem mem_tKnightDeltas (d : Int × Int) :
    d ∈ Gen.tKnightDeltas ↔
      (d.1.natAbs = 1 ∧ d.2.natAbs = 2) ∨ (d.1.natAbs = 2 ∧ d.2.natAbs = 1) :=
  mem_knightDeltas d

theorem mem_tLineRays (d : Int × Int) :
    d ∈ Gen.tLineRays ↔ UnitDir d ∧ (d.1 = 0 ∨ d.2 = 0) :=
  mem_rookRays d

theorem mem_tDiagRays (d : Int × Int) :
    d ∈ Gen.tDiagRays ↔ UnitDir d ∧ d.1 ≠ 0 ∧ d.2 ≠ 0 :=
  mem_bishopRays d

theorem mem_kingDeltas (d : Int × Int) :
    d ∈ Gen.kingDeltas ↔ max d.1.natAbs d.2.natAbs = 1 :=
  ((by decide : Gen.kingDeltas.Perm Gen.queenRays).mem_iff).trans
    ((mem_queenRays d).trans (unitDir_iff_max d))

theorem mem_tKingDeltas (d : Int × Int) :
    d ∈ Gen.tKingDeltas ↔ max d.1.natAbs d.2.natAbs = 1 :=
  ((by decide : Gen.tKingDeltas.Perm Gen.queenRays).mem_iff).trans
    ((mem_queenRays d).trans (unitDir_iff_max d))

theorem mem_tPawnW (d : Int × Int) : d ∈ Gen.tPawnW ↔ d.1 = 1 ∧ d.2.natAbs = 1 := by
  obtain ⟨a, b⟩ := d
  simp only [Gen.tPawnW, List.mem_cons, Prod.mk.injEq, List.not_mem_nil, or_false]
  omega

theorem mem_tPawnB (d : Int × Int) : d ∈ Gen.tPawnB ↔ d.1 = -1 ∧ d.2.natAbs = 1 := by
  obtain ⟨a, b⟩ := d
  simp only [Gen.tPawnB, List.mem_cons, Prod.mk.injEq, List.not_mem_nil, or_false]
  omega

/-! ## The ray scan -/

/-- Some `k` in `1 … n+1` has `Q`, with `E` at all of `1 … k-1`: either `Q 1`, or `E 1` and the same
from `1` on within `n`. The step of every induction along a ray. -/
theorem exists_first_succ (Q E : Nat → Prop) (n : Nat) :
    (∃ k, 1 ≤ k ∧ k ≤ n + 1 ∧ Q k ∧ ∀ j, 1 ≤ j → j < k → E j) ↔
      Q 1 ∨ (E 1 ∧ ∃ k, 1 ≤ k ∧ k ≤ n ∧ Q (k + 1) ∧ ∀ j, 1 ≤ j → j < k → E (j + 1)) := by
  constructor
  · rintro ⟨k, h1, hn, hq, he⟩
    by_cases hk : k = 1
    · exact .inl (hk ▸ hq)
    · obtain ⟨k, rfl⟩ : ∃ k', k = k' + 1 := ⟨k - 1, by omega⟩
      exact .inr ⟨he 1 (by omega) (by omega), k, by omega, by omega, hq,
        fun j a b => he (j + 1) (by omega) (by omega)⟩
  · rintro (hq | ⟨h1, k, hk, hn, hq, he⟩)
    · exact ⟨1, by omega, by omega, hq, fun j a b => by omega⟩
    · refine ⟨k + 1, by omega, by omega, hq, fun j a b => ?_⟩
      by_cases hj : j = 1
      · exact hj ▸ h1
      · obtain ⟨j, rfl⟩ : ∃ j', j = j' + 1 := ⟨j - 1, by omega⟩
        exact he j (by omega) (by omega)

theorem ray_shift (r x : Int) (k : Nat) : r + ((k + 1 : Nat) : Int) * x = r + x + k * x := by
  rw [Int.natCast_add, Int.add_mul, Int.natCast_one, Int.one_mul]; omega

/-- **Ray lemma**, general fuel: the scan finds the first piece within `n` steps, the squares before
it being on the board and empty. No hypothesis on `p` or `d` is needed. -/
theorem Game.firstOnRay_iff (g : Game) (d : Int × Int) (n : Nat) (p : Pos) (pc : Piece) :
    g.firstOnRay p d n = some pc ↔
      ∃ k : Nat, 1 ≤ k ∧ k ≤ n ∧ g.abs.at (p.row + k * d.1, p.col + k * d.2) = some pc ∧
        ∀ j : Nat, 1 ≤ j → j < k →
          onBoard (p.row + j * d.1, p.col + j * d.2) = true ∧
          g.abs.at (p.row + j * d.1, p.col + j * d.2) = none := by
  induction n generalizing p with
  | zero => exact ⟨(nomatch ·), fun ⟨k, h1, h2, _⟩ => by omega⟩
  | succ n ih =>
    unfold Game.firstOnRay
    refine Iff.trans ?_ (exists_first_succ
      (fun k => g.abs.at (p.row + k * d.1, p.col + k * d.2) = some pc)
      (fun j => onBoard (p.row + j * d.1, p.col + j * d.2) = true ∧
        g.abs.at (p.row + j * d.1, p.col + j * d.2) = none) n).symm
    simp only [ray_shift, Int.natCast_one, Int.one_mul]
    rw [← ih ⟨p.row + d.1, p.col + d.2⟩, Pos.add_eq]
    cases hb : onBoard (p.row + d.1, p.col + d.2) with
    | false => simp [APos.at_offBoard _ _ hb]
    | true =>
      simp only [if_true, g.get_mk hb]
      cases g.abs.at (p.row + d.1, p.col + d.2) <;> simp

/-! ## Geometry of rays on the 8×8 board -/

theorem ray_le_seven {p : Pos} (hp : p.Valid) {d : Int × Int} (hd : UnitDir d) {k : Nat}
    (hb : onBoard (p.row + k * d.1, p.col + k * d.2) = true) : k ≤ 7 := by
  obtain ⟨a, b⟩ := d
  rw [Spec.onBoard_iff] at hb
  obtain ⟨ha, hb', hne⟩ := hd
  unfold Pos.Valid at hp
  simp only at *
  rcases ha with rfl | rfl | rfl <;> rcases hb' with rfl | rfl | rfl <;> omega

theorem ray_between_onBoard {p : Pos} (hp : p.Valid) {d : Int × Int} (hd : UnitDir d) {k j : Nat}
    (hb : onBoard (p.row + k * d.1, p.col + k * d.2) = true) (hj : j < k) :
    onBoard (p.row + j * d.1, p.col + j * d.2) = true := by
  obtain ⟨a, b⟩ := d
  rw [Spec.onBoard_iff] at hb ⊢
  obtain ⟨ha, hb', hne⟩ := hd
  unfold Pos.Valid at hp
  simp only at *
  rcases ha with rfl | rfl | rfl <;> rcases hb' with rfl | rfl | rfl <;> omega

theorem Spec.sgn_unit (r : Int) {k : Nat} (hk : 1 ≤ k) {x : Int} (hx : x = -1 ∨ x = 0 ∨ x = 1) :
    sgn (r + k * x - r) = x := by
  rcases hx with rfl | rfl | rfl
  · rw [sgn_neg (by omega)]
  · rw [show r + (k : Int) * 0 - r = 0 by omega, sgn_zero]
  · rw [sgn_pos (by omega)]

theorem natAbs_ray (r : Int) (k : Nat) {x : Int} (hx : x = -1 ∨ x = 0 ∨ x = 1) :
    (r + k * x - r).natAbs = if x = 0 then 0 else k := by
  rcases hx with rfl | rfl | rfl <;> simp <;> omega

theorem max_natAbs_ray (r c : Int) {d : Int × Int} (hd : UnitDir d) (k : Nat) :
    max (r + k * d.1 - r).natAbs (c + k * d.2 - c).natAbs = k := by
  obtain ⟨hx, hy, hne⟩ := hd
  rw [natAbs_ray r k hx, natAbs_ray c k hy]
  split <;> split <;> omega

/-- the rules' "nothing between" along a ray that starts at `s` -/
theorem Spec.clearBetween_ray (a : APos) (s : Sq) {d : Int × Int} (hd : UnitDir d) {k : Nat}
    (hk : 1 ≤ k) :
    clearBetween a s (s.1 + k * d.1, s.2 + k * d.2) = true ↔
      ∀ j : Nat, 1 ≤ j → j < k → a.at (s.1 + j * d.1, s.2 + j * d.2) = none := by
  unfold clearBetween
  simp only [sgn_unit s.1 hk hd.1, sgn_unit s.2 hk hd.2.1, max_natAbs_ray s.1 s.2 hd k,
    List.all_eq_true, List.mem_range, Bool.or_eq_true, decide_eq_true_eq,
    Option.isNone_iff_eq_none, Int.mul_comm d.1, Int.mul_comm d.2]
  constructor
  · intro h j hj1 hj2
    exact (h j hj2).resolve_left (by omega)
  · intro h i hi
    by_cases hi0 : i = 0
    · exact .inl hi0
    · exact .inr (h i (by omega) hi)

theorem Spec.sgn_eq_zero_iff (x : Int) : sgn x = 0 ↔ x = 0 := by
  rcases sgn_cases x with ⟨h, e⟩ | ⟨h, e⟩ | ⟨h, e⟩ <;> rw [e] <;> omega

theorem Spec.sgn_unit_val (x : Int) : sgn x = -1 ∨ sgn x = 0 ∨ sgn x = 1 := by
  rcases sgn_cases x with ⟨_, e⟩ | ⟨_, e⟩ | ⟨_, e⟩ <;> rw [e] <;> decide

/-- a coordinate difference that is zero or of full length is `k` steps of its sign -/
theorem Spec.mul_sgn_of_line {x : Int} {k : Nat} (h : x = 0 ∨ x.natAbs = k) : (k : Int) * sgn x = x := by
  rcases h with rfl | rfl
  · rw [sgn_zero, Int.mul_zero]
  · exact natAbs_mul_sgn x

/-- two distinct squares on a common rank, file or diagonal: `t` is `k ≥ 1` unit steps from `s` -/
theorem line_decomp (s t : Sq)
    (h : (t.1 - s.1 = 0 ∨ t.2 - s.2 = 0 ∨ (t.1 - s.1).natAbs = (t.2 - s.2).natAbs) ∧
      (t.1 - s.1 ≠ 0 ∨ t.2 - s.2 ≠ 0)) :
    ∃ (d : Int × Int) (k : Nat), UnitDir d ∧ 1 ≤ k ∧ t = (s.1 + k * d.1, s.2 + k * d.2) := by
  obtain ⟨s1, s2⟩ := s
  obtain ⟨t1, t2⟩ := t
  simp only at h
  have h1 := mul_sgn_of_line (x := t1 - s1) (k := max (t1 - s1).natAbs (t2 - s2).natAbs) (by omega)
  have h2 := mul_sgn_of_line (x := t2 - s2) (k := max (t1 - s1).natAbs (t2 - s2).natAbs) (by omega)
  refine ⟨(sgn (t1 - s1), sgn (t2 - s2)), max (t1 - s1).natAbs (t2 - s2).natAbs,
    ⟨sgn_unit_val _, sgn_unit_val _, ?_⟩, by omega, ?_⟩
  · simp only [ne_eq, sgn_eq_zero_iff]; exact h.2
  · rw [h1, h2, Prod.mk.injEq]; omega

theorem ray_coord_zero (r : Int) {k : Nat} (hk : 1 ≤ k) {x : Int} (hx : x = -1 ∨ x = 0 ∨ x = 1) :
    r + k * x - r = 0 ↔ x = 0 := by
  rcases hx with rfl | rfl | rfl <;> omega

/-- conversely, `k ≥ 1` unit steps lead to a square on a common line -/
theorem ray_onLine (s : Sq) {d : Int × Int} (hd : UnitDir d) {k : Nat} (hk : 1 ≤ k) :
    (s.1 + k * d.1 - s.1 = 0 ∨ s.2 + k * d.2 - s.2 = 0 ∨
      (s.1 + k * d.1 - s.1).natAbs = (s.2 + k * d.2 - s.2).natAbs) ∧
    (s.1 + k * d.1 - s.1 ≠ 0 ∨ s.2 + k * d.2 - s.2 ≠ 0) := by
  rw [natAbs_ray s.1 k hd.1, natAbs_ray s.2 k hd.2.1, Ne, Ne, ray_coord_zero s.1 hk hd.1,
    ray_coord_zero s.2 hk hd.2.1]
  refine ⟨?_, hd.2.2⟩
  split <;> split <;> omega

theorem ray_flip (x : Int) {k j : Nat} (h : j ≤ k) (d : Int) :
    x + k * d + j * (-d) = x + ((k - j : Nat) : Int) * d := by
  rw [Int.natCast_sub h, Int.sub_mul, Int.mul_neg]; omega

end Chess

#print axioms Chess.Game.get_eq_at
#print axioms Chess.Pos.add_eq_some_iff
#print axioms Chess.Game.firstOnRay_iff
#print axioms Chess.Spec.clearBetween_ray
#print axioms Chess.line_decomp
