import Chess.Model.Autoplay
import Chess.Lemmas.Reach
import Chess.Lemmas.SearchF
import Chess.Lemmas.Bounds

/-!
# Self-play of unbounded length stays among the reachable games below the length guard
-/
namespace Chess.Auto
open Chess Chess.Search

/-- what every round starts from -/
def Inv (s : AState) : Prop :=
  Reach s.g ∧ TTInv Uci.chessOps Game.WF s.tt ∧ s.g.len < Gen.autoLenGuard

theorem step_inv (hz : ZobristOk) (runs : Nat → Bool) {s s' : AState} (h : Inv s)
    (hs : step runs s = some s') : Inv s' := by
  obtain ⟨hr, ht, _⟩ := h
  unfold step at hs
  simp only at hs
  have snd := Chess.Search.F.driverF_sound hz chess_closed runs s.g s.tt false none (reach_wf hr) ht
  cases hf : (driverF Uci.chessOps runs s.g s.tt false none).found with
  | none => rw [hf] at hs; cases hs
  | some m =>
    rw [hf] at hs
    simp only at hs
    split at hs
    · cases hs
    · rename_i hlen
      cases hs
      have hm : m ∈ (s.g.getMoves true).1 := snd.2.1 m hf
      exact ⟨Reach.played s.g m hr hm, snd.1, by simpa using hlen⟩

theorem run_inv (hz : ZobristOk) (rs : List (Nat → Bool)) (s : AState) (h : Inv s) :
    ∀ g ∈ run rs s, Reach g ∧ g.len < Gen.autoLenGuard := by
  induction rs generalizing s with
  | nil => intro g hg; simp only [run, List.mem_singleton] at hg; subst hg; exact ⟨h.1, h.2.2⟩
  | cons r rs ih =>
    intro g hg
    simp only [run, List.mem_cons] at hg
    rcases hg with rfl | hg
    · exact ⟨h.1, h.2.2⟩
    · cases hs : step r s with
      | none => rw [hs] at hg; cases hg
      | some s' => rw [hs] at hg; exact ih s' (step_inv hz r h hs) g hg

/-- **Self-play of any length, under any timer schedule**: every game the loop searches is
reachable (so all theorems about reachable games apply: squares, stack, tables, score range) and
shorter than the guard, so the search that follows has its stack room. -/
theorem selfplay_stays_in_bounds (hz : ZobristOk) (g0 : Game) (h0 : Uci.defaultGame = some g0)
    (rs : List (Nat → Bool)) :
    ∀ g ∈ run rs ⟨g0, {}⟩, Reach g ∧ g.len < Gen.autoLenGuard ∧ g.len < Gen.lenGuard := by
  have hlen : g0.len < Gen.autoLenGuard := by
    rw [Chess.Bounds.defaultGame_len h0]; decide
  have hr : Reach g0 := by
    -- `unfold` would also simplify the `match`, evaluating the reader on the start position
    rw [Uci.defaultGame] at h0
    generalize hok : Game.ofFen Uci.startFen = r at h0
    cases r with
    | ok g => cases h0; exact Reach.imported _ _ hok
    | _ => cases h0
  intro g hg
  have := run_inv hz rs ⟨g0, {}⟩ ⟨hr, TTInv_empty _ _, hlen⟩ g hg
  exact ⟨this.1, this.2, by have : Gen.autoLenGuard ≤ Gen.lenGuard := by decide
                            omega⟩

end Chess.Auto
