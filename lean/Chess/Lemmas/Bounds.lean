import Chess.Lemmas.Reach
import Chess.Lemmas.KeyFacts
import Chess.Lemmas.Pseudo
import Chess.Lemmas.RefineShape
import Chess.Lemmas.ScoreRangeAux

/-!
# C15 — the unchecked fast paths stay within bounds

The Rust source skips bounds checks (`get_unchecked`, `get_unchecked_mut`, `push_unchecked`,
`unwrap_unchecked`, `add_unsafe`, `new_unsafe`).  In the model the mirrored operations are total,
so "the index is inside" is a separate obligation per site class; this file discharges them:

1. square indexing (`get_position`, `set_position`, `Piece::score`, `Piece::hash`,
   `GameState::hash`, `add_unsafe` in `get_pawn_moves`);
2. the state stack is never empty (`state()`), also right after `pop`'s truncate;
3. history / killer indices;
4. the state stack stays below its capacity (`push`'s `push_unchecked`);
5. the move buffer (`get_moves`' `push_unchecked`): NOT proved, named hypothesis `MoveCountBound`,
   with crude per-piece bounds;
6. the inventory of unchecked sites (generated from the Rust source) is covered by 1–5.
-/
namespace Chess.Bounds

open Chess Chess.Game

/-! ## 1. Square indexing -/

/-! ### 1a. the squares written by `push` / `pop` -/

/-- the squares `push` and `pop` pass to `set_position` -/
def touched (m : Move) : List Pos := (writes m).map (·.1) ++ (unwrites m).map (·.1)

/-- `unwrites` is exactly what the board part of `pop` does, up to the king cache -/
theorem unapplyMove_eq_unwrites (g : Game) (m : Move) :
    ∃ wk bk, unapplyMove g m = { g.setMany (unwrites m) with wking := wk, bking := bk } := by
  have same : ∀ G : Game, ∃ wk bk, G = { G with wking := wk, bking := bk } :=
    fun G => ⟨G.wking, G.bking, rfl⟩
  have king : ∀ (G : Game) pl p, ∃ wk bk, G.setKingPos pl p = { G with wking := wk, bking := bk } := by
    intro G pl p
    cases pl
    · exact ⟨p, G.bking, rfl⟩
    · exact ⟨G.wking, p, rfl⟩
  cases m with
  | normal pc s e cap =>
    simp only [unapplyMove, unwrites, setMany]
    split
    · exact king _ _ _
    · exact same _
  | promotion o t s e cap => exact same _
  | enPassant o sc ec => cases o <;> exact same _
  | castlingLong o => exact king _ _ _
  | castlingShort o => exact king _ _ _

theorem unapplyMove_board (g : Game) (m : Move) :
    (unapplyMove g m).board = (g.setMany (unwrites m)).board := by
  obtain ⟨wk, bk, h⟩ := unapplyMove_eq_unwrites g m
  rw [h]

/-- **every square that `push` and `pop` of a fitting move hand to `set_position` is on the
board** (`get_unchecked_mut` ×3 in `set_position`, and through it `Piece::score`/`Piece::hash`) -/
theorem pos_valid_of_fits {g : Game} {m : Move} (hf : g.Fits m) : ∀ p ∈ touched m, p.Valid := by
  intro p hp
  simp only [touched, List.mem_append, List.mem_map] at hp
  obtain ⟨e, he, rfl⟩ | ⟨e, he, rfl⟩ := hp
  · exact writes_valid hf e he
  · exact unwrites_valid hf e he

/-- the two `get_position` probes of `push` after a pawn's double step (`stop.col > 0`,
`stop.col < 7` guards) -/
theorem ep_probe_valid {stop : Pos} (h : stop.Valid) :
    (stop.col > 0 → (⟨stop.row, stop.col - 1⟩ : Pos).Valid)
    ∧ (stop.col < 7 → (⟨stop.row, stop.col + 1⟩ : Pos).Valid) := by
  unfold Pos.Valid at *
  simp only
  omega

/-! ### 1b. the squares read by the generators -/

/-- **`add_unsafe` in `get_pawn_moves`**: a pawn on its first row has both squares of the double
step on the board (White: row 1, deltas (1,0) and (2,0); Black: row 6, (-1,0) and (-2,0) — the
GENERATED constants) -/
theorem double_push_in_board {p : Pos} (hp : p.Valid) :
    (p.row = Gen.pawnFirstRowW →
      (p.addUnsafe Gen.pawnDeltaW).Valid ∧ (p.addUnsafe Gen.pawnFirstDeltaW).Valid)
    ∧ (p.row = Gen.pawnFirstRowB →
      (p.addUnsafe Gen.pawnDeltaB).Valid ∧ (p.addUnsafe Gen.pawnFirstDeltaB).Valid) := by
  unfold Pos.Valid at *
  simp only [Gen.pawnFirstRowW, Gen.pawnFirstRowB, Gen.pawnDeltaW, Gen.pawnDeltaB,
    Gen.pawnFirstDeltaW, Gen.pawnFirstDeltaB, Pos.addUnsafe]
  omega

/-- the constants `get_pawn_moves` selects by owner -/
def pawnConsts (o : Player) : Int × (Int × Int) × (Int × Int) :=
  match o with
  | .white => (Gen.pawnFirstRowW, Gen.pawnDeltaW, Gen.pawnFirstDeltaW)
  | .black => (Gen.pawnFirstRowB, Gen.pawnDeltaB, Gen.pawnFirstDeltaB)

theorem double_push_in_board' {p : Pos} (hp : p.Valid) (o : Player)
    (hr : p.row = (pawnConsts o).1) :
    (p.addUnsafe (pawnConsts o).2.1).Valid ∧ (p.addUnsafe (pawnConsts o).2.2).Valid := by
  cases o
  · exact (double_push_in_board hp).1 hr
  · exact (double_push_in_board hp).2 hr

/-- the constants of the double step are the rules': start row, one step and two steps forward
(`Game.pawnMoves_eq` reads the double step of `pawnMoves` as `Game.pawnDbl` at the latter) -/
theorem pawnMoves_dbl_consts (o : Player) :
    (pawnConsts o).1 = Spec.pawnStartRow o ∧ (pawnConsts o).2.1 = (Spec.forward o, 0)
      ∧ (pawnConsts o).2.2 = (2 * Spec.forward o, 0) := by
  cases o <;> exact ⟨rfl, rfl, rfl⟩

/-- **the squares the generators read are on the board**, one fact per kind: the loop squares;
every result of `Position::add`; the literal castling squares; the cached king squares; the double
step (that the generators read no other kind of square is not part of the statement) -/
theorem generator_squares_valid :
    (∀ p ∈ allSquares, p.Valid)
    ∧ (∀ (p q : Pos) (d : Int × Int), p.add d = some q → q.Valid)
    ∧ (∀ (pl : Player) (c : Int), 0 ≤ c → c < 8 → (⟨homeRow pl, c⟩ : Pos).Valid)
    ∧ (∀ (g : Game) (pl : Player), g.KingInv → (g.kingPos pl).Valid)
    ∧ (∀ (p : Pos) (o : Player), p.Valid → p.row = (pawnConsts o).1 →
        (p.addUnsafe (pawnConsts o).2.1).Valid ∧ (p.addUnsafe (pawnConsts o).2.2).Valid) :=
  ⟨fun _ h => allSquares_valid h, fun _ _ _ h => Pos.add_valid h, homeRow_valid,
    fun _ pl h => h.kvalid pl, fun _ o hp hr => double_push_in_board' hp o hr⟩

/-- on a valid square `get_position` is a genuine array read -/
theorem get_eq_getElem (g : Game) {p : Pos} (hp : p.Valid) :
    g.get p = g.board[p.idx]'(Pos.idx_lt hp) := by
  unfold Game.get
  rw [dif_pos (Pos.idx_lt hp)]

/-- on a valid square `set_position` takes its real branch -/
theorem setPosition_in_bounds (g : Game) {p : Pos} (hp : p.Valid) (x : Option Piece) :
    (g.setPosition p x).board = g.board.set p.idx x (Pos.idx_lt hp) :=
  setPosition_board g p x hp

/-! ### 1c. table indices -/

/-- **`Piece::score`**: the table index is below 64 for either owner's row flip -/
theorem score_index_lt {p : Pos} (hp : p.Valid) :
    ((7 - p.row) * 8 + p.col).toNat < 64 ∧ (p.row * 8 + p.col).toNat < 64 := by
  unfold Pos.Valid at hp
  omega

/-- the position built by `new_unsafe` in `Piece::score` is on the board -/
theorem score_flip_valid {p : Pos} (hp : p.Valid) : (⟨7 - p.row, p.col⟩ : Pos).Valid := by
  unfold Pos.Valid at *
  simp only
  omega

/-- the index `Piece::score` uses -/
def scoreIndex (pc : Piece) (p : Pos) : Nat :=
  match pc.owner with
  | .white => ((7 - p.row) * 8 + p.col).toNat
  | .black => (p.row * 8 + p.col).toNat

theorem scoreIndex_lt (pc : Piece) {p : Pos} (hp : p.Valid) (e : Bool) :
    scoreIndex pc p < (Piece.scoreTable pc.pieceType e).size := by
  rw [Range.scoreTable_size]
  unfold scoreIndex
  cases pc.owner
  · exact (score_index_lt hp).1
  · exact (score_index_lt hp).2

/-- `Piece::score` never falls back to the default of `getD`: it is a genuine table read -/
theorem score_eq_getElem (pc : Piece) {p : Pos} (hp : p.Valid) (e : Bool) :
    pc.score p e
      = (Piece.scoreTable pc.pieceType e)[scoreIndex pc p]'(scoreIndex_lt pc hp e) * pc.owner.sign := by
  rw [Array.getElem_eq_getD 0]
  obtain ⟨t, o⟩ := pc
  cases o <;> rfl

theorem asIndex_lt (pc : Piece) : pc.asIndex < 12 := by
  obtain ⟨t, o⟩ := pc
  cases t <;> cases o <;> decide

/-- **`Piece::hash`**: the key index is inside the generated key table -/
theorem piece_key_index_lt (pc : Piece) {p : Pos} (hp : p.Valid) :
    p.idx * 12 + pc.asIndex < Gen.pieceKeys.size := by
  rw [pieceKeys_size]
  have := Pos.idx_lt hp
  have := asIndex_lt pc
  omega

theorem piece_hash_eq_getElem (pc : Piece) {p : Pos} (hp : p.Valid) :
    pc.hash p = Gen.pieceKeys[p.idx * 12 + pc.asIndex]'(piece_key_index_lt pc hp) := by
  unfold Piece.hash
  exact (Array.getElem_eq_getD _).symm

/-- **`GameState::hash`**: a byte indexes the 256-entry state key table -/
theorem state_key_index_lt (s : GState) : s.toNat < Gen.stateKeys.size := by
  rw [stateKeys_size]
  exact UInt8.toNat_lt s

theorem state_hash_eq_getElem (s : GState) :
    GState.hash s = Gen.stateKeys[s.toNat]'(state_key_index_lt s) := by
  unfold GState.hash
  exact (Array.getElem_eq_getD _).symm

/-! ## 2. The state stack is never empty -/

/-- **`state()`'s `unwrap_unchecked`**: every reachable game has a state on its stack -/
theorem reach_state_ne_nil {g : Game} (h : Reach g) : g.state ≠ [] := (reach_wf h).nonempty

/-- so `top` is a real element of the stack, not the model's default -/
theorem reach_top_mem {g : Game} (h : Reach g) : g.top ∈ g.state := by
  have := reach_state_ne_nil h
  unfold Game.top
  cases hs : g.state with
  | nil => exact absurd hs this
  | cons a l => simp

theorem push_state_cons (g : Game) (m : Move) : ∃ s, (g.push m).state = s :: g.state :=
  ⟨pushState g m, push_state g m⟩

theorem push_state_ne_nil (g : Game) (m : Move) : (g.push m).state ≠ [] := by
  rw [push_state]; exact List.cons_ne_nil _ _

theorem setMany_state (g : Game) (l : List (Pos × Option Piece)) : (g.setMany l).state = g.state := by
  induction l generalizing g with
  | nil => rfl
  | cons e l ih => rw [setMany, ih, setPosition_state]

theorem unapplyMove_state (g : Game) (m : Move) : (unapplyMove g m).state = g.state := by
  obtain ⟨wk, bk, h⟩ := unapplyMove_eq_unwrites g m
  rw [h]; exact setMany_state g _

theorem pop_state (g : Game) (m : Move) : (g.pop m).state = g.state.tail := by
  unfold Game.pop
  rw [unapplyMove_state]

/-- **`pop` truncates and then reads `state()`**: `pop` is only applied to the result of a `push`,
and then what remains is the old stack, non-empty whenever the old one was -/
theorem pop_push_state (g : Game) (m m' : Move) : ((g.push m).pop m').state = g.state := by
  rw [pop_state, push_state, List.tail_cons]

theorem pop_push_state_ne_nil {g : Game} (h : g.state ≠ []) (m m' : Move) :
    (g.push m).state.tail ≠ [] ∧ ((g.push m).pop m').state ≠ [] := by
  rw [pop_push_state, push_state, List.tail_cons]
  exact ⟨h, h⟩

/-! ## 3. History and killer indices -/

/-- **`index_history`**: the index of a quiet move with its target on the board is inside the
history table (`asIndex * 64 + idx < 12 * 64 = 768`) -/
theorem index_history_lt {m : Move} {i : Nat} (h : m.indexHistory = some i)
    (hv : ∀ pc s e cap, m = .normal pc s e cap → e.Valid) : i < Gen.historyLen := by
  cases m with
  | normal pc s e cap =>
    cases cap with
    | some c => simp [Move.indexHistory] at h
    | none =>
      simp only [Move.indexHistory, Option.some.injEq] at h
      have h1 := asIndex_lt pc
      have h2 := Pos.idx_lt (hv pc s e none rfl)
      unfold Gen.historyLen
      omega
  | _ => simp [Move.indexHistory] at h

theorem index_history_lt_of_fits {g : Game} {m : Move} {i : Nat} (hf : g.Fits m)
    (h : m.indexHistory = some i) : i < Gen.historyLen :=
  index_history_lt h (by rintro pc s e cap rfl; exact hf.2.1)

/-- the array the model's driver starts the history table with (`Array.replicate Gen.historyLen 0`)
has that length -/
theorem history_table_size : (Array.replicate Gen.historyLen (0 : Nat)).size = Gen.historyLen :=
  Array.size_replicate

/-- the killer table: arithmetic on the constants (`Search.killer_index_ok`); that every node of
every run is called with such `remaining` and `rd` is `Props.C08.every_killer_access_in_range` -/
theorem killer_index_lt (depth remaining rd : Nat) (h1 : depth ≤ Gen.maxDepth)
    (h2 : remaining + rd = depth) (h3 : 2 ≤ remaining) : rd < Gen.killerLen :=
  Search.killer_index_ok depth remaining rd h1 h2 h3

/-! ## 4. The state stack stays below its capacity -/

/-! ### 4a. `len` under `push`, `push_history`, `pop` -/

theorem push_len (g : Game) (m : Move) : (g.push m).len = g.len + 1 := by
  unfold Game.len; rw [push_state]; rfl

theorem updatePhase_board' (g : Game) : g.updatePhase.board = g.board := (updatePhase_fields g).1

theorem pushHistory_len (g : Game) (m : Move) : (g.pushHistory m).len = g.len + 1 := by
  unfold Game.pushHistory
  simp only [push_len]
  unfold Game.len
  rw [updatePhase_state]

theorem pop_len (g : Game) (m : Move) : (g.pop m).len = g.len - 1 := by
  unfold Game.len; rw [pop_state, List.length_tail]

theorem pop_push_len (g : Game) (m m' : Move) : ((g.push m).pop m').len = g.len := by
  unfold Game.len; rw [pop_push_state]

/-! ### 4b. the potential: occupied squares + pawns -/

/-- weight of a square: a pawn counts twice (once as a man, once as a pawn) -/
def wt : Option Piece → Nat
  | none => 0
  | some pc => if pc.pieceType = .pawn then 2 else 1

def potL (l : List (Option Piece)) : Nat := (l.map wt).sum
def potB (b : Vector (Option Piece) 64) : Nat := potL b.toList
/-- the potential of a game: number of occupied squares plus number of pawns -/
def pot (g : Game) : Nat := potB g.board

def isPawnSq : Option Piece → Bool
  | some pc => pc.pieceType = .pawn
  | none => false

def occupied (b : Vector (Option Piece) 64) : Nat := b.toList.countP (·.isSome)
def pawnCount (b : Vector (Option Piece) 64) : Nat := b.toList.countP isPawnSq

theorem potL_eq (l : List (Option Piece)) : potL l = l.countP (·.isSome) + l.countP isPawnSq := by
  induction l with
  | nil => rfl
  | cons a l ih =>
    have : potL (a :: l) = wt a + potL l := by simp [potL]
    rw [this, ih, List.countP_cons, List.countP_cons]
    cases a with
    | none => simp [wt, isPawnSq]
    | some pc =>
      by_cases h : pc.pieceType = .pawn <;> simp [wt, isPawnSq, h] <;> omega

theorem pot_eq (g : Game) : pot g = occupied g.board + pawnCount g.board := potL_eq _

/-- score, its cache and the board after `push` are those after its writes -/
theorem push_fields (g : Game) (m : Move) :
    (g.push m).score = (g.setMany (writes m)).score
    ∧ (g.push m).pastScores = (g.setMany (writes m)).pastScores
    ∧ (g.push m).board = (g.setMany (writes m)).board := by
  have e : (g.push m).score = (applyMoveG g m).score ∧ (g.push m).pastScores = (applyMoveG g m).pastScores
      ∧ (g.push m).board = (applyMoveG g m).board := by
    rw [Game.push_eq]; exact ⟨rfl, rfl, rfl⟩
  rw [e.1, e.2.1, e.2.2, applyMoveG_eq]
  exact ⟨setKingPos_score .., setKingPos_pastScores .., setKingPos_board ..⟩

theorem push_board_eq (g : Game) (m : Move) :
    (g.push m).board = Range.bsetMany g.board (writes m) :=
  (push_fields g m).2.2.trans (Range.setMany_board_eq g _)

theorem writes_distinct {g : Game} {m : Move} (hf : g.Fits m) :
    (writes m).Pairwise (fun a b => a.1 ≠ b.1) := by
  cases m with
  | normal pc s e cap => simpa [writes] using hf.2.2.1
  | promotion o t s e cap => simpa [writes] using hf.2.2.1
  | enPassant o sc ec =>
    obtain ⟨_, _, _, _, hne, -⟩ := hf
    obtain ⟨n1, n2, n3⟩ := epSquares_ne o sc ec hne
    simp [writes, n1, n2.symm, n3.symm]
  | castlingLong o => simp [writes]
  | castlingShort o => simp [writes]

/-- `pop` writes the squares of `push`, in another order -/
theorem unwrites_perm (m : Move) : ((unwrites m).map (·.1)).Perm ((writes m).map (·.1)) := by
  cases m with
  | normal pc s e cap => exact .refl _
  | promotion o t s e cap => exact .refl _
  | enPassant o sc ec => exact List.perm_append_comm (l₁ := [_])
  | castlingLong o => exact List.perm_append_comm (l₁ := [_, _])
  | castlingShort o => exact List.perm_append_comm (l₁ := [_, _])

theorem unwrites_distinct {g : Game} {m : Move} (hf : g.Fits m) :
    (unwrites m).Pairwise (fun a b => a.1 ≠ b.1) :=
  List.pairwise_map.1
    (((unwrites_perm m).pairwise_iff Ne.symm).2 (List.pairwise_map.2 (writes_distinct hf)))

/-- what a fitting move finds on the squares of `writes`, in the same order -/
def reads : Move → List (Option Piece)
  | .normal pc _ _ cap => [some pc, cap]
  | .promotion o _ _ _ cap => [some ⟨.pawn, o⟩, cap]
  | .enPassant o _ _ => [some ⟨.pawn, o.other⟩, some ⟨.pawn, o⟩, none]
  | .castlingLong o => [some ⟨.rook, o⟩, some ⟨.king, o⟩, none, none]
  | .castlingShort o => [some ⟨.rook, o⟩, some ⟨.king, o⟩, none, none]

theorem fits_reads {g : Game} {m : Move} (hf : g.Fits m) : Range.olds g.board (writes m) = reads m := by
  -- the squares `push` writes are among those `pop` writes, and `pop` puts back what they held
  have h := fun e he => (fits_unwrites hf e he).2
  unfold Range.olds
  simp only [← Range.get_eq_bget]
  cases m <;>
    simp only [unwrites, List.forall_mem_cons, List.not_mem_nil, false_imp_iff, implies_true,
      and_true] at h <;>
    simp only [writes, reads, List.map, h]

/-- **the balance of a move**, for every additive quantity of the board: the weights of what the
move finds on the squares it writes go, the weights of what it puts come -/
theorem push_balance (f : Option Piece → Nat) {g : Game} {m : Move} (hf : g.Fits m) :
    Range.bsum f (g.push m).board + Range.lsum f (reads m)
      = Range.bsum f g.board + Range.lsum f ((writes m).map (·.2)) := by
  rw [push_board_eq, ← fits_reads hf]
  exact Range.bsum_bsetMany f g.board (writes m) (writes_valid hf) (writes_distinct hf)

theorem wt_pos (pc : Piece) : 1 ≤ wt (some pc) := by
  show 1 ≤ (if pc.pieceType = .pawn then 2 else 1); split <;> omega
theorem wt_le (o : Option Piece) : wt o ≤ 2 := by
  cases o with
  | none => exact Nat.zero_le _
  | some pc => show (if pc.pieceType = .pawn then 2 else 1) ≤ 2; split <;> omega

theorem pot_push_cases {g : Game} {m : Move} (hf : g.Fits m) :
    match m with
    | .normal _ _ _ cap => pot (g.push m) + wt cap = pot g
    | .promotion o t _ _ cap => pot (g.push m) + 2 + wt cap = pot g + wt (some ⟨t, o⟩)
    | .enPassant .. => pot (g.push m) + 2 = pot g
    | .castlingLong _ => pot (g.push m) = pot g
    | .castlingShort _ => pot (g.push m) = pot g := by
  have hb : pot (g.push m) + Range.lsum wt (reads m) = pot g + Range.lsum wt ((writes m).map (·.2)) :=
    push_balance wt hf
  cases m <;>
    simp only [reads, writes, Range.lsum, List.map_cons, List.map_nil, List.sum_cons, List.sum_nil,
      wt, reduceCtorEq, ↓reduceIte] at hb ⊢ <;> omega

/-- **no move adds a man or a pawn**: the potential never grows along a line of fitting moves -/
theorem pot_push_le {g : Game} {m : Move} (hf : g.Fits m) : pot (g.push m) ≤ pot g := by
  have h := pot_push_cases hf
  cases m <;> simp only at h
  case promotion o t s e cap => have := wt_le (some ⟨t, o⟩); omega
  all_goals omega

/-- the generator (and the UCI move reader) only promote to Q, R, B, N -/
def NoPawnPromo : Move → Prop
  | .promotion _ t _ _ _ => t ≠ .pawn
  | _ => True

theorem noPawnPromo_of_moverOk {g : Game} {m : Move} (h : g.MoverOk m) : NoPawnPromo m := by
  cases m with
  | promotion o t s e cap => exact (promo_kind h).1
  | _ => trivial

/-- **every tactical move lowers the potential**: a capture removes a man, a promotion turns a
pawn into a piece, en passant removes a pawn.
(`NoPawnPromo` is needed: the fitting move "promote to a pawn, no capture" is tactical and leaves
the potential unchanged; no generated move is of that kind, `noPawnPromo_of_moverOk`.) -/
theorem tactical_decreases {g : Game} {m : Move} (hf : g.Fits m) (hp : NoPawnPromo m)
    (ht : m.isTactical = true) : pot (g.push m) < pot g := by
  have h := pot_push_cases hf
  cases m with
  | normal pc s e cap =>
    cases cap with
    | none => simp [Move.isTactical] at ht
    | some c => simp only at h; have := wt_pos c; omega
  | promotion o t s e cap =>
    simp only at h
    have : wt (some (⟨t, o⟩ : Piece)) = 1 := by
      unfold wt; simp only; rw [if_neg hp]
    omega
  | enPassant o sc ec => simp only at h; omega
  | castlingLong o => simp [Move.isTactical] at ht
  | castlingShort o => simp [Move.isTactical] at ht

/-- the counterexample behind the hypothesis `NoPawnPromo` of `tactical_decreases`: on a board
with a lone white pawn on a7, the (fitting, tactical) move "a7a8 = pawn" keeps the potential -/
def promoWitness : Game :=
  { score := 0, player := .white, moveStack := [], endgame := false, hash := 0,
    board := (Vector.replicate 64 none).set 48 (some ⟨.pawn, .white⟩),
    pastScores := Vector.replicate 64 0, pastHashes := Vector.replicate 64 0,
    wking := ⟨0, 4⟩, bking := ⟨7, 4⟩, state := [GState.default] }

theorem tactical_needs_noPawnPromo :
    let m := Move.promotion .white .pawn ⟨6, 0⟩ ⟨7, 0⟩ none
    promoWitness.Fits m ∧ m.isTactical = true ∧ pot (promoWitness.push m) = pot promoWitness := by
  intro m
  have hf : promoWitness.Fits m := ⟨by decide, by decide, by decide, rfl, rfl⟩
  -- `pot_push_cases`: the pawn that leaves weighs 2, and so does the pawn that comes
  exact ⟨hf, rfl, Nat.add_right_cancel (pot_push_cases hf)⟩

theorem tactical_decreases' {g : Game} {m : Move} (hf : g.Fits m) (hm : g.MoverOk m)
    (ht : m.isTactical = true) : pot (g.push m) < pot g :=
  tactical_decreases hf (noPawnPromo_of_moverOk hm) ht

def playLine (g : Game) : List Move → Game
  | [] => g
  | m :: ms => playLine (g.push m) ms

/-- a line of fitting moves (what the search plays: `getMoves_fits`) -/
inductive Line : Game → List Move → Prop
  | nil (g : Game) : Line g []
  | cons {g : Game} {m : Move} {ms : List Move} : g.Fits m → Line (g.push m) ms → Line g (m :: ms)

/-- a quiescence line: every move fits, is tactical and does not promote to a pawn -/
inductive QLine : Game → List Move → Prop
  | nil (g : Game) : QLine g []
  | cons {g : Game} {m : Move} {ms : List Move} : g.Fits m → NoPawnPromo m → m.isTactical = true →
      QLine (g.push m) ms → QLine g (m :: ms)

theorem playLine_len (g : Game) (ms : List Move) : (playLine g ms).len = g.len + ms.length := by
  induction ms generalizing g with
  | nil => rfl
  | cons m ms ih => simp only [playLine, ih, push_len, List.length_cons]; omega

theorem playLine_append (g : Game) (a b : List Move) :
    playLine g (a ++ b) = playLine (playLine g a) b := by
  induction a generalizing g with
  | nil => rfl
  | cons m ms ih => simp only [List.cons_append, playLine, ih]

theorem line_pot_le {g : Game} {ms : List Move} (h : Line g ms) : pot (playLine g ms) ≤ pot g := by
  induction h with
  | nil g => exact Nat.le_refl _
  | cons hf _ ih => exact Nat.le_trans ih (pot_push_le hf)

/-- **a quiescence line is no longer than the potential of the game it starts from** -/
theorem qline_length_le {g : Game} {ms : List Move} (h : QLine g ms) : ms.length ≤ pot g := by
  induction h with
  | nil g => exact Nat.zero_le _
  | cons hf hp ht _ ih =>
    have := tactical_decreases hf hp ht
    simp only [List.length_cons]
    omega

/-! ### 4c. the potential is at most 48 on a board with possible material -/

/-- number of squares of a list holding exactly the piece `⟨t, pl⟩` (`countPieces` on lists) -/
def cnt (l : List (Option Piece)) (pl : Player) (t : PieceType) : Nat :=
  (l.filter (fun o => o = some ⟨t, pl⟩)).length

theorem countPieces_eq (b : Vector (Option Piece) 64) (pl : Player) (t : PieceType) :
    countPieces b pl t = cnt b.toList pl t := rfl

/-- weighted men of one side -/
def sideWt (l : List (Option Piece)) (pl : Player) : Nat :=
  cnt l pl .king + cnt l pl .queen + cnt l pl .rook + cnt l pl .bishop + cnt l pl .knight
    + 2 * cnt l pl .pawn

/-- a man weighs on exactly one of the twelve counts, a pawn twice -/
theorem wt_eq (a : Option Piece) :
    wt a = (Range.ind .white .king a + Range.ind .white .queen a + Range.ind .white .rook a
        + Range.ind .white .bishop a + Range.ind .white .knight a + 2 * Range.ind .white .pawn a)
      + (Range.ind .black .king a + Range.ind .black .queen a + Range.ind .black .rook a
        + Range.ind .black .bishop a + Range.ind .black .knight a + 2 * Range.ind .black .pawn a) := by
  cases a with
  | none => rfl
  | some pc => obtain ⟨t, o⟩ := pc; cases t <;> cases o <;> rfl

/-- **the occupied squares are partitioned by the twelve piece kinds** (weighted form) -/
theorem potL_partition (l : List (Option Piece)) : potL l = sideWt l .white + sideWt l .black := by
  unfold sideWt
  simp only [show ∀ pl t, cnt l pl t = Range.lsum (Range.ind pl t) l from
    fun pl t => Range.filter_length_eq l pl t]
  induction l with
  | nil => rfl
  | cons a l ih =>
    rw [show potL (a :: l) = wt a + potL l from rfl, ih, wt_eq]
    simp only [Range.lsum_cons]
    omega

/-- one side: at most one king, and pawns plus promoted extras at most eight, give at most 16 men
and 8 pawns, weight at most 24 -/
theorem sideWt_le {b : Range.Board} {pl : Player} (h : Range.SideOkB b pl) : sideWt b.toList pl ≤ 24 := by
  obtain ⟨_, q', r', b', n', _, _, _, _, _⟩ := Range.SideOk.surplus h
  unfold sideWt
  simp only [← countPieces_eq]
  omega

/-- **at most 16 men and 8 pawns a side**: a board that passes the reader's material check has
potential at most 48 -/
theorem potB_le_of_material {b : Vector (Option Piece) 64} (h : MaterialOKBoard b) : potB b ≤ 48 := by
  have h1 := sideWt_le (Range.sideOkB_of_check h.1)
  have h2 := sideWt_le (Range.sideOkB_of_check h.2.1)
  unfold potB
  rw [potL_partition]
  omega

theorem pot_le_of_material {g : Game} (h : MaterialOKBoard g.board) : pot g ≤ 48 :=
  potB_le_of_material h

theorem ofFen_material {s : List Char} {g : Game} (h : Game.ofFen s = .ok g) :
    MaterialOKBoard g.board := by
  obtain ⟨p, wk, bk, c, rfl⟩ := ofFen_parts h
  rw [updatePhase_board']
  exact ⟨c.white, c.black, c.edge⟩

theorem ofFen_len {s : List Char} {g : Game} (h : Game.ofFen s = .ok g) : g.len = 1 := by
  obtain ⟨p, wk, bk, -, rfl⟩ := ofFen_parts h
  unfold Game.len
  rw [updatePhase_state]
  rfl

theorem fits_record {g : Game} {m m' : Move} (hf : g.Fits m) :
    Game.Fits { g with moveStack := m' :: g.moveStack }.updatePhase m := by
  obtain ⟨f1, f2, -, f4, f5⟩ := updatePhase_fields { g with moveStack := m' :: g.moveStack }
  exact (fits_congr (g := g) f1 f4 f5 f2 m).mpr hf

/-- **every reachable game has potential at most 48**: true of the imported root, and no move
played or searched raises it -/
theorem reach_pot_le {g : Game} (h : Reach g) : pot g ≤ 48 := by
  induction h with
  | imported s g hok => exact pot_le_of_material (ofFen_material hok)
  | played g m hr hm ih =>
    have hf := (Game.getMoves_fits (reach_wf hr) true hm).1
    have h1 := pot_push_le (fits_record (m' := m) hf)
    have h2 : pot { g with moveStack := m :: g.moveStack }.updatePhase = pot g := by
      unfold pot; rw [updatePhase_board']
    unfold Game.pushHistory
    simp only at h1 ⊢
    omega
  | searched g m b hr hm ih =>
    have hf := (Game.getMoves_fits (reach_wf hr) b hm).1
    have := pot_push_le hf
    omega

/-! ### 4d. the guard of the UCI loop and the capacity -/

/-- **the arithmetic of `state.push_unchecked`** with the GENERATED constants: a root below the
length guard, at most `MAX_DEPTH` plies of search, at most 48 plies of quiescence, and one more
`push` (the legality filter's trial push) still fit the stack: `399 + 32 + 48 + 1 = 480 ≤ 512` -/
theorem stack_below_cap :
    Gen.lenGuard - 1 + Gen.maxDepth + 48 + 1 ≤ Gen.stateCap
    ∧ ∀ len depth q : Nat, len < Gen.lenGuard → depth ≤ Gen.maxDepth → q ≤ 48 →
        len + depth + q < Gen.stateCap ∧ len + depth + q + 1 ≤ Gen.stateCap := by
  refine ⟨by decide, ?_⟩
  intro len depth q h1 h2 h3
  unfold Gen.lenGuard at h1
  unfold Gen.maxDepth at h2
  unfold Gen.stateCap
  omega

theorem filterMoves_state (pl : Player) (kp : Pos) (kt : Bool) (ms : List Move) (g : Game) :
    (filterMoves pl kp kt g ms).2.state = g.state := by
  induction ms generalizing g with
  | nil => rfl
  | cons m ms ih =>
    rw [filterMoves]
    split
    · exact ih g
    · simp only
      rw [ih, pop_push_state]

theorem getMoves_state (g : Game) (b : Bool) : (g.getMoves b).2.state = g.state := by
  unfold Game.getMoves
  cases b
  · rfl
  · simp only [if_true]; exact filterMoves_state _ _ _ _ g

theorem getMoves_len (g : Game) (b : Bool) : (g.getMoves b).2.len = g.len := by
  unfold Game.len; rw [getMoves_state]

/-- **the `moves` loop of `position`**: every game it leaves behind — with or without an error —
is either the game it started from (as far as the stack goes) or shorter than the guard -/
theorem playMoves_len (ss : List (List Char)) (g g' : Game) (ok : Bool)
    (h : Uci.playMoves g ss = (ok, some g')) :
    g'.len = g.len ∨ g'.len < Gen.lenGuard := by
  induction ss generalizing g with
  | nil =>
    simp only [Uci.playMoves, Prod.mk.injEq, Option.some.injEq] at h
    exact .inl (by rw [h.2])
  | cons s rest ih =>
    rw [Uci.playMoves] at h
    split at h
    · simp at h
    · rename_i m _
      simp only at h
      split at h
      · split at h
        · simp at h
        · rename_i hlt
          have := ih _ h
          rcases this with e | e
          · right; rw [e]; omega
          · exact .inr e
      · simp only [Prod.mk.injEq, Option.some.injEq] at h
        left; rw [← h.2, getMoves_len]

theorem defaultGame_len {g : Game} (h : Uci.defaultGame = some g) : g.len = 1 := by
  -- `unfold` would also simplify the `match`, evaluating the reader on the start position
  rw [Uci.defaultGame] at h
  generalize hok : Game.ofFen Uci.startFen = r at h
  cases r with
  | ok g0 => cases h; exact ofFen_len hok
  | _ => cases h

/-- **every game the `position` command installs is below the guard** (a fresh import has
length 1; the `moves` loop drops the game when the guard is reached) -/
theorem commandPosition_len (cur : Option Game) (terms : List (List Char)) (g' : Game)
    (h : Uci.commandPosition cur terms = (true, some g')) : g'.len < Gen.lenGuard := by
  -- every successful answer is that of the `moves` loop (on no moves: `playMoves g [] = (true, some g)`)
  -- started on a fresh import
  have viaMoves : ∀ (g : Game) ss, g.len = 1 → Uci.playMoves g ss = (true, some g') →
      g'.len < Gen.lenGuard := by
    intro g ss hg hp
    rcases playMoves_len ss g g' true hp with e | e
    · rw [e, hg]; decide
    · exact e
  unfold Uci.commandPosition at h
  split at h
  · simp at h
  · rename_i t rest
    split at h
    · split at h
      · simp at h
      · rename_i g hd
        have hg := defaultGame_len hd
        split at h
        · exact viaMoves g [] hg h
        · split at h
          · exact viaMoves g _ hg h
          · exact viaMoves g [] hg h
    · split at h
      · simp only at h
        split at h
        · rename_i g hok
          have hg := ofFen_len hok
          split at h
          · exact viaMoves g _ hg h
          · exact viaMoves g [] hg h
        · simp at h
      · simp at h

/-- **`push`'s `push_unchecked` has room along every search line**: from a root below the guard
whose potential is at most 48 (every reachable game: `reach_pot_le`), after at most `MAX_DEPTH`
fitting moves followed by any quiescence line, one more state still fits the stack -/
theorem search_line_below_cap {g : Game} {ms qs : List Move} (hlen : g.len < Gen.lenGuard)
    (hpot : pot g ≤ 48) (hl : Line g ms) (hd : ms.length ≤ Gen.maxDepth)
    (hq : QLine (playLine g ms) qs) :
    (playLine g (ms ++ qs)).len < Gen.stateCap
    ∧ ∀ m, ((playLine g (ms ++ qs)).push m).len ≤ Gen.stateCap := by
  have h1 := qline_length_le hq
  have h2 := line_pot_le hl
  have h3 : (playLine g (ms ++ qs)).len = g.len + ms.length + qs.length := by
    rw [playLine_append, playLine_len, playLine_len]
  have := (stack_below_cap.2 g.len ms.length qs.length hlen hd (by omega))
  refine ⟨by omega, fun m => ?_⟩
  rw [push_len]; omega

theorem reach_search_line_below_cap {g : Game} {ms qs : List Move} (hr : Reach g)
    (hlen : g.len < Gen.lenGuard) (hl : Line g ms) (hd : ms.length ≤ Gen.maxDepth)
    (hq : QLine (playLine g ms) qs) :
    ∀ m, ((playLine g (ms ++ qs)).push m).len ≤ Gen.stateCap :=
  (search_line_below_cap hlen (reach_pot_le hr) hl hd hq).2

/-- the bound 48 is attained (the initial placement): `pot_le_of_material` is tight -/
def startBoard : Vector (Option Piece) 64 :=
  let w (t : PieceType) : Option Piece := some ⟨t, .white⟩
  let b (t : PieceType) : Option Piece := some ⟨t, .black⟩
  #v[w .rook, w .knight, w .bishop, w .queen, w .king, w .bishop, w .knight, w .rook,
     w .pawn, w .pawn, w .pawn, w .pawn, w .pawn, w .pawn, w .pawn, w .pawn,
     none, none, none, none, none, none, none, none,
     none, none, none, none, none, none, none, none,
     none, none, none, none, none, none, none, none,
     none, none, none, none, none, none, none, none,
     b .pawn, b .pawn, b .pawn, b .pawn, b .pawn, b .pawn, b .pawn, b .pawn,
     b .rook, b .knight, b .bishop, b .queen, b .king, b .bishop, b .knight, b .rook]

theorem pot_bound_tight : MaterialOKBoard startBoard ∧ potB startBoard = 48 := by
  refine ⟨⟨?_, ?_, ?_⟩, ?_⟩ <;> decide +kernel

/-! ## 5. The move buffer (`moves.push_unchecked`, capacity 256) -/

/-- NAMED HYPOTHESIS (not proved here, never an axiom): no reachable game has more than
`Gen.movesCap = 256` pseudo-legal moves.  The known maximum over legal chess positions (218 legal
moves) comes from computer search, and no short counting argument gives a bound below 256: with
nine queens the crude per-piece bounds below already exceed it. -/
def MoveCountBound : Prop := ∀ g : Game, Reach g → g.pseudoMoves.length ≤ Gen.movesCap

theorem length_flatMap_le {α β : Type} (l : List α) (f : α → List β) (k : Nat)
    (h : ∀ a ∈ l, (f a).length ≤ k) : (l.flatMap f).length ≤ k * l.length := by
  induction l with
  | nil => simp
  | cons a l ih =>
    have h1 := h a (by simp)
    have h2 := ih (fun a ha => h a (by simp [ha]))
    simp only [List.flatMap_cons, List.length_append, List.length_cons, Nat.mul_succ]
    omega

theorem length_flatMap_le_countP {α β : Type} (l : List α) (f : α → List β) (P : α → Bool) (k : Nat)
    (h : ∀ a ∈ l, (f a).length ≤ k) (h0 : ∀ a ∈ l, P a = false → f a = []) :
    (l.flatMap f).length ≤ k * l.countP P := by
  induction l with
  | nil => simp
  | cons a l ih =>
    have h1 := h a (by simp)
    have h2 := ih (fun a ha => h a (by simp [ha])) (fun a ha => h0 a (by simp [ha]))
    simp only [List.flatMap_cons, List.length_append, List.countP_cons]
    cases hp : P a with
    | false => rw [h0 a (by simp) hp]; simpa using h2
    | true => simp only [if_true, Nat.mul_succ]; omega

theorem length_ite_single_le {α : Type} {c : Prop} [Decidable c] (x : α) :
    (if c then [x] else []).length ≤ 1 := by
  split <;> simp

theorem rayMoves_length_le (g : Game) (pc : Piece) (start : Pos) (d : Int × Int) (fuel : Nat) (p : Pos) :
    (rayMoves g pc start p d fuel).length ≤ fuel := by
  induction fuel generalizing p with
  | zero => simp [rayMoves]
  | succ n ih =>
    rw [rayMoves]
    split
    · simp
    · split
      · split <;> simp
      · have := ih ‹Pos›
        simp only [List.length_cons]; omega

theorem slideMoves_length_le (g : Game) (pc : Piece) (p : Pos) (rays : List (Int × Int)) :
    (slideMoves g pc p rays).length ≤ 7 * rays.length :=
  length_flatMap_le rays _ 7 (fun d _ => rayMoves_length_le g pc p d 7 p)

/-- knight and king steps: at most one move per delta -/
theorem stepMoves_length_le (g : Game) (pc : Piece) (p : Pos) (bad : Pos → Bool) (L : List (Int × Int)) :
    (L.flatMap (g.stepMove pc p bad)).length ≤ L.length :=
  Nat.one_mul L.length ▸ length_flatMap_le L _ 1 fun d _ => by
    rcases stepMove_cases g pc p bad d with h | h <;> rw [h] <;> simp

theorem knightMoves_length_le (g : Game) (pc : Piece) (p : Pos) : (knightMoves g pc p).length ≤ 8 :=
  stepMoves_length_le g pc p (fun _ => false) Gen.knightDeltas

theorem kingMoves_length_le (g : Game) (pc : Piece) (p : Pos) : (kingMoves g pc p).length ≤ 10 := by
  rw [kingMoves_eq]
  have h1 : (Gen.kingDeltas.flatMap (kingStep g pc p)).length ≤ 8 := stepMoves_length_le g pc p _ _
  have h2 : (castleShort g (Spec.sideK g.abs)).length ≤ 1 := length_ite_single_le _
  have h3 : (castleLong g (Spec.sideQ g.abs)).length ≤ 1 := length_ite_single_le _
  simp only [List.length_append]
  exact Nat.add_le_add (Nat.add_le_add h1 h2) h3

theorem promoPieces_length : promoPieces.length = 4 := by rw [promoPieces_eq]; rfl

/-- what a pawn step yields on its arrival square: the four promotions or the one move -/
theorem arrive_length_le {c : Prop} [Decidable c] (f : PieceType → Move) (x : Move) :
    (if c then promoPieces.map f else [x]).length ≤ 4 := by
  split <;> simp [promoPieces_length]

theorem pawnMoves_length_le (g : Game) (pc : Piece) (p : Pos) : (pawnMoves g pc p).length ≤ 14 := by
  rw [pawnMoves_eq]
  have h1 : ∀ fr nd fd, (pawnDbl g pc p fr nd fd).length ≤ 1 := fun _ _ _ => length_ite_single_le _
  have h2 : ∀ lr nd, (pawnFwd g pc p lr nd).length ≤ 4 := by
    intro lr nd; unfold pawnFwd
    split
    · simp
    · split
      · exact arrive_length_le _ _
      · simp
  have h3 : ∀ lr d, (pawnCap g pc p lr d).length ≤ 4 := by
    intro lr d; unfold pawnCap
    split
    · simp
    · split
      · split
        · exact arrive_length_le _ _
        · simp
      · simp
  have h4 : ∀ er, (pawnEp g p er).length ≤ 1 := fun _ => length_ite_single_le _
  have h5 := length_flatMap_le [(Spec.forward pc.owner, (1 : Int)), (Spec.forward pc.owner, -1)]
    (pawnCap g pc p (Spec.lastRow pc.owner)) 4 (fun d _ => h3 _ d)
  have := h1 (Spec.pawnStartRow pc.owner) (Spec.forward pc.owner, 0) (2 * Spec.forward pc.owner, 0)
  have := h2 (Spec.lastRow pc.owner) (Spec.forward pc.owner, 0)
  have := h4 (Spec.epFromRow pc.owner)
  simp only [List.length_append, List.length_cons, List.length_nil] at h5 ⊢
  omega

/-- crude per-piece bound: 8 rays of at most 7 squares for the queen -/
theorem pieceMoves_length_le (g : Game) (pc : Piece) (p : Pos) : (pieceMoves g pc p).length ≤ 56 := by
  unfold pieceMoves
  split
  · exact Nat.le_trans (pawnMoves_length_le g pc p) (by decide)
  · exact Nat.le_trans (kingMoves_length_le g pc p) (by decide)
  · exact Nat.le_trans (knightMoves_length_le g pc p) (by decide)
  · exact Nat.le_trans (slideMoves_length_le g pc p Gen.rookRays) (by decide)
  · exact Nat.le_trans (slideMoves_length_le g pc p Gen.bishopRays) (by decide)
  · exact Nat.le_trans (slideMoves_length_le g pc p Gen.queenRays) (by decide)

/-- number of men of the side to move -/
def ownCount (g : Game) : Nat :=
  allSquares.countP fun p => match g.get p with
    | some pc => decide (pc.owner = g.player)
    | none => false

theorem pseudoMoves_length_le (g : Game) : g.pseudoMoves.length ≤ 56 * ownCount g := by
  unfold pseudoMoves
  split
  · simp
  · unfold ownCount
    apply length_flatMap_le_countP
    · intro p _
      split
      · split
        · exact pieceMoves_length_le g _ p
        · simp
      · simp
    · intro p _ h
      cases hg : g.get p with
      | none => rfl
      | some pc =>
        rw [hg] at h
        simp only [decide_eq_false_iff_not] at h
        simp [h]

/-- what is provable without the hypothesis: with at most four men of the side to move the
buffer cannot overflow (`4 * 56 = 224 ≤ 256`) -/
theorem pseudoMoves_length_le_of_few_pieces (g : Game) (h : ownCount g ≤ 4) :
    g.pseudoMoves.length ≤ Gen.movesCap := by
  have := pseudoMoves_length_le g
  unfold Gen.movesCap
  omega

/-- the crude bounds cannot replace the hypothesis: sixteen men already allow `16 * 56 > 256` -/
theorem crude_bound_insufficient : Gen.movesCap < 56 * 16 := by decide

/-! ## 6. The inventory of unchecked sites -/

/-- the `(file, function)` classes covered by the theorems of this file -/
def coveredSites : List (String × String) :=
  [("src/chess/gamestate.rs", "hash"),       -- `state_key_index_lt`
   ("src/chess/mod.rs", "get_moves"),        -- `MoveCountBound` (hypothesis) + crude bounds
   ("src/chess/mod.rs", "get_position"),     -- `generator_squares_valid`, `ep_probe_valid`
   ("src/chess/mod.rs", "push"),             -- `stack_below_cap`, `search_line_below_cap`
   ("src/chess/mod.rs", "set_position"),     -- `pos_valid_of_fits`
   ("src/chess/mod.rs", "state"),            -- `reach_state_ne_nil`, `pop_push_state_ne_nil`
   ("src/chess/piece.rs", "get_pawn_moves"), -- `double_push_in_board`
   ("src/chess/piece.rs", "hash"),           -- `piece_key_index_lt`
   ("src/chess/piece.rs", "score")]          -- `score_index_lt`

/-- the unchecked operations analysed, per `(file, function, kind)`, with the number of occurrences the
theorems of this file account for -/
def analysedSites : List ((String × String × String) × Nat) :=
  [(("src/chess/gamestate.rs", "hash", "get_unchecked"), 1),
   (("src/chess/gamestate.rs", "hash", "unsafe_block"), 1),
   (("src/chess/mod.rs", "get_moves", "push_unchecked"), 1),
   (("src/chess/mod.rs", "get_moves", "unsafe_block"), 1),
   (("src/chess/mod.rs", "get_position", "get_unchecked"), 1),
   (("src/chess/mod.rs", "get_position", "unsafe_block"), 1),
   (("src/chess/mod.rs", "push", "push_unchecked"), 1),
   (("src/chess/mod.rs", "push", "unsafe_block"), 1),
   (("src/chess/mod.rs", "set_position", "get_unchecked_mut"), 3),
   (("src/chess/mod.rs", "set_position", "unsafe_block"), 1),
   (("src/chess/mod.rs", "state", "unsafe_block"), 1),
   (("src/chess/mod.rs", "state", "unwrap_unchecked"), 1),
   (("src/chess/piece.rs", "get_pawn_moves", "add_unsafe"), 3),
   (("src/chess/piece.rs", "get_pawn_moves", "unsafe_block"), 1),
   (("src/chess/piece.rs", "hash", "get_unchecked"), 2),
   (("src/chess/piece.rs", "hash", "unsafe_block"), 1),
   (("src/chess/piece.rs", "score", "get_unchecked"), 1),
   (("src/chess/piece.rs", "score", "new_unsafe"), 1),
   (("src/chess/piece.rs", "score", "unsafe_block"), 1)]

def analysedCount (e : String × String × String) : Nat :=
  match analysedSites.find? (·.1 == e) with
  | some (_, n) => n
  | none => 0

/-- **every unchecked site of the generated inventory is an analysed one**: each lies in a covered
`(file, function)` class and occurs at most as often as the analysis accounts for.  A NEW, MOVED or
DUPLICATED unchecked site in the Rust source changes `Gen.unsafeSites` and breaks this theorem; a site
that DISAPPEARS (an unchecked access rewritten as a checked one) does not — there is then one obligation
fewer, not one unproved. -/
theorem unsafe_inventory :
    Gen.unsafeSites.length = Gen.unsafeSiteCount
    ∧ (Gen.unsafeSites.all fun e => coveredSites.contains (e.1, e.2.1)) = true
    ∧ (Gen.unsafeSites.all fun e => decide (Gen.unsafeSites.count e ≤ analysedCount e)) = true
    ∧ (analysedSites.all fun a => coveredSites.contains (a.1.1, a.1.2.1)) = true
    ∧ (analysedSites.foldl (fun s a => s + a.2) 0) = 24 := by
  decide +kernel

/-- the kinds of unchecked operation present never exceed what was analysed -/
theorem unsafe_kinds :
    (Gen.unsafeSites.filter (·.2.2 == "unsafe_block")).length ≤ 9
    ∧ (Gen.unsafeSites.filter (·.2.2 == "get_unchecked")).length ≤ 5
    ∧ (Gen.unsafeSites.filter (·.2.2 == "get_unchecked_mut")).length ≤ 3
    ∧ (Gen.unsafeSites.filter (·.2.2 == "push_unchecked")).length ≤ 2
    ∧ (Gen.unsafeSites.filter (·.2.2 == "unwrap_unchecked")).length ≤ 1
    ∧ (Gen.unsafeSites.filter (·.2.2 == "add_unsafe")).length ≤ 3
    ∧ (Gen.unsafeSites.filter (·.2.2 == "new_unsafe")).length ≤ 1 := by
  decide +kernel

/-! ## Appendix: a generated `Normal` pawn move never reaches the last row

(pawns arrive on rank 1/8 only by promoting; not used by the bounds above, which go through
`pot_push_le`) -/

def NotLastRow : Move → Prop
  | .normal pc _ e _ => pc.pieceType = .pawn → e.row ≠ Spec.lastRow pc.owner
  | _ => True

theorem arrive_notLastRow {g : Game} {pc : Piece} {p q : Pos} {cap : Option Piece} {m : Move}
    (h : PawnArrive g pc p q cap (Spec.lastRow pc.owner) m) : NotLastRow m := by
  unfold PawnArrive at h
  split at h
  · obtain ⟨t, _, rfl⟩ := h; trivial
  · rename_i hne
    subst h
    exact fun _ e => hne e.symm

theorem pawnMoves_notLastRow {g : Game} {pc : Piece} {p : Pos} {m : Move}
    (hm : m ∈ g.pawnMoves pc p) : NotLastRow m := by
  rw [pawnMoves_spec] at hm
  rcases hm with ⟨hr, _, _, rfl⟩ | ⟨q, _, _, harr⟩ | ⟨d, _, q, o, _, _, _, harr⟩ | ⟨_, _, _, rfl⟩
  · intro _
    show p.row + 2 * Spec.forward pc.owner ≠ Spec.lastRow pc.owner
    rcases side_consts pc.owner with ⟨a, b, c, _⟩ | ⟨a, b, c, _⟩ <;> rw [a, c] <;> rw [b] at hr <;> omega
  · exact arrive_notLastRow harr
  · exact arrive_notLastRow harr
  · trivial

/-- **a generated `Normal` move of a pawn does not end on that pawn's last row** -/
theorem pawn_normal_not_last_row {g : Game} {m : Move} (hm : m ∈ g.pseudoMoves)
    {pc : Piece} {s e : Pos} {cap : Option Piece} (he : m = .normal pc s e cap)
    (hp : pc.pieceType = .pawn) : e.row ≠ Spec.lastRow pc.owner := by
  obtain ⟨_, p, pc', hv, _, ho, hm⟩ := mem_pseudoMoves.1 hm
  subst he
  -- the generators only move the piece they are called for
  obtain rfl : pc = pc' := (pieceMoves_shape_rf hv ho _ hm).2
  rw [pieceMoves_pawn g p hp] at hm
  exact pawnMoves_notLastRow hm hp

end Chess.Bounds

#print axioms Chess.Bounds.pos_valid_of_fits
#print axioms Chess.Bounds.unapplyMove_board
#print axioms Chess.Bounds.ep_probe_valid
#print axioms Chess.Bounds.double_push_in_board
#print axioms Chess.Bounds.generator_squares_valid
#print axioms Chess.Bounds.score_index_lt
#print axioms Chess.Bounds.score_eq_getElem
#print axioms Chess.Bounds.asIndex_lt
#print axioms Chess.Bounds.piece_key_index_lt
#print axioms Chess.Bounds.piece_hash_eq_getElem
#print axioms Chess.Bounds.state_key_index_lt
#print axioms Chess.Bounds.state_hash_eq_getElem
#print axioms Chess.Bounds.unsafe_inventory
#print axioms Chess.Bounds.unsafe_kinds
#print axioms Chess.Bounds.index_history_lt
#print axioms Chess.Bounds.index_history_lt_of_fits
#print axioms Chess.Bounds.killer_index_lt
#print axioms Chess.Bounds.reach_state_ne_nil
#print axioms Chess.Bounds.pop_push_state_ne_nil
#print axioms Chess.Bounds.push_len
#print axioms Chess.Bounds.pushHistory_len
#print axioms Chess.Bounds.pop_len
#print axioms Chess.Bounds.pot_eq
#print axioms Chess.Bounds.pot_push_cases
#print axioms Chess.Bounds.pot_push_le
#print axioms Chess.Bounds.tactical_decreases
#print axioms Chess.Bounds.tactical_needs_noPawnPromo
#print axioms Chess.Bounds.qline_length_le
#print axioms Chess.Bounds.potL_partition
#print axioms Chess.Bounds.pot_le_of_material
#print axioms Chess.Bounds.pot_bound_tight
#print axioms Chess.Bounds.reach_pot_le
#print axioms Chess.Bounds.stack_below_cap
#print axioms Chess.Bounds.playMoves_len
#print axioms Chess.Bounds.commandPosition_len
#print axioms Chess.Bounds.search_line_below_cap
#print axioms Chess.Bounds.reach_search_line_below_cap
#print axioms Chess.Bounds.pieceMoves_length_le
#print axioms Chess.Bounds.pseudoMoves_length_le
#print axioms Chess.Bounds.pseudoMoves_length_le_of_few_pieces
#print axioms Chess.Bounds.pawn_normal_not_last_row
