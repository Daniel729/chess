import Chess.Model.Uci

/-!
# C13 — "thinking time never exceeds the time available"

Facts about `Chess.Uci.budget`, the model of the arithmetic of `command_go`

    ((w as f64 * 0.02) as u64).saturating_add(inc).saturating_sub(150).min(w.saturating_sub(150))

followed by the `movetime` override, the `saturating_sub(5)` of the sleeping thread and the
suppression of the timer by `infinite`.  `share w` stands for the float expression.

Everything is proved for *all* naturals, hence in particular for all `u64` values; part 4 shows
that for `u64` inputs every intermediate value is a `u64` again, so the `Nat` of the model is the
machine value (the only subtractions are saturating, mirrored by truncated subtraction of `Nat`).
-/
namespace Chess.Uci

/-- what the proofs need of the float expression: it never exceeds its argument, and is monotone -/
def ShareOK (share : Nat → Nat) : Prop :=
  (∀ w, share w ≤ w) ∧ (∀ a b, a ≤ b → share a ≤ share b)

def ownClock (side : Player) (wt bt : Nat) : Nat :=
  match side with
  | .white => wt
  | .black => bt

def ownInc (side : Player) (wi bi : Nat) : Nat :=
  match side with
  | .white => wi
  | .black => bi

theorem shareOK_div50 : ShareOK (· / 50) :=
  ⟨fun w => Nat.div_le_self w 50, fun _ _ h => Nat.div_le_div_right h⟩

/-! ## closed form -/

/-- The allotment with all four clock parameters present and no `movetime`, in closed form:
only the mover's own clock and increment matter. -/
theorem budget_clock_eq (wt bt wi bi : Nat) (infinite : Bool) (side : Player) (share : Nat → Nat) :
    budget (some wt) (some bt) (some wi) (some bi) none infinite side share =
      if infinite then none else
        some (min (satAdd (share (ownClock side wt bt)) (ownInc side wi bi) - Gen.latencyMs)
                  (ownClock side wt bt - Gen.latencyMs) - Gen.sleepCutMs) := by
  cases side <;> cases infinite <;> simp [budget, ownClock, ownInc]

/-- With `movetime` the clocks are irrelevant. -/
theorem budget_movetime_eq (wtime btime winc binc : Option Nat) (mt : Nat) (infinite : Bool)
    (side : Player) (share : Nat → Nat) :
    budget wtime btime winc binc (some mt) infinite side share =
      if infinite then none else some (mt - Gen.sleepCutMs) := by
  cases infinite <;> simp [budget]

/-! ## 1. the allotment never exceeds the mover's clock -/

/-- Strongest form: the allotment is at most the own clock minus latency allowance and sleep
cut, with truncated subtraction.  `ShareOK` is not needed: the `min` alone enforces it. -/
theorem budget_le_clock_sub {wt bt wi bi t : Nat} {infinite : Bool} {side : Player}
    {share : Nat → Nat}
    (h : budget (some wt) (some bt) (some wi) (some bi) none infinite side share = some t) :
    t ≤ ownClock side wt bt - Gen.latencyMs - Gen.sleepCutMs := by
  rw [budget_clock_eq] at h
  cases infinite
  · simp only [Bool.false_eq_true, if_false, Option.some.injEq] at h
    omega
  · simp at h

/-- a positive allotment leaves room for the latency allowance and the sleep cut -/
theorem budget_pos_room {wt bt wi bi t : Nat} {infinite : Bool} {side : Player}
    {share : Nat → Nat}
    (h : budget (some wt) (some bt) (some wi) (some bi) none infinite side share = some t)
    (ht : 0 < t) :
    t + Gen.sleepCutMs + Gen.latencyMs ≤ ownClock side wt bt := by
  have := budget_le_clock_sub h
  omega

/-- C13: the allotment never exceeds the mover's own remaining clock. -/
theorem budget_le_clock {wt bt wi bi t : Nat} {infinite : Bool} {side : Player}
    {share : Nat → Nat}
    (h : budget (some wt) (some bt) (some wi) (some bi) none infinite side share = some t) :
    t ≤ ownClock side wt bt := by
  have := budget_le_clock_sub h
  omega

/-- `budget_le_clock` and `budget_pos_room` by side: `wtime` if White is to move, `btime` if Black -/
theorem budget_le_clock' {wt bt wi bi t : Nat} {infinite : Bool} {side : Player}
    {share : Nat → Nat}
    (h : budget (some wt) (some bt) (some wi) (some bi) none infinite side share = some t) :
    (side = .white → t ≤ wt ∧ (0 < t → t + Gen.sleepCutMs + Gen.latencyMs ≤ wt)) ∧
    (side = .black → t ≤ bt ∧ (0 < t → t + Gen.sleepCutMs + Gen.latencyMs ≤ bt)) := by
  refine ⟨fun hs => ?_, fun hs => ?_⟩ <;> subst hs
  · exact ⟨budget_le_clock h, budget_pos_room h⟩
  · exact ⟨budget_le_clock h, budget_pos_room h⟩

/-- Whatever timer is armed when the clock parameters are complete and no `movetime` is given,
it is armed for at most the own clock: the statement over *all* option patterns. -/
theorem budget_le_clock_of_complete {wtime btime winc binc : Option Nat} {wt bt t : Nat}
    {infinite : Bool} {side : Player} {share : Nat → Nat}
    (hw : wtime = some wt) (hb : btime = some bt) (hwi : winc.isSome) (hbi : binc.isSome)
    (h : budget wtime btime winc binc none infinite side share = some t) :
    t ≤ ownClock side wt bt := by
  subst hw hb
  cases winc <;> cases binc <;> simp at hwi hbi
  exact budget_le_clock h

/-! ## 2. `movetime` is an upper bound -/

theorem budget_le_movetime {wtime btime winc binc : Option Nat} {mt t : Nat} {infinite : Bool}
    {side : Player} {share : Nat → Nat}
    (h : budget wtime btime winc binc (some mt) infinite side share = some t) : t ≤ mt := by
  rw [budget_movetime_eq] at h
  cases infinite
  · simp only [Bool.false_eq_true, if_false, Option.some.injEq] at h
    omega
  · simp at h

theorem budget_movetime_exact {wtime btime winc binc : Option Nat} {mt t : Nat} {infinite : Bool}
    {side : Player} {share : Nat → Nat}
    (h : budget wtime btime winc binc (some mt) infinite side share = some t) :
    t = mt - Gen.sleepCutMs ∧ infinite = false := by
  rw [budget_movetime_eq] at h
  cases infinite <;> simp at h
  exact ⟨h.symm, rfl⟩

/-! ## 3. monotone in the own clock -/

theorem satAdd_mono {a a' b : Nat} (h : a ≤ a') : satAdd a b ≤ satAdd a' b := by
  unfold satAdd; omega

/-- Both sides at once, on the `Option Nat` results: the own clock is the only clock that
matters and the allotment is monotone in it. -/
theorem budget_monotone {share : Nat → Nat} (hs : ShareOK share) {wt wt' bt bt' wi bi : Nat}
    {side : Player} (hle : ownClock side wt bt ≤ ownClock side wt' bt')
    {infinite : Bool} {t t' : Nat}
    (h : budget (some wt) (some bt) (some wi) (some bi) none infinite side share = some t)
    (h' : budget (some wt') (some bt') (some wi) (some bi) none infinite side share = some t') :
    t ≤ t' := by
  rw [budget_clock_eq] at h h'
  cases infinite
  · simp only [Bool.false_eq_true, if_false, Option.some.injEq] at h h'
    have h1 := satAdd_mono (b := ownInc side wi bi) (hs.2 _ _ hle)
    omega
  · simp at h

/-- White: a smaller own clock never yields a larger allotment, everything else fixed
(any option pattern of the other parameters). -/
theorem budget_monotone_white {share : Nat → Nat} (hs : ShareOK share) {wt wt' : Nat}
    (hle : wt ≤ wt') {btime winc binc movetime : Option Nat} {infinite : Bool} {t t' : Nat}
    (h : budget (some wt) btime winc binc movetime infinite .white share = some t)
    (h' : budget (some wt') btime winc binc movetime infinite .white share = some t') :
    t ≤ t' := by
  cases movetime with
  | some mt =>
    rw [budget_movetime_eq] at h h'
    exact Nat.le_of_eq (Option.some.inj (h.symm.trans h'))
  | none =>
    cases btime <;> cases winc <;> cases binc <;> try (simp [budget] at h; done)
    exact budget_monotone hs (side := .white) hle h h'

theorem budget_monotone_black {share : Nat → Nat} (hs : ShareOK share) {bt bt' : Nat}
    (hle : bt ≤ bt') {wtime winc binc movetime : Option Nat} {infinite : Bool} {t t' : Nat}
    (h : budget wtime (some bt) winc binc movetime infinite .black share = some t)
    (h' : budget wtime (some bt') winc binc movetime infinite .black share = some t') :
    t ≤ t' := by
  cases movetime with
  | some mt =>
    rw [budget_movetime_eq] at h h'
    exact Nat.le_of_eq (Option.some.inj (h.symm.trans h'))
  | none =>
    cases wtime <;> cases winc <;> cases binc <;> try (simp [budget] at h; done)
    exact budget_monotone hs (side := .black) hle h h'

/-! ## 4. every intermediate value is a `u64` -/

theorem satAdd_le (a b : Nat) : satAdd a b ≤ u64Max := by unfold satAdd; omega

theorem satAdd_exact {a b : Nat} (h : a + b ≤ u64Max) : satAdd a b = a + b := by
  unfold satAdd; omega

/-- The chain of values computed by `command_go`, for `u64` inputs and a `share` that is a `u64`
for `u64` arguments (true of `as u64`, which saturates): each one is a `u64` again.  Together
with `budget_clock_eq`/`budget_movetime_eq` (the result *is* the last value of this chain) this
says that no value of the model leaves the machine range; and as the only subtractions are
`saturating_sub`, i.e. truncated subtraction, nothing can wrap. -/
theorem budget_fits_u64 {w inc mt : Nat} {share : Nat → Nat}
    (hw : w ≤ u64Max) (_hi : inc ≤ u64Max) (hm : mt ≤ u64Max) (hsh : share w ≤ u64Max) :
    share w ≤ u64Max
    ∧ satAdd (share w) inc ≤ u64Max
    ∧ satAdd (share w) inc - Gen.latencyMs ≤ u64Max
    ∧ w - Gen.latencyMs ≤ u64Max
    ∧ min (satAdd (share w) inc - Gen.latencyMs) (w - Gen.latencyMs) ≤ u64Max
    ∧ min (satAdd (share w) inc - Gen.latencyMs) (w - Gen.latencyMs) - Gen.sleepCutMs ≤ u64Max
    ∧ mt - Gen.sleepCutMs ≤ u64Max := by
  have := satAdd_le (share w) inc
  refine ⟨hsh, this, ?_, ?_, ?_, ?_, ?_⟩ <;> omega

/-- the result of `budget` is a `u64` whenever the own clock (or `movetime`) is -/
theorem budget_result_fits_u64 {wtime btime winc binc movetime : Option Nat} {infinite : Bool}
    {side : Player} {share : Nat → Nat} {t : Nat}
    (hw : ∀ w, wtime = some w → w ≤ u64Max) (hb : ∀ w, btime = some w → w ≤ u64Max)
    (hm : ∀ w, movetime = some w → w ≤ u64Max)
    (h : budget wtime btime winc binc movetime infinite side share = some t) : t ≤ u64Max := by
  cases movetime with
  | some mt =>
    have := budget_le_movetime h
    have := hm mt rfl
    omega
  | none =>
    cases wtime <;> cases btime <;> cases winc <;> cases binc <;> try (simp [budget] at h; done)
    have h1 := budget_le_clock h
    have h2 := hw _ rfl
    have h3 := hb _ rfl
    cases side <;> simp only [ownClock] at h1 <;> omega

/-- under `ShareOK` and `u64` inputs the hypothesis on `share` of `budget_fits_u64` holds -/
theorem ShareOK.fits {share : Nat → Nat} (hs : ShareOK share) {w : Nat} (hw : w ≤ u64Max) :
    share w ≤ u64Max := Nat.le_trans (hs.1 w) hw

/-! ### the same statement against machine integers

`UInt64` with the textbook definitions of the saturating operations; the model's value is the
`toNat` of the machine's. -/

def satAdd64 (a b : UInt64) : UInt64 := if a.toNat + b.toNat < 2 ^ 64 then a + b else UInt64.ofNat u64Max
def satSub64 (a b : UInt64) : UInt64 := if b ≤ a then a - b else 0
def min64 (a b : UInt64) : UInt64 := if a ≤ b then a else b

theorem satAdd64_toNat (a b : UInt64) : (satAdd64 a b).toNat = satAdd a.toNat b.toNat := by
  unfold satAdd64 satAdd u64Max
  split
  · rename_i h
    rw [UInt64.toNat_add, Nat.mod_eq_of_lt h]; omega
  · rename_i h
    have : (UInt64.ofNat (2 ^ 64 - 1)).toNat = 2 ^ 64 - 1 := by decide
    rw [this]; omega

theorem satSub64_toNat (a b : UInt64) : (satSub64 a b).toNat = a.toNat - b.toNat := by
  unfold satSub64
  split
  · rename_i h
    rw [UInt64.toNat_sub_of_le _ _ h]
  · rename_i h
    have : a.toNat < b.toNat := by
      have := UInt64.lt_iff_toNat_lt.mp (UInt64.not_le.mp h); exact this
    simp only [UInt64.toNat_zero]; omega

theorem min64_toNat (a b : UInt64) : (min64 a b).toNat = min a.toNat b.toNat := by
  unfold min64
  split
  · rename_i h
    have := UInt64.le_iff_toNat_le.mp h; omega
  · rename_i h
    have := UInt64.lt_iff_toNat_lt.mp (UInt64.not_le.mp h); omega

/-- the clock branch of `command_go` on machine integers -/
def clock64 (share64 : UInt64 → UInt64) (w inc : UInt64) : UInt64 :=
  satSub64 (min64 (satSub64 (satAdd64 (share64 w) inc) 150) (satSub64 w 150)) 5

/-- The machine computation and the model agree: the `Nat` of the model is the machine value. -/
theorem clock64_refines (share64 : UInt64 → UInt64) (share : Nat → Nat)
    (hsh : ∀ w, (share64 w).toNat = share w.toNat) (wt bt wi bi : UInt64) (side : Player) :
    budget (some wt.toNat) (some bt.toNat) (some wi.toNat) (some bi.toNat) none false side share
      = some (match side with
          | .white => (clock64 share64 wt wi).toNat
          | .black => (clock64 share64 bt bi).toNat) := by
  have e150 : (150 : UInt64).toNat = Gen.latencyMs := by decide
  have e5 : (5 : UInt64).toNat = Gen.sleepCutMs := by decide
  rw [budget_clock_eq]
  cases side <;>
    simp only [Bool.false_eq_true, if_false, clock64, satSub64_toNat, min64_toNat, satAdd64_toNat,
      hsh, ownClock, ownInc, e150, e5]

/-! ## 5. low clocks; when there is no timer -/

theorem u64Max_eq : u64Max = 18446744073709551615 := by decide

/-- the two-per-cent rule with the engine's constants written out: own clock `w`, own increment `i` -/
theorem budget_div50_eq (wt bt wi bi : Nat) (side : Player) :
    budget (some wt) (some bt) (some wi) (some bi) none false side (· / 50)
      = some (min (min (ownClock side wt bt / 50 + ownInc side wi bi) 18446744073709551615 - 150)
          (ownClock side wt bt - 150) - 5) := by
  rw [budget_clock_eq, satAdd, u64Max_eq]
  rfl

/-- For `share w = w / 50` (two per cent) and no increment, a clock below 7500 ms yields the
allotment `0`. That is the range in which `2 % + inc − 150` with plain `-` (the Rust text before
commit f609d5e of /repo) underflowed; `saturating_sub` gives `0`. -/
theorem budget_low_clock_shortens {wt bt bi : Nat} (h : wt < 7500) :
    budget (some wt) (some bt) (some 0) (some bi) none false .white (· / 50) = some 0 := by
  rw [budget_div50_eq]; simp only [ownClock, ownInc, Option.some.injEq]; omega

theorem budget_low_clock_shortens_black {wt bt wi : Nat} (h : bt < 7500) :
    budget (some wt) (some bt) (some wi) (some 0) none false .black (· / 50) = some 0 := by
  rw [budget_div50_eq]; simp only [ownClock, ownInc, Option.some.injEq]; omega

/-- from 7750 ms on (where `wt / 50 ≥ 155`) the two-per-cent rule is what is used, exactly -/
theorem budget_two_percent {wt bt bi : Nat} (h : 7750 ≤ wt) (hu : wt ≤ u64Max) :
    budget (some wt) (some bt) (some 0) (some bi) none false .white (· / 50)
      = some (wt / 50 - 155) := by
  rw [u64Max_eq] at hu
  rw [budget_div50_eq]; simp only [ownClock, ownInc, Option.some.injEq]; omega

theorem budget_none_iff (wtime btime winc binc movetime : Option Nat) (infinite : Bool)
    (side : Player) (share : Nat → Nat) :
    budget wtime btime winc binc movetime infinite side share = none ↔
      infinite = true ∨
        (movetime = none ∧ (wtime = none ∨ btime = none ∨ winc = none ∨ binc = none)) := by
  cases movetime with
  | some mt => rw [budget_movetime_eq]; cases infinite <;> simp
  | none =>
    cases wtime <;> cases btime <;> cases winc <;> cases binc <;>
      first
      | (rw [budget_clock_eq]; cases infinite <;> simp)
      | (cases infinite <;> simp [budget])

theorem budget_isSome_iff (wtime btime winc binc movetime : Option Nat) (infinite : Bool)
    (side : Player) (share : Nat → Nat) :
    (budget wtime btime winc binc movetime infinite side share).isSome ↔
      infinite = false ∧
        (movetime.isSome ∨ (wtime.isSome ∧ btime.isSome ∧ winc.isSome ∧ binc.isSome)) := by
  have := budget_none_iff wtime btime winc binc movetime infinite side share
  cases hb : budget wtime btime winc binc movetime infinite side share <;>
    cases movetime <;> cases wtime <;> cases btime <;> cases winc <;> cases binc <;>
    cases infinite <;> simp_all

/-! ## 6. non-vacuity -/

example : budget (some 60000) (some 60000) (some 1000) (some 1000) none false .white (· / 50)
    = some 2045 := by decide
example : budget (some 60000) (some 30000) (some 1000) (some 0) none false .black (· / 50)
    = some 445 := by decide
example : budget (some 1000) (some 60000) (some 1000) (some 1000) none false .white (· / 50)
    = some 845 := by decide
example : budget (some 1000) (some 60000) (some 0) (some 0) none false .white (· / 50)
    = some 0 := by decide
example : budget (some 100) (some 60000) (some 5000) (some 0) none false .white (· / 50)
    = some 0 := by decide
/-- a huge increment cannot push the allotment past the clock -/
example : budget (some 10000) (some 10000) (some u64Max) (some 0) none false .white (· / 50)
    = some 9845 := by decide
example : budget (some 60000) (some 60000) (some 1000) (some 1000) (some 3000) false .white (· / 50)
    = some 2995 := by decide
example : budget (some 60000) (some 60000) (some 1000) (some 1000) (some 3) false .white (· / 50)
    = some 0 := by decide
example : budget (some 60000) (some 60000) (some 1000) (some 1000) (some 3000) true .white (· / 50)
    = none := by decide
example : budget (some 60000) none (some 1000) (some 1000) none false .white (· / 50)
    = none := by decide
example : budget none none none none none false .white (· / 50) = none := by decide
/-- the hypotheses of the theorems are satisfiable together -/
example : ∃ t, budget (some 60000) (some 60000) (some 1000) (some 1000) none false .white (· / 50)
    = some t ∧ 0 < t ∧ t + Gen.sleepCutMs + Gen.latencyMs ≤ 60000 := ⟨2045, by decide⟩

end Chess.Uci

#print axioms Chess.Uci.budget_clock_eq
#print axioms Chess.Uci.budget_le_clock_sub
#print axioms Chess.Uci.budget_le_clock
#print axioms Chess.Uci.budget_le_clock'
#print axioms Chess.Uci.budget_pos_room
#print axioms Chess.Uci.budget_le_movetime
#print axioms Chess.Uci.budget_monotone_white
#print axioms Chess.Uci.budget_monotone_black
#print axioms Chess.Uci.budget_monotone
#print axioms Chess.Uci.budget_fits_u64
#print axioms Chess.Uci.budget_result_fits_u64
#print axioms Chess.Uci.clock64_refines
#print axioms Chess.Uci.budget_low_clock_shortens
#print axioms Chess.Uci.budget_two_percent
#print axioms Chess.Uci.budget_none_iff
#print axioms Chess.Uci.budget_isSome_iff
