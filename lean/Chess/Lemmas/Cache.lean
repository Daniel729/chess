import Chess.Lemmas.Defs

/-!
# The incremental caches: `setPosition` keeps them consistent
-/
namespace Chess

/-! ### folds over a 64-vector after a point update -/

theorem foldr_xor_set (l : List UInt64) (i : Nat) (x : UInt64) (h : i < l.length) :
    (l.set i x).foldr (· ^^^ ·) 0 = l.foldr (· ^^^ ·) 0 ^^^ l[i] ^^^ x := by
  induction l generalizing i with
  | nil => simp at h
  | cons a l ih =>
    cases i with
    | zero =>
      simp only [List.set_cons_zero, List.foldr_cons, List.getElem_cons_zero]
      have : a ^^^ List.foldr (· ^^^ ·) 0 l ^^^ a ^^^ x = (a ^^^ a) ^^^ (x ^^^ List.foldr (· ^^^ ·) 0 l) := by ac_rfl
      rw [this]; simp
    | succ i =>
      simp only [List.set_cons_succ, List.foldr_cons, List.getElem_cons_succ]
      rw [ih i (by simpa using h)]
      ac_rfl

theorem foldr_add_set (l : List Int) (i : Nat) (x : Int) (h : i < l.length) :
    (l.set i x).foldr (· + ·) 0 = l.foldr (· + ·) 0 - l[i] + x := by
  induction l generalizing i with
  | nil => simp at h
  | cons a l ih =>
    cases i with
    | zero => simp only [List.set_cons_zero, List.foldr_cons, List.getElem_cons_zero]; omega
    | succ i =>
      simp only [List.set_cons_succ, List.foldr_cons, List.getElem_cons_succ]
      rw [ih i (by simpa using h)]; omega

theorem xorAll_set (v : Vector UInt64 64) (i : Nat) (x : UInt64) (h : i < 64) :
    xorAll (v.set i x) = xorAll v ^^^ v[i] ^^^ x := by
  unfold xorAll
  rw [Vector.toList_set]
  rw [foldr_xor_set _ _ _ (by simpa using h)]
  simp

theorem sumAll_set (v : Vector Int 64) (i : Nat) (x : Int) (h : i < 64) :
    sumAll (v.set i x) = sumAll v - v[i] + x := by
  unfold sumAll
  rw [Vector.toList_set]
  rw [foldr_add_set _ _ _ (by simpa using h)]
  simp

/-! ### squares and indices -/

theorem Pos.ofIdx_idx {p : Pos} (h : p.Valid) : Pos.ofIdx p.idx = p := by
  unfold Pos.Valid at h
  cases p with
  | mk r c =>
    simp only [Pos.ofIdx, Pos.idx, Pos.mk.injEq] at *
    constructor <;> omega

theorem Pos.ofIdx_valid {i : Nat} (h : i < 64) : (Pos.ofIdx i).Valid := by
  unfold Pos.ofIdx Pos.Valid
  simp only
  omega

theorem Pos.idx_ofIdx {i : Nat} (hi : i < 64) : (Pos.ofIdx i).idx = i := by
  unfold Pos.idx Pos.ofIdx; simp only; omega

theorem Pos.idx_ne {p q : Pos} (hp : p.Valid) (hq : q.Valid) (h : p ≠ q) : p.idx ≠ q.idx :=
  fun e => h (Pos.idx_inj hp hq e)

namespace Game

/-! ### `setPosition`, field by field -/

variable (g : Game) (p : Pos) (x : Option Piece)

@[simp] theorem setPosition_player : (g.setPosition p x).player = g.player := by
  unfold setPosition; split <;> rfl
@[simp] theorem setPosition_state : (g.setPosition p x).state = g.state := by
  unfold setPosition; split <;> rfl
@[simp] theorem setPosition_moveStack : (g.setPosition p x).moveStack = g.moveStack := by
  unfold setPosition; split <;> rfl
@[simp] theorem setPosition_endgame : (g.setPosition p x).endgame = g.endgame := by
  unfold setPosition; split <;> rfl
@[simp] theorem setPosition_wking : (g.setPosition p x).wking = g.wking := by
  unfold setPosition; split <;> rfl
@[simp] theorem setPosition_bking : (g.setPosition p x).bking = g.bking := by
  unfold setPosition; split <;> rfl
@[simp] theorem setPosition_top : (g.setPosition p x).top = g.top := by
  simp [top]
@[simp] theorem setPosition_kingPos (pl : Player) : (g.setPosition p x).kingPos pl = g.kingPos pl := by
  cases pl <;> simp [kingPos]

theorem setPosition_board (h : p.Valid) : (g.setPosition p x).board = g.board.set p.idx x (Pos.idx_lt h) := by
  unfold setPosition; simp [Pos.idx_lt h]

theorem setPosition_pastHashes (h : p.Valid) :
    (g.setPosition p x).pastHashes = g.pastHashes.set p.idx (placeHash p x) (Pos.idx_lt h) := by
  unfold setPosition; simp [Pos.idx_lt h]

theorem setPosition_pastScores (h : p.Valid) :
    (g.setPosition p x).pastScores = g.pastScores.set p.idx (placeScore p g.endgame x) (Pos.idx_lt h) := by
  unfold setPosition; simp [Pos.idx_lt h]

theorem setPosition_hash (h : p.Valid) :
    (g.setPosition p x).hash = g.hash ^^^ g.pastHashes[p.idx]'(Pos.idx_lt h) ^^^ placeHash p x := by
  unfold setPosition; simp [Pos.idx_lt h]

theorem setPosition_score (h : p.Valid) :
    (g.setPosition p x).score = g.score - g.pastScores[p.idx]'(Pos.idx_lt h) + placeScore p g.endgame x := by
  unfold setPosition; simp [Pos.idx_lt h]

theorem get_setPosition (h : p.Valid) (q : Pos) (hq : q.Valid) :
    (g.setPosition p x).get q = if q = p then x else g.get q := by
  unfold get
  simp only [Pos.idx_lt hq, dite_true, setPosition_board g p x h]
  by_cases e : q = p
  · subst e; simp
  · have := Pos.idx_ne hq h e
    simp [e, Vector.getElem_set_ne, Ne.symm this]

theorem get_ofIdx {i : Nat} (hi : i < 64) : g.get (Pos.ofIdx i) = g.board[i] := by
  unfold get
  simp only [Pos.idx_ofIdx hi, hi, dite_true]

theorem get_setPosition_self (h : p.Valid) : (g.setPosition p x).get p = x := by
  rw [get_setPosition g p x h p h]; simp

theorem get_setPosition_ne (h : p.Valid) (q : Pos) (hq : q.Valid) (e : q ≠ p) :
    (g.setPosition p x).get q = g.get q := by
  rw [get_setPosition g p x h q hq]; simp [e]

/-- the cached key and contribution of square `i` are those of what stands there -/
def CacheAt (i : Nat) (h : i < 64) : Prop :=
  g.pastHashes[i] = placeHash (Pos.ofIdx i) g.board[i]
    ∧ g.pastScores[i] = placeScore (Pos.ofIdx i) g.endgame g.board[i]

theorem cacheInv_iff : g.CacheInv ↔ ∀ i h, g.CacheAt i h :=
  ⟨fun c i h => ⟨c.hashes i h, c.scores i h⟩, fun c => ⟨fun i h => (c i h).1, fun i h => (c i h).2⟩⟩

/-- `setPosition` recomputes the cache of the square it writes and touches no other -/
theorem setPosition_cacheAt (h : p.Valid) (i : Nat) (hi : i < 64) (hc : p.idx ≠ i → g.CacheAt i hi) :
    (g.setPosition p x).CacheAt i hi := by
  unfold CacheAt
  simp only [setPosition_pastHashes g p x h, setPosition_pastScores g p x h, setPosition_board g p x h,
    setPosition_endgame]
  by_cases e : p.idx = i
  · subst e; simp [Pos.ofIdx_idx h]
  · simpa [Vector.getElem_set_ne, e, CacheAt] using hc e

theorem setPosition_cacheInv (h : p.Valid) (hc : g.CacheInv) : (g.setPosition p x).CacheInv :=
  (cacheInv_iff _).2 fun i hi => setPosition_cacheAt g p x h i hi fun _ => (cacheInv_iff g).1 hc i hi

theorem setPosition_resHash (h : p.Valid) : (g.setPosition p x).resHash = g.resHash := by
  unfold resHash
  rw [setPosition_hash g p x h, setPosition_pastHashes g p x h, xorAll_set _ _ _ (Pos.idx_lt h)]
  generalize g.hash = a
  generalize xorAll g.pastHashes = b
  generalize g.pastHashes[p.idx]'(Pos.idx_lt h) = c
  generalize placeHash p x = d
  have : a ^^^ c ^^^ d ^^^ (b ^^^ c ^^^ d) = (a ^^^ b) ^^^ ((c ^^^ c) ^^^ (d ^^^ d)) := by ac_rfl
  rw [this]; simp

theorem setPosition_resScore (h : p.Valid) : (g.setPosition p x).resScore = g.resScore := by
  unfold resScore
  rw [setPosition_score g p x h, setPosition_pastScores g p x h, sumAll_set _ _ _ (Pos.idx_lt h)]
  omega

/-! ### two games with consistent caches are equal as soon as the boards and the residues are -/

theorem eq_of_cacheInv {g g' : Game} (h : g.CacheInv) (h' : g'.CacheInv)
    (hb : g.board = g'.board) (hrh : g.resHash = g'.resHash) (hrs : g.resScore = g'.resScore)
    (hp : g.player = g'.player) (hm : g.moveStack = g'.moveStack) (he : g.endgame = g'.endgame)
    (hw : g.wking = g'.wking) (hk : g.bking = g'.bking) (hs : g.state = g'.state) : g = g' := by
  have e1 : g.pastHashes = g'.pastHashes := Vector.ext fun i hi => by rw [h.hashes i hi, h'.hashes i hi, hb]
  have e2 : g.pastScores = g'.pastScores := Vector.ext fun i hi => by rw [h.scores i hi, h'.scores i hi, hb, he]
  have e3 : g.hash = g'.hash := by
    unfold resHash at hrh
    rw [e1] at hrh
    exact (UInt64.xor_left_inj _).mp hrh
  have e4 : g.score = g'.score := by
    unfold resScore at hrs
    rw [e2] at hrs
    omega
  cases g; cases g'
  simp only [Game.mk.injEq] at *
  simp [*]

end Game
end Chess
