import Chess.Lemmas.CallShapeAux2
import Chess.Lemmas.Reach
import Chess.Lemmas.Bounds

/-!
# The call shape of the search is a theorem: no table access of the faithful driver is out of range

`search.rs` indexes `killer_moves[real_depth as usize]` (32 entries) and `history[index]`
(768 entries) with CHECKED indexing: an index outside the table is a panic. The model
(`Chess/Model/SearchF.lean`) uses the total accessors `getD` / `setIfInBounds`, for which an index
outside the table silently does nothing: if the model ever left the table it would misrepresent the
code exactly where the code fails.

`CallShapeAux1` defines the STRICT search `nodeS … driverS`: the faithful search over a state with
three sticky flags (`oobK`: a killer access missed the table; `oobH`: a history update missed the
table; `offShape`: a node was entered with `(remaining, rd)` rejected by an observer supplied by the
caller). By `CallShapeAux2` its `St` component and answers are those of the faithful search, so "the
flags are down at the end of `driverS`" says that in the run of `driverF` no access missed and no
call was rejected. This file: that statement for the node, the root search and the driver, for
EVERY table, EVERY oracle `runs`, EVERY `maxDepthArg`; the chess instance; and examples in which
the flags ARE raised when the shape is violated.

The killer table has one entry to spare on each side: the accesses have `1 ≤ rd ≤ depth - 2`, so a
depth of `Gen.killerLen + 1 = 33` would still be inside, and `rd = 32` with `remaining = 2`
(depth 34) is outside (`Example`).

Not covered: the history READS made while sorting (`o.orderKey m (fun i => history.getD i 0)`):
`orderKey` is an opaque function of the game interface. For chess it reads the table at the single
index `m.indexHistory` (`chess_orderKey_reads`), the index of the update covered here.
-/
namespace Chess.Search.Shape

open Chess.Search Chess.Search.F

variable {G M : Type}

theorem ss_eq_ok {s : SS M} {st : St M} (h1 : s.st = st) (h2 : s.oobK = false)
    (h3 : s.oobH = false) (h4 : s.offShape = false) : s = SS.ok st := by
  cases s
  simp only [] at h1 h2 h3 h4
  subst h1; subst h2; subst h3; subst h4
  rfl

theorem driverOutS_eq {r : DriverOutS M} {out : DriverOut M} (h1 : r.out = out)
    (h2 : r.oobK = false) (h3 : r.oobH = false) (h4 : r.offShape = false) :
    r = ⟨out, false, false, false⟩ := by
  cases r
  simp only [] at h1 h2 h3 h4
  subst h1; subst h2; subst h3; subst h4
  rfl

/-- `MAX_DEPTH` fits the killer table with one entry to spare -/
theorem maxDepth_le_killerLen : maxDepth ≤ Gen.killerLen + 1 := by decide

variable [DecidableEq M]

/-! ## 1. The node -/

/-- whatever observer accepts the calls `CallsFrom remaining rd`, it accepts every node call made by
`nodeF … remaining … rd`. Like every theorem of this file named for `nodeF`, `rootSearchF` or
`driverF`, it is stated of the strict search (`nodeS`, `rootSearchS`, `driverS`), whose state and
answers are those of the faithful one (`nodeS_erase`, `rootSearchS_erase`, `driverS_out`). -/
theorem nodeF_calls_on_shape (o : Ops G M) (runs : Nat → Bool) (obs : Nat → Int → Bool)
    (remaining : Nat) (g : G) (α β rd : Int) (s : SS M)
    (hobs : ∀ r rd', CallsFrom remaining rd r rd' → obs r rd' = true) :
    (nodeS o runs obs remaining g α β rd s).1.offShape = s.offShape :=
  (nodeS_keeps (K := False) (C := False) o runs obs (fun _ => True) False.elim
    False.elim hobs remaining g α β rd s False.elim CallsFrom.root
    ⟨False.elim, False.elim⟩).c

theorem nodeF_killer_accesses_in_range (o : Ops G M) (runs : Nat → Bool) (obs : Nat → Int → Bool)
    (remaining : Nat) (g : G) (α β rd : Int) (s : SS M)
    (hshape : rd.toNat + remaining ≤ Gen.killerLen + 1)
    (hsize : s.st.killers.size = Gen.killerLen)
    (hobs : ∀ r rd', CallsFrom remaining rd r rd' → obs r rd' = true) :
    (nodeS o runs obs remaining g α β rd s).1.st = (nodeF o runs remaining g α β rd s.st).1 ∧
    (nodeS o runs obs remaining g α β rd s).2 = (nodeF o runs remaining g α β rd s.st).2 ∧
    (nodeS o runs obs remaining g α β rd s).1.oobK = s.oobK ∧
    (nodeS o runs obs remaining g α β rd s).1.offShape = s.offShape ∧
    (nodeF o runs remaining g α β rd s.st).1.killers.size = Gen.killerLen := by
  have e := (nodeS_erase o runs obs remaining g α β rd s).1
  have k := nodeS_keeps (K := True) (C := False) o runs obs (fun _ => True) False.elim
    (fun _ => by omega) hobs remaining g α β rd s False.elim CallsFrom.root
    ⟨fun _ => hsize, False.elim⟩
  exact ⟨congrArg Prod.fst e, congrArg Prod.snd e, k.k trivial, k.c, e ▸ k.good.1 trivial⟩

theorem nodeF_table_accesses_in_range (o : Ops G M) (runs : Nat → Bool) (obs : Nat → Int → Bool)
    (A : G → Prop) (hH : HistOk o A) (remaining : Nat) (g : G) (α β rd : Int) (st : St M)
    (hA : A g) (hshape : rd.toNat + remaining ≤ Gen.killerLen + 1)
    (hsize : st.killers.size = Gen.killerLen) (hhist : st.history.size = Gen.historyLen)
    (hobs : ∀ r rd', CallsFrom remaining rd r rd' → obs r rd' = true) :
    nodeS o runs obs remaining g α β rd (SS.ok st) =
      (SS.ok (nodeF o runs remaining g α β rd st).1, (nodeF o runs remaining g α β rd st).2) := by
  have e := (nodeS_erase o runs obs remaining g α β rd (SS.ok st)).1
  have k := nodeS_keeps (K := True) (C := True) o runs obs A (fun _ => hH)
    (fun _ => by omega) hobs remaining g α β rd (SS.ok st) (fun _ => hA) CallsFrom.root
    ⟨fun _ => hsize, fun _ => hhist⟩
  exact Prod.ext (ss_eq_ok (congrArg Prod.fst e) (k.k trivial) (k.h trivial) k.c)
    (congrArg Prod.snd e :)

/-! ## 2. The root search -/

theorem rootSearchF_calls_on_shape (o : Ops G M) (runs : Nat → Bool) (obs : Nat → Int → Bool) (g : G)
    (depth : Nat) (s : SS M) (hobs : ∀ r rd, Calls depth r rd → obs r rd = true) :
    (rootSearchS o runs obs g depth s).1.offShape = s.offShape :=
  (rootSearchS_keeps (K := False) (C := False) o runs obs (fun _ => True) False.elim g depth
    False.elim hobs s False.elim False.elim).c

/-- in words: every node call of `rootSearchF … depth`, `depth ≥ 1`, has
`remaining + rd = depth` and `1 ≤ rd` -/
theorem rootSearchF_calls_sum (o : Ops G M) (runs : Nat → Bool) (g : G) (depth : Nat) (s : SS M)
    (hd : 1 ≤ depth) :
    (rootSearchS o runs (fun r rd => decide ((r : Int) + rd = depth ∧ 1 ≤ rd)) g depth s).1.offShape =
      s.offShape :=
  rootSearchF_calls_on_shape o runs _ g depth s
    (fun r rd h => decide_eq_true (by have := h.shape hd; omega))

/-- `depth ≤ Gen.killerLen + 1` is one more than `MAX_DEPTH`; no hypothesis on the state: the killer
table is replaced -/
theorem rootSearchF_killer_accesses_in_range (o : Ops G M) (runs : Nat → Bool)
    (obs : Nat → Int → Bool) (g : G) (depth : Nat) (s : SS M) (hd : depth ≤ Gen.killerLen + 1)
    (hobs : ∀ r rd, Calls depth r rd → obs r rd = true) :
    (rootSearchS o runs obs g depth s).1.st = (rootSearchF o runs g depth s.st).1 ∧
    (rootSearchS o runs obs g depth s).2 = (rootSearchF o runs g depth s.st).2 ∧
    (rootSearchS o runs obs g depth s).1.oobK = s.oobK ∧
    (rootSearchS o runs obs g depth s).1.offShape = s.offShape := by
  have e := rootSearchS_erase o runs obs g depth s
  have k := rootSearchS_keeps (K := True) (C := False) o runs obs (fun _ => True) False.elim
    g depth (fun _ => hd) hobs s False.elim False.elim
  exact ⟨congrArg Prod.fst e, congrArg Prod.snd e, k.k trivial, k.c⟩

theorem rootSearchF_table_accesses_in_range (o : Ops G M) (runs : Nat → Bool)
    (obs : Nat → Int → Bool) (A : G → Prop) (hH : HistOk o A) (g : G) (depth : Nat) (st : St M)
    (hA : A g) (hd : depth ≤ Gen.killerLen + 1) (hhist : st.history.size = Gen.historyLen)
    (hobs : ∀ r rd, Calls depth r rd → obs r rd = true) :
    rootSearchS o runs obs g depth (SS.ok st) =
      (SS.ok (rootSearchF o runs g depth st).1, (rootSearchF o runs g depth st).2) ∧
    (rootSearchF o runs g depth st).1.history.size = Gen.historyLen := by
  have e := rootSearchS_erase o runs obs g depth (SS.ok st)
  have k := rootSearchS_keeps (K := True) (C := True) o runs obs A (fun _ => hH)
    g depth (fun _ => hd) hobs (SS.ok st) (fun _ => hA) (fun _ => hhist)
  exact ⟨Prod.ext (ss_eq_ok (congrArg Prod.fst e) (k.k trivial) (k.h trivial) k.c)
    (congrArg Prod.snd e :), e ▸ k.hist trivial⟩

/-! ## 3. The driver -/

theorem driverS_keeps {K C : Prop} (o : Ops G M) (runs : Nat → Bool) (obs : Nat → Nat → Int → Bool)
    (A : G → Prop) (hH : C → HistOk o A) (g : G) (hA : C → A g) (tt : Table M) (off : Bool)
    (md : Option Nat)
    (hobs : ∀ d, d ≤ limitOf md → ∀ r rd, Calls d r rd → obs d r rd = true) :
    KeepsOut K C (SS.ok (initSt tt off)) (driverS o runs obs g tt off md) :=
  driverLoopS_keeps o runs obs A hH g hA (limitOf md)
    (fun _ => Nat.le_trans (limitOf_le_maxDepth md) maxDepth_le_killerLen) hobs _ _
    (startDepth_le_limit o g tt md) _ _ _ (fun _ => Array.size_replicate)

/-- every node call made during iteration `d` of `driverF` satisfies `Calls d` (and
`d ≤ limitOf md ≤ MAX_DEPTH`): whatever observer accepts these calls is never violated -/
theorem driverF_calls_on_shape (o : Ops G M) (runs : Nat → Bool) (obs : Nat → Nat → Int → Bool)
    (g : G) (tt : Table M) (off : Bool) (md : Option Nat)
    (hobs : ∀ d, d ≤ limitOf md → ∀ r rd, Calls d r rd → obs d r rd = true) :
    (driverS o runs obs g tt off md).offShape = false :=
  (driverS_keeps (K := False) (C := False) o runs obs (fun _ => True) False.elim g
    False.elim tt off md hobs).c

/-- in words: every node call of the driver has `remaining + rd = max depth 1`, where `depth` is the
depth of the iteration, and `1 ≤ rd ≤ MAX_DEPTH`, `remaining < MAX_DEPTH` (the bound the per-ply
stacks of C15 need) -/
theorem driverF_calls_sum (o : Ops G M) (runs : Nat → Bool) (g : G) (tt : Table M) (off : Bool)
    (md : Option Nat) :
    (driverS o runs
      (fun d r rd => decide ((r : Int) + rd = max d 1 ∧ 1 ≤ rd ∧ rd ≤ maxDepth ∧ r < maxDepth))
      g tt off md).offShape = false :=
  driverF_calls_on_shape o runs _ g tt off md (fun d hd r rd h => decide_eq_true (by
    have h1 := calls_iff.1 h
    have h2 := limitOf_le_maxDepth md
    have h3 : maxDepth = 32 := rfl
    omega))

/-- **Killer table, no hypothesis**: the `DriverOut` of the strict driver is that of `driverF`, no
killer access of the run was out of range, and every node call was on the shape `Calls depth`. -/
theorem driverF_killer_accesses_in_range (o : Ops G M) (runs : Nat → Bool) (g : G) (tt : Table M)
    (off : Bool) (md : Option Nat) :
    (driverS o runs shapeObs g tt off md).out = driverF o runs g tt off md ∧
    (driverS o runs shapeObs g tt off md).oobK = false ∧
    (driverS o runs shapeObs g tt off md).offShape = false := by
  have k := driverS_keeps (K := True) (C := False) o runs shapeObs (fun _ => True)
    False.elim g False.elim tt off md (fun d _ r rd h => shapeObs_iff.2 h)
  exact ⟨driverS_out o runs shapeObs g tt off md, k.k trivial, k.c⟩

/-- **Both tables**, for a game satisfying `HistOk o A` and a position satisfying `A`. -/
theorem driverF_table_accesses_in_range (o : Ops G M) (A : G → Prop) (hH : HistOk o A)
    (runs : Nat → Bool) (g : G) (hA : A g) (tt : Table M) (off : Bool) (md : Option Nat) :
    driverS o runs shapeObs g tt off md = ⟨driverF o runs g tt off md, false, false, false⟩ := by
  have k := driverS_keeps (K := True) (C := True) o runs shapeObs A (fun _ => hH) g (fun _ => hA)
    tt off md (fun d _ r rd h => shapeObs_iff.2 h)
  exact driverOutS_eq (driverS_out o runs shapeObs g tt off md) (k.k trivial) (k.h trivial) k.c

/-- the same for a whole session: the table handed on by any history of searches, each possibly
stopped, is just another table -/
theorem sessionF_table_accesses_in_range (o : Ops G M) (A : G → Prop) (hH : HistOk o A)
    (reqs : List (Req G)) (r : Req G) (hA : A r.g) :
    driverS o r.runs shapeObs r.g (tableAfterF o {} reqs) r.off r.md =
      ⟨driverF o r.runs r.g (tableAfterF o {} reqs) r.off r.md, false, false, false⟩ :=
  driverF_table_accesses_in_range o A hH r.runs r.g hA _ r.off r.md

/-! ## 4. The flags ARE raised off the shape -/

theorem nodeS_offShape_of_rejected (o : Ops G M) (runs : Nat → Bool) (obs : Nat → Int → Bool)
    (remaining : Nat) (g : G) (α β rd : Int) (s : SS M) (h : obs remaining rd = false) :
    (nodeS o runs obs remaining g α β rd s).1.offShape = true :=
  (nodeS_erase o runs obs remaining g α β rd s).2.c (observe_of_false obs remaining rd s h)

/-- an interior node that gets as far as sorting its moves with `rd` outside the killer table raises
`oobK` -/
theorem nodeS_oobK_of_out_of_range (o : Ops G M) (runs : Nat → Bool) (obs : Nat → Int → Bool)
    (r : Nat) (g : G) (α β rd : Int) (s : SS M) (hruns : runs s.st.polls = true)
    (hcut : ttCut (ttGet (pollSt s.st) (o.hash g)) (r + 2) α β = none)
    (hmoves : (o.checked g).isEmpty = false) (hrd : s.st.killers.size ≤ rd.toNat) :
    (nodeS o runs obs (r + 2) g α β rd s).1.oobK = true := by
  rw [nodeS_eq]
  simp only [nodeCases, observe_st, hruns, Bool.not_true, Bool.false_eq_true, if_false, hcut,
    hmoves]
  exact (nodeLoopS_store_sticky o
    (fun m a b s2 => (observe_sticky ..).trans (nodeS_erase o runs obs _ _ a b _ s2).2)
    (r + 2) β _ 0 α scoreMin none _ _).k (readKiller_oobK_of_ge _ _ hrd)

/-! ## 5. Chess -/

/-- **the chess instance of the game hypothesis**: in a well-formed game every generated move fits
the board, so its history index is `asIndex * 64 + idx < 768` -/
theorem chess_histOk : HistOk Uci.chessOps Game.WF where
  closed := chess_closed
  idx := fun g _ hw hm _ hi =>
    Bounds.index_history_lt_of_fits (Game.getMoves_fits hw true (show _ ∈ (g.getMoves true).1 from hm)).1 hi

/-- chess, killer table: no hypothesis on the position -/
example (runs : Nat → Bool) (g : Game) (tt : Table Move) (off : Bool) (md : Option Nat) :
    (driverS Uci.chessOps runs shapeObs g tt off md).out = driverF Uci.chessOps runs g tt off md ∧
    (driverS Uci.chessOps runs shapeObs g tt off md).oobK = false ∧
    (driverS Uci.chessOps runs shapeObs g tt off md).offShape = false :=
  driverF_killer_accesses_in_range Uci.chessOps runs g tt off md

/-- chess, both tables: every well-formed game -/
theorem chess_table_accesses_in_range (runs : Nat → Bool) (g : Game) (hw : g.WF) (tt : Table Move)
    (off : Bool) (md : Option Nat) :
    driverS Uci.chessOps runs shapeObs g tt off md =
      ⟨driverF Uci.chessOps runs g tt off md, false, false, false⟩ :=
  driverF_table_accesses_in_range Uci.chessOps Game.WF chess_histOk runs g hw tt off md

/-- chess, both tables: every game the UCI layer can reach, after any session -/
example (reqs : List (Req Game)) (r : Req Game) (hr : Reach r.g) :
    driverS Uci.chessOps r.runs shapeObs r.g (tableAfterF Uci.chessOps {} reqs) r.off r.md =
      ⟨driverF Uci.chessOps r.runs r.g (tableAfterF Uci.chessOps {} reqs) r.off r.md,
        false, false, false⟩ :=
  sessionF_table_accesses_in_range Uci.chessOps Game.WF chess_histOk reqs r (reach_wf hr)

/-- the history reads made while sorting, for chess: `move_score` reads the table at the single
index `m.indexHistory` (the index of the update at a cut-off), and only for a quiet normal move -/
theorem chess_orderKey_reads (m : Move) (f f' : Nat → Nat)
    (h : ∀ i, m.indexHistory = some i → f i = f' i) : Uci.orderKey m f = Uci.orderKey m f' := by
  cases m with
  | normal pc s e cap =>
    cases cap with
    | some c => rfl
    | none =>
      have := h _ rfl
      simp only [Uci.orderKey, Move.indexHistory, Option.getD_some]
      rw [this]
  | promotion o t s e cap => rfl
  | enPassant o sc ec => rfl
  | castlingLong o => rfl
  | castlingShort o => rfl

/-! ## 6. Non-vacuity, on the game of `SearchDriver.lean` (positions `0, 1, 2` have the moves `1, 2`)

`Std.HashMap` does not reduce in the kernel: the kernel-checked facts are obtained by applying the
theorems; the `#guard`s are side checks by evaluation. -/
namespace Example
open Chess.Search.Example

def anyObs : Nat → Int → Bool := fun _ _ => true

theorem ex_noCut (off : Bool) (r : Nat) (α β : Int) :
    ttCut (ttGet (pollSt (initSt ({} : Table Nat) off)) (ex_x.hash 0)) r α β = none := by
  have : ttGet (pollSt (initSt ({} : Table Nat) off)) (ex_x.hash 0) = none := by
    unfold ttGet pollSt initSt
    cases off <;> exact Std.HashMap.getElem?_empty
  rw [this]
  rfl

/-- **off the shape the flag IS raised**: `rd = 40`, `remaining = 2` -/
example (α β : Int) :
    (nodeS ex_x (fun _ => true) anyObs 2 0 α β 40 (SS.ok (initSt {} false))).1.oobK = true :=
  nodeS_oobK_of_out_of_range ex_x _ anyObs 0 0 α β 40 _ rfl (ex_noCut false 2 α β) (by decide)
    (by decide)

/-- **the bound `rd.toNat + remaining ≤ Gen.killerLen + 1` is sharp**: `rd = 32`, `remaining = 2`
(what a root search of depth 34 would call) raises the flag … -/
example (α β : Int) :
    (nodeS ex_x (fun _ => true) anyObs 2 0 α β 32 (SS.ok (initSt {} false))).1.oobK = true :=
  nodeS_oobK_of_out_of_range ex_x _ anyObs 0 0 α β 32 _ rfl (ex_noCut false 2 α β) (by decide)
    (by decide)

/-- … `rd = 31`, `remaining = 2` (depth 33) does not … -/
example (α β : Int) :
    (nodeS ex_x (fun _ => true) anyObs 2 0 α β 31 (SS.ok (initSt {} false))).1.oobK = false :=
  (nodeF_killer_accesses_in_range ex_x _ anyObs 2 0 α β 31 (SS.ok (initSt {} false)) (by decide)
    (by decide) (fun _ _ _ => rfl)).2.2.1

/-- … nor does any search of the driver, whatever the oracle, the table and the depth argument -/
example (runs : Nat → Bool) (g : UInt64) (tt : Table Nat) (off : Bool) (md : Option Nat) :
    (driverS ex_x runs shapeObs g tt off md).oobK = false :=
  (driverF_killer_accesses_in_range ex_x runs g tt off md).2.1

/-- the observer is not vacuous either: a node call it rejects raises `offShape` -/
example (α β : Int) :
    (nodeS ex_x (fun _ => true) (fun r rd => decide ((r : Int) + rd = 3)) 2 0 α β 2
      (SS.ok (initSt {} false))).1.offShape = true :=
  nodeS_offShape_of_rejected ex_x _ _ 2 0 α β 2 _ (by decide)

-- side checks by evaluation
-- the driver on the shape: all flags down, same reports, same table as `driverF`
#guard (driverS ex_x (fun _ => true) shapeObs 0 {} false (some 6)).oobK == false
#guard (driverS ex_x (fun _ => true) shapeObs 0 {} false (some 6)).oobH == false
#guard (driverS ex_x (fun _ => true) shapeObs 0 {} false (some 6)).offShape == false
#guard (driverS ex_x (fun _ => true) shapeObs 0 {} false (some 6)).out.infos.map (fun i => (i.depth, i.score, i.nodes, i.pv)) ==
  (driverF ex_x (fun _ => true) 0 {} false (some 6)).infos.map (fun i => (i.depth, i.score, i.nodes, i.pv))
#guard (driverS ex_x (fun _ => true) shapeObs 0 {} false (some 6)).out.st.killers ==
  (driverF ex_x (fun _ => true) 0 {} false (some 6)).st.killers
#guard (driverS ex_x (fun _ => true) shapeObs 0 {} false (some 6)).out.st.history ==
  (driverF ex_x (fun _ => true) 0 {} false (some 6)).st.history
-- the killer table IS used by this search (so the checked accesses are exercised)
#guard (driverF ex_x (fun _ => true) 0 {} false (some 6)).st.killers.any (·.isSome)
-- a wrong shape is seen: an observer that wants `remaining + rd = depth + 1`
#guard (driverS ex_x (fun _ => true) (fun d r rd => decide ((r : Int) + rd = d + 1)) 0 {} false (some 3)).offShape == true
-- off the shape: killer read and write at 40
#guard (nodeS ex_x (fun _ => true) anyObs 2 0 (-100) 100 40 (SS.ok (initSt {} false))).1.oobK == true
#guard (nodeS ex_x (fun _ => true) anyObs 2 0 (-100) 100 31 (SS.ok (initSt {} false))).1.oobK == false
-- a history table that is too short: the update at the cut-off is seen (`histIdx m = some m`)
#guard (nodeS ex_x (fun _ => true) anyObs 2 0 (-100) (-50) 1
  (SS.ok { initSt {} false with history := #[] })).1.oobH == true
#guard (nodeS ex_x (fun _ => true) anyObs 2 0 (-100) (-50) 1 (SS.ok (initSt {} false))).1.oobH == false

end Example

#print axioms CallsFrom.shape
#print axioms callsFrom_iff
#print axioms Calls.shape
#print axioms calls_iff
#print axioms nodeS_erase
#print axioms rootSearchS_erase
#print axioms driverLoopS_erase
#print axioms driverS_out
#print axioms nodeS_keeps
#print axioms rootSearchS_keeps
#print axioms driverLoopS_keeps
#print axioms nodeF_calls_on_shape
#print axioms nodeF_killer_accesses_in_range
#print axioms nodeF_table_accesses_in_range
#print axioms rootSearchF_calls_on_shape
#print axioms rootSearchF_calls_sum
#print axioms rootSearchF_killer_accesses_in_range
#print axioms rootSearchF_table_accesses_in_range
#print axioms driverF_calls_on_shape
#print axioms driverF_calls_sum
#print axioms driverF_killer_accesses_in_range
#print axioms driverF_table_accesses_in_range
#print axioms sessionF_table_accesses_in_range
#print axioms nodeS_offShape_of_rejected
#print axioms nodeS_oobK_of_out_of_range
#print axioms chess_histOk
#print axioms chess_table_accesses_in_range
#print axioms chess_orderKey_reads

end Chess.Search.Shape
