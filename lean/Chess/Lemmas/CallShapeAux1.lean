import Chess.Lemmas.SearchF

/-!
# The STRICT search: `nodeF` … `driverF` with CHECKED table accesses and an observer of the calls

`Chess/Model/SearchF.lean` reads the killer table with `getD` and writes it with `setIfInBounds`
(likewise the history table): an index outside the table would silently do nothing in the model,
while `killer_moves[real_depth as usize]` / `history[index]` in `search.rs` panic. The functions of
this file (`nodeS`, `nodeLoopS`, `rootLoopS`, `rootSearchS`, `driverLoopS`, `driverS`) are the `…F`
functions over a state `SS M = St M` + three sticky flags:

* `oobK` is raised by a killer read `killers[i]?` that misses and by a killer write with
  `¬ i < killers.size`;
* `oobH` is raised by a history update (`history[i] += …`: one read, one write, same index) with
  `¬ i < history.size`;
* `offShape` is raised at the entry of a node whose `(remaining, rd)` fails the observer
  `obs : Nat → Int → Bool` given by the caller (this turns "every call made in the run satisfies …"
  into a statement about a flag).

On a miss the tables are left as they are and the default is read, exactly as the total accessors
do, so the `St` component of a strict run IS the faithful run whatever the flags say
(`CallShapeAux2`: erasure, and the flags are sticky); what has to be proved is that the flags are
never raised (`CallShapeAux2`, second part).

Not instrumented: the history reads made by `o.orderKey m (fun i => history.getD i 0)` while
sorting: `orderKey` is an opaque function of the game interface, which indices it reads is a
property of the game (for chess: the single index `m.indexHistory`, see `CallShape.lean`).
-/
namespace Chess.Search.Shape

open Chess.Search Chess.Search.F

variable {G M : Type}

structure SS (M : Type) where
  st : St M
  oobK : Bool := false
  oobH : Bool := false
  offShape : Bool := false

def SS.ok (st : St M) : SS M := ⟨st, false, false, false⟩

/-! ## the checked accesses -/

/-- `killer_moves[i]` (read): a miss raises `oobK` and reads the default of `getD` -/
def readKiller (s : SS M) (i : Nat) : Option M × SS M :=
  match s.st.killers[i]? with
  | some k => (k, s)
  | none => (none, { s with oobK := true })

/-- `killer_moves[i] = Some(m)`: outside the table `oobK` is raised and nothing is written -/
def writeKiller (s : SS M) (i : Nat) (m : M) : SS M :=
  if h : i < s.st.killers.size then
    { s with st := { s.st with killers := s.st.killers.set i (some m) h } }
  else { s with oobK := true }

/-- `history[i] += bonus(history[i])`: outside the table `oobH` is raised and nothing is written -/
def bumpHistory (s : SS M) (i : Nat) (remaining : Nat) : SS M :=
  if h : i < s.st.history.size then
    { s with st := { s.st with history := s.st.history.set i (historyBonus remaining s.st.history[i]) h } }
  else { s with oobH := true }

/-- the observer at the entry of a node -/
def observe (obs : Nat → Int → Bool) (remaining : Nat) (rd : Int) (s : SS M) : SS M :=
  if obs remaining rd then s else { s with offShape := true }

/-- what a beta cut-off does to the tables, strict -/
def cutUpdS (o : Ops G M) (remaining : Nat) (rd : Int) (m : M) (s : SS M) : SS M :=
  let s := writeKiller s rd.toNat m
  match o.histIdx m with
  | some i => bumpHistory s i remaining
  | none => s

/-! ## the checked accesses against the total ones -/

theorem readKiller_fst (s : SS M) (i : Nat) : (readKiller s i).1 = s.st.killers.getD i none := by
  unfold readKiller
  rw [Array.getD_eq_getD_getElem?]
  cases s.st.killers[i]? <;> rfl

theorem readKiller_st (s : SS M) (i : Nat) : (readKiller s i).2.st = s.st := by
  unfold readKiller
  cases s.st.killers[i]? <;> rfl

theorem readKiller_oobH (s : SS M) (i : Nat) : (readKiller s i).2.oobH = s.oobH := by
  unfold readKiller
  cases s.st.killers[i]? <;> rfl

theorem readKiller_offShape (s : SS M) (i : Nat) : (readKiller s i).2.offShape = s.offShape := by
  unfold readKiller
  cases s.st.killers[i]? <;> rfl

theorem readKiller_snd_of_lt (s : SS M) (i : Nat) (h : i < s.st.killers.size) :
    (readKiller s i).2 = s := by
  unfold readKiller
  rw [Array.getElem?_eq_getElem h]

theorem readKiller_oobK_of_ge (s : SS M) (i : Nat) (h : s.st.killers.size ≤ i) :
    (readKiller s i).2.oobK = true := by
  unfold readKiller
  rw [Array.getElem?_eq_none h]

theorem readKiller_oobK_sticky (s : SS M) (i : Nat) (h : s.oobK = true) :
    (readKiller s i).2.oobK = true := by
  unfold readKiller
  cases s.st.killers[i]? <;> simp [h]

theorem writeKiller_st (s : SS M) (i : Nat) (m : M) :
    (writeKiller s i m).st = { s.st with killers := s.st.killers.setIfInBounds i (some m) } := by
  unfold writeKiller Array.setIfInBounds
  split <;> rfl

theorem writeKiller_of_lt (s : SS M) (i : Nat) (m : M) (h : i < s.st.killers.size) :
    writeKiller s i m = { s with st := { s.st with killers := s.st.killers.set i (some m) h } } := by
  unfold writeKiller
  rw [dif_pos h]

theorem writeKiller_oobK_of_ge (s : SS M) (i : Nat) (m : M) (h : s.st.killers.size ≤ i) :
    (writeKiller s i m).oobK = true := by
  unfold writeKiller
  rw [dif_neg (by omega)]

theorem bumpHistory_st (s : SS M) (i : Nat) (r : Nat) :
    (bumpHistory s i r).st =
      { s.st with history := s.st.history.setIfInBounds i (historyBonus r (s.st.history.getD i 0)) } := by
  unfold bumpHistory Array.setIfInBounds Array.getD
  split
  · rfl
  · rfl

theorem bumpHistory_of_lt (s : SS M) (i : Nat) (r : Nat) (h : i < s.st.history.size) :
    bumpHistory s i r =
      { s with st := { s.st with history := s.st.history.set i (historyBonus r s.st.history[i]) h } } := by
  unfold bumpHistory
  rw [dif_pos h]

theorem observe_st (obs : Nat → Int → Bool) (r : Nat) (rd : Int) (s : SS M) :
    (observe obs r rd s).st = s.st := by
  unfold observe
  split <;> rfl

theorem observe_of_true (obs : Nat → Int → Bool) (r : Nat) (rd : Int) (s : SS M)
    (h : obs r rd = true) : observe obs r rd s = s := by
  unfold observe
  rw [if_pos h]

theorem observe_of_false (obs : Nat → Int → Bool) (r : Nat) (rd : Int) (s : SS M)
    (h : obs r rd = false) : (observe obs r rd s).offShape = true := by
  unfold observe
  rw [if_neg (by simp [h])]

theorem cutUpdS_st (o : Ops G M) (remaining : Nat) (rd : Int) (m : M) (s : SS M) :
    (cutUpdS o remaining rd m s).st = cutUpdF o remaining rd m s.st := by
  unfold cutUpdS cutUpdF
  cases o.histIdx m with
  | none => exact writeKiller_st s rd.toNat m
  | some i =>
    simp only []
    rw [bumpHistory_st, writeKiller_st]

/-! ## the strict search -/

abbrev LoopResS (M : Type) := SS M × Option (Int × Int × Option M)

/-- `nodeLoopF` with the checked table accesses at the cut-off -/
def nodeLoopS (o : Ops G M) (child : G → Int → Int → Int → SS M → SS M × Option Int)
    (g : G) (remaining : Nat) (rd : Int) (beta : Int) :
    List M → Nat → Int → Int → Option M → SS M → LoopResS M
  | [], _, alpha, bestScore, bestMove, st => (st, some (alpha, bestScore, bestMove))
  | m :: ms, index, alpha, bestScore, bestMove, st =>
    let g' := o.push g m
    let step : SS M × Option (Int × Int × Option M) :=
      if index ≤ Gen.fullWindowMaxIndex then
        match child g' (-beta) (-alpha) (rd + 1) st with
        | (st, none) => (st, none)
        | (st, some v) =>
          let score := -v
          let (bestScore, bestMove) := if score > bestScore then (score, some m) else (bestScore, bestMove)
          (st, some (max alpha score, bestScore, bestMove))
      else
        match child g' (-alpha - 1) (-alpha) (rd + 1) st with
        | (st, none) => (st, none)
        | (st, some v) =>
          let test := -v
          if test > bestScore then
            match child g' (-beta) (-test) (rd + 1) st with
            | (st, none) => (st, none)
            | (st, some v2) =>
              let score := -v2
              (st, some (max alpha score, score, some m))
          else (st, some (alpha, bestScore, bestMove))
    match step with
    | (st, none) => (st, none)
    | (st, some (alpha, bestScore, bestMove)) =>
      if alpha ≥ beta then
        (cutUpdS o remaining rd m st, some (alpha, bestScore, bestMove))
      else nodeLoopS o child g remaining rd beta ms (index + 1) alpha bestScore bestMove st

theorem nodeLoopS_nil (o : Ops G M) (child : G → Int → Int → Int → SS M → SS M × Option Int)
    (g : G) (remaining : Nat) (rd beta : Int) (index : Nat)
    (alpha bestScore : Int) (bestMove : Option M) (st : SS M) :
    nodeLoopS o child g remaining rd beta [] index alpha bestScore bestMove st =
      (st, some (alpha, bestScore, bestMove)) := rfl

/-- (for the last step see `F.nodeLoopF_eq`) -/
theorem nodeLoopS_eq (o : Ops G M) (child : Child G (SS M)) (g : G) (remaining : Nat)
    (rd beta : Int) :
    nodeLoopS o child g remaining rd beta = nodeLoopG o (cutUpdS o remaining rd) child g rd beta := by
  funext ms
  induction ms with
  | nil => rfl
  | cons m ms ih =>
    funext index alpha bs bm s
    show _ = andThen _ _
    rw [← ih]
    set_option smartUnfolding false in rfl

/-- `rootLoopF` over the strict state -/
def rootLoopS (o : Ops G M) (child : G → Int → Int → Int → SS M → SS M × Option Int) (g : G) :
    List M → Nat → Int → Option M → SS M → SS M × Option (Int × Option M)
  | [], _, bestScore, bestMove, st => (st, some (bestScore, bestMove))
  | m :: ms, index, bestScore, bestMove, st =>
    let g' := o.push g m
    if index ≤ Gen.fullWindowMaxIndex then
      match child g' (scoreMin + 1) (-bestScore) 1 st with
      | (st, none) => (st, none)
      | (st, some v) =>
        let score := -v
        if score > bestScore then rootLoopS o child g ms (index + 1) score (some m) st
        else rootLoopS o child g ms (index + 1) bestScore bestMove st
    else
      match child g' (-bestScore - 1) (-bestScore) 1 st with
      | (st, none) => (st, none)
      | (st, some v) =>
        let score := -v
        if score > bestScore then
          match child g' (scoreMin + 1) (-score) 1 st with
          | (st, none) => (st, none)
          | (st, some v2) => rootLoopS o child g ms (index + 1) (-v2) (some m) st
        else rootLoopS o child g ms (index + 1) bestScore bestMove st

theorem rootLoopS_eq (o : Ops G M) (child : Child G (SS M)) (g : G) :
    rootLoopS o child g = rootLoopG o child g := by
  funext ms
  induction ms with
  | nil => rfl
  | cons m ms ih =>
    funext index bs bm s
    unfold rootLoopS rootLoopG stepG
    rw [ih]
    dsimp only
    split
    · obtain ⟨s1, _ | v⟩ := child (o.push g m) (scoreMin + 1) (-bs) 1 s
      · rfl
      · by_cases h : -v > bs <;> simp only [andThen, h, ↓reduceIte]
    · obtain ⟨s1, _ | v⟩ := child (o.push g m) (-bs - 1) (-bs) 1 s
      · rfl
      · by_cases h : -v > bs <;> simp only [andThen, h, ↓reduceIte]
        obtain ⟨s2, _ | v2⟩ := child (o.push g m) (scoreMin + 1) (- -v) 1 s1 <;> rfl

variable [DecidableEq M]

/-- the sorted move list of an interior node, with the killer already read -/
def nodeMovesK (o : Ops G M) (g : G) (killer : Option M) (st : St M) : List M :=
  sortMoves (moveKey o ((ttGet st (o.hash g)).bind (·.pv)) killer st.history) (o.checked g)

theorem nodeMoves_eq (o : Ops G M) (g : G) (rd : Int) (st : St M) :
    nodeMoves o g rd st = nodeMovesK o g (st.killers.getD rd.toNat none) st := rfl

/-- `nodeF` (with the pieces named as in `F.nodeF_eq`) with the observer at the entry and the
checked killer read -/
def nodeS (o : Ops G M) (runs : Nat → Bool) (obs : Nat → Int → Bool) :
    Nat → G → Int → Int → Int → SS M → SS M × Option Int
  | remaining, g, alpha, beta, rd, s =>
    let s := observe obs remaining rd s
    if !runs s.st.polls then ({ s with st := abortSt s.st }, none) else
    let s : SS M := { s with st := pollSt s.st }
    match ttCut (ttGet s.st (o.hash g)) remaining alpha beta with
    | some v => (s, some v)
    | none =>
      match remaining with
      | 0 => (s, some (qsearch o qFuel g alpha beta rd))
      | 1 => (s, some (depth1 o g alpha beta rd))
      | r + 2 =>
        if (o.checked g).isEmpty then
          (s, some (if o.safe g then 0 else scoreMin + Gen.mateNode + rd))
        else
          let k := readKiller s rd.toNat
          match nodeLoopS o (nodeS o runs obs (r + 1)) g (r + 2) rd beta
              (nodeMovesK o g k.1 k.2.st) 0 alpha scoreMin none k.2 with
          | (s, none) => (s, none)
          | (s, some (outAlpha, bestScore, bestMove)) =>
            ({ s with st := (nodeStore (o.hash g) (r + 2)
                ⟨bestScore, bestMove, r + 2, storeFlag bestScore alpha beta⟩ s.st) }, some outAlpha)

theorem nodeS_eq (o : Ops G M) (runs : Nat → Bool) (obs : Nat → Int → Bool) (remaining : Nat)
    (g : G) (α β rd : Int) (s : SS M) :
    nodeS o runs obs remaining g α β rd s =
      let s := observe obs remaining rd s
      if !runs s.st.polls then ({ s with st := abortSt s.st }, none) else
      let s : SS M := { s with st := pollSt s.st }
      nodeCases o remaining g α β rd s.st (fun v => (s, some v)) fun r =>
        let k := readKiller s rd.toNat
        andThen (nodeLoopG o (cutUpdS o (r + 2) rd) (nodeS o runs obs (r + 1)) g rd β
            (nodeMovesK o g k.1 k.2.st) 0 α scoreMin none k.2) fun s y =>
          ({ s with st :=
              nodeStore (o.hash g) (r + 2) ⟨y.2.1, y.2.2, r + 2, storeFlag y.2.1 α β⟩ s.st },
            some y.1) := by
  simp only [← nodeLoopS_eq]
  unfold nodeS nodeCases
  set_option smartUnfolding false in rfl

/-- `rootSearchF` (in the form of `F.rootSearchF_eq`) over the strict state -/
def rootSearchS (o : Ops G M) (runs : Nat → Bool) (obs : Nat → Int → Bool) (g : G) (depth : Nat)
    (s : SS M) : SS M × Option (Option M × Int × Bool) :=
  if (o.checked g).length = 1 then (s, some ((o.checked g).head?, 0, true)) else
  match rootHit (ttGet (rootSt s.st) (o.hash g)) depth with
  | some e => ({ s with st := rootSt s.st }, some (e.pv, e.score, false))
  | none =>
    match rootLoopS o (nodeS o runs obs (depth - 1)) g (rootSorted o g (rootSt s.st)) 0 (scoreMin + 1)
        none { s with st := rootSt s.st } with
    | (s', none) => (s', none)
    | (s', some (bestScore, bestMove)) =>
      ({ s' with st := rootStore (o.hash g) depth ⟨bestScore, bestMove, depth, .exact⟩ s'.st },
        some (bestMove, bestScore, false))

theorem rootSearchS_eq (o : Ops G M) (runs : Nat → Bool) (obs : Nat → Int → Bool) (g : G)
    (depth : Nat) (s : SS M) :
    rootSearchS o runs obs g depth s =
      if (o.checked g).length = 1 then (s, some ((o.checked g).head?, 0, true)) else
      match rootHit (ttGet (rootSt s.st) (o.hash g)) depth with
      | some e => ({ s with st := rootSt s.st }, some (e.pv, e.score, false))
      | none =>
        andThen (rootLoopG o (nodeS o runs obs (depth - 1)) g (rootSorted o g (rootSt s.st)) 0
            (scoreMin + 1) none { s with st := rootSt s.st }) fun s' y =>
          ({ s' with st := rootStore (o.hash g) depth ⟨y.1, y.2, depth, .exact⟩ s'.st },
            some (y.2, y.1, false)) := by
  rw [← rootLoopS_eq]
  unfold rootSearchS
  set_option smartUnfolding false in rfl

/-- what the strict driver returns: the `DriverOut` and the flags of the final state -/
structure DriverOutS (M : Type) where
  out : DriverOut M
  oobK : Bool
  oobH : Bool
  offShape : Bool

def mkOutS (found : Option M) (infos : List (Info M)) (s : SS M) (stopped : Bool) : DriverOutS M :=
  ⟨⟨found, infos, s.st, stopped⟩, s.oobK, s.oobH, s.offShape⟩

/-- `driverLoopF` over the strict state; the observer may depend on the depth of the iteration -/
def driverLoopS (o : Ops G M) (runs : Nat → Bool) (obs : Nat → Nat → Int → Bool) (g : G)
    (limit : Nat) : Nat → Nat → Option M → List (Info M) → SS M → DriverOutS M
  | 0, _, found, infos, s => mkOutS found infos.reverse s false
  | fuel + 1, depth, found, infos, s =>
    match rootSearchS o runs (obs depth) g depth s with
    | (s', none) => mkOutS found infos.reverse s' true
    | (s', some (bm, sc, only)) =>
      if exitCond limit depth only sc then
        mkOutS (bm.or found) (mkInfo o g depth sc s'.st :: infos).reverse s' false
      else driverLoopS o runs obs g limit fuel (depth + 1) (bm.or found)
        (mkInfo o g depth sc s'.st :: infos) s'

theorem driverLoopS_zero (o : Ops G M) (runs : Nat → Bool) (obs : Nat → Nat → Int → Bool) (g : G)
    (limit depth : Nat) (found : Option M) (infos : List (Info M)) (s : SS M) :
    driverLoopS o runs obs g limit 0 depth found infos s = mkOutS found infos.reverse s false := rfl

theorem driverLoopS_succ (o : Ops G M) (runs : Nat → Bool) (obs : Nat → Nat → Int → Bool) (g : G)
    (limit fuel depth : Nat) (found : Option M) (infos : List (Info M)) (s : SS M) :
    driverLoopS o runs obs g limit (fuel + 1) depth found infos s =
      match rootSearchS o runs (obs depth) g depth s with
      | (s', none) => mkOutS found infos.reverse s' true
      | (s', some (bm, sc, only)) =>
        if exitCond limit depth only sc then
          mkOutS (bm.or found) (mkInfo o g depth sc s'.st :: infos).reverse s' false
        else driverLoopS o runs obs g limit fuel (depth + 1) (bm.or found)
          (mkInfo o g depth sc s'.st :: infos) s' := rfl

/-- `driverF` over the strict state, started with all flags clear -/
def driverS (o : Ops G M) (runs : Nat → Bool) (obs : Nat → Nat → Int → Bool) (g : G) (tt : Table M)
    (ttOff : Bool) (maxDepthArg : Option Nat) : DriverOutS M :=
  driverLoopS o runs obs g (limitOf maxDepthArg)
    (limitOf maxDepthArg - startDepth o g tt maxDepthArg + 1) (startDepth o g tt maxDepthArg)
    (o.checked g).head? [] (SS.ok (initSt tt ttOff))

end Chess.Search.Shape
