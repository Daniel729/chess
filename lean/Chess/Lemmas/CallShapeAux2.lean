import Chess.Lemmas.CallShapeAux1

/-!
# The strict search against the faithful search, and the call shape

Erasure, unconditional: the `St` component and the answer of `nodeS`/`rootSearchS`/`driverS` are
those of `nodeF`/`rootSearchF`/`driverF` run on the `St` component, and a node does not lower a
flag. Hence "all flags down at the end" means that NO checked access of the run missed and NO
entered node was rejected by the observer.

`CallsFrom r0 rd0 r rd`: the node call `(remaining, rd) = (r, rd)` is made, directly or
indirectly, by a node call `(r0, rd0)`: a node with `remaining = r + 2` calls its children with
`(r + 1, rd + 1)`, nodes with `remaining ≤ 1` call no node.

`nodeS_keeps` (induction on `remaining`): a strict node called on the shape returns with the flags
it was given. The propositions `K`, `C` switch the parts on killers and history on (`True`) or off
(`False`: no hypothesis, no claim), so that one induction gives the call shape for every depth, the
killer theorem for every game, and the history theorem for the games satisfying `HistOk`.
-/
namespace Chess.Search.Shape

open Chess.Search Chess.Search.F

variable {G M : Type}

/-! ## a raised flag stays raised -/

structure Sticky (s s' : SS M) : Prop where
  k : s.oobK = true → s'.oobK = true
  h : s.oobH = true → s'.oobH = true
  c : s.offShape = true → s'.offShape = true

theorem Sticky.refl (s : SS M) : Sticky s s := ⟨id, id, id⟩

theorem Sticky.trans {a b c : SS M} (h1 : Sticky a b) (h2 : Sticky b c) : Sticky a c :=
  ⟨fun h => h2.k (h1.k h), fun h => h2.h (h1.h h), fun h => h2.c (h1.c h)⟩

theorem Sticky.withSt (s : SS M) (st : St M) : Sticky s { s with st := st } := ⟨id, id, id⟩

theorem readKiller_sticky (s : SS M) (i : Nat) : Sticky s (readKiller s i).2 :=
  ⟨readKiller_oobK_sticky s i, (readKiller_oobH s i).trans, (readKiller_offShape s i).trans⟩

theorem writeKiller_sticky (s : SS M) (i : Nat) (m : M) : Sticky s (writeKiller s i m) := by
  unfold writeKiller
  split
  · exact ⟨id, id, id⟩
  · exact ⟨fun _ => rfl, id, id⟩

theorem bumpHistory_sticky (s : SS M) (i r : Nat) : Sticky s (bumpHistory s i r) := by
  unfold bumpHistory
  split
  · exact ⟨id, id, id⟩
  · exact ⟨id, fun _ => rfl, id⟩

theorem observe_sticky (obs : Nat → Int → Bool) (r : Nat) (rd : Int) (s : SS M) :
    Sticky s (observe obs r rd s) := by
  unfold observe
  split
  · exact Sticky.refl s
  · exact ⟨id, id, fun _ => rfl⟩

theorem cutUpdS_sticky (o : Ops G M) (remaining : Nat) (rd : Int) (m : M) (s : SS M) :
    Sticky s (cutUpdS o remaining rd m s) := by
  unfold cutUpdS
  cases o.histIdx m with
  | none => exact writeKiller_sticky s rd.toNat m
  | some i => exact (writeKiller_sticky s rd.toNat m).trans (bumpHistory_sticky _ i remaining)

theorem nodeLoopS_store_sticky (o : Ops G M) {child : Child G (SS M)} {g : G} {rd : Int}
    (hc : ∀ m a b s, Sticky s (child (o.push g m) a b (rd + 1) s).1) (remaining : Nat) (β : Int)
    (ms : List M) (index : Nat) (α bs : Int) (bm : Option M) (k : SS M)
    (f : SS M → Int × Int × Option M → St M) :
    Sticky k (andThen (nodeLoopG o (cutUpdS o remaining rd) child g rd β ms index α bs bm k)
      fun s y => ({ s with st := f s y }, some y.1)).1 :=
  res_same_iff.1 ((nodeLoopG_res
    (fun m _ s hs => hs.trans (cutUpdS_sticky o remaining rd m s))
    (fun m _ a b s hs => res_same_iff.2 (hs.trans (hc m a b s))) index α bs bm (Sticky.refl k)).andThen
    fun _ _ hy => res_same_iff.2 (hy.1.trans (Sticky.withSt _ _)))

/-! ## the call shape -/

/-- the node calls made below a node call `(r0, rd0)` -/
inductive CallsFrom (r0 : Nat) (rd0 : Int) : Nat → Int → Prop
  | root : CallsFrom r0 rd0 r0 rd0
  | child {r : Nat} {rd : Int} : CallsFrom r0 rd0 (r + 2) rd → CallsFrom r0 rd0 (r + 1) (rd + 1)

/-- the node calls of `rootSearchF … depth`: the root calls `(depth - 1, 1)` -/
abbrev Calls (depth : Nat) : Nat → Int → Prop := CallsFrom (depth - 1) 1

/-- **the call shape**: `remaining + rd` is constant, `rd` only grows, `remaining` only shrinks,
and below the first call `remaining ≥ 1` -/
theorem CallsFrom.shape {r0 : Nat} {rd0 : Int} {r : Nat} {rd : Int} (h : CallsFrom r0 rd0 r rd) :
    (r : Int) + rd = r0 + rd0 ∧ rd0 ≤ rd ∧ r ≤ r0 ∧ (rd = rd0 ∨ 1 ≤ r) := by
  induction h with
  | root => exact ⟨rfl, Int.le_refl _, Nat.le_refl _, Or.inl rfl⟩
  | child _ ih => omega

theorem CallsFrom.of_shape {r0 : Nat} {rd0 : Int} (k : Nat) :
    ∀ (r : Nat) (rd : Int), (r : Int) + rd = r0 + rd0 → rd = rd0 + k → (k = 0 ∨ 1 ≤ r) →
      CallsFrom r0 rd0 r rd := by
  induction k with
  | zero =>
    intro r rd h1 h2 _
    have : r = r0 := by omega
    have : rd = rd0 := by omega
    subst_vars
    exact CallsFrom.root
  | succ k ih =>
    intro r rd h1 h2 h3
    match r, h3 with
    | r' + 1, _ =>
      have := ih (r' + 2) (rd - 1) (by omega) (by omega) (Or.inr (by omega))
      have h := CallsFrom.child this
      rwa [show rd - 1 + 1 = rd by omega] at h

theorem callsFrom_iff {r0 : Nat} {rd0 : Int} {r : Nat} {rd : Int} :
    CallsFrom r0 rd0 r rd ↔ (r : Int) + rd = r0 + rd0 ∧ rd0 ≤ rd ∧ (rd = rd0 ∨ 1 ≤ r) := by
  constructor
  · intro h
    obtain ⟨h1, h2, _, h4⟩ := h.shape
    exact ⟨h1, h2, h4⟩
  · rintro ⟨h1, h2, h3⟩
    refine CallsFrom.of_shape (rd - rd0).toNat r rd h1 (by omega) ?_
    rcases h3 with h3 | h3
    · exact Or.inl (by omega)
    · exact Or.inr h3

/-- **The call shape of one root search**: every node call has `remaining + rd = depth` (for
`depth ≥ 1`) and `1 ≤ rd`. -/
theorem Calls.shape {depth r : Nat} {rd : Int} (h : Calls depth r rd) (hd : 1 ≤ depth) :
    (r : Int) + rd = depth ∧ 1 ≤ rd ∧ r ≤ depth - 1 := by
  obtain ⟨h1, h2, h3, _⟩ := CallsFrom.shape h
  omega

theorem calls_iff {depth r : Nat} {rd : Int} :
    Calls depth r rd ↔ (r : Int) + rd = max depth 1 ∧ 1 ≤ rd ∧ (rd = 1 ∨ 1 ≤ r) := by
  unfold Calls
  rw [callsFrom_iff]
  omega

/-- the decidable form of `Calls depth`, an observer for the strict search -/
def shapeObs (depth : Nat) (r : Nat) (rd : Int) : Bool :=
  decide ((r : Int) + rd = max depth 1 ∧ 1 ≤ rd ∧ (rd = 1 ∨ 1 ≤ r))

theorem shapeObs_iff {depth r : Nat} {rd : Int} : shapeObs depth r rd = true ↔ Calls depth r rd := by
  unfold shapeObs
  rw [decide_eq_true_iff, calls_iff]

/-- a killer access of a node call on the shape is inside a table of `Gen.killerLen` entries: the
table is touched only by nodes with `remaining ≥ 2` -/
theorem CallsFrom.killer_lt {r0 : Nat} {rd0 : Int} {r : Nat} {rd : Int}
    (h : CallsFrom r0 rd0 (r + 2) rd) (hk : rd0.toNat + r0 ≤ Gen.killerLen + 1) :
    rd.toNat < Gen.killerLen := by
  obtain ⟨h1, h2, h3, _⟩ := h.shape
  omega

/-! ## the invariant: the tables keep their sizes and no flag moves -/

variable {K C : Prop}

/-- the tables have the sizes the driver gives them (the killer table under `K`, the history table
under `C`) -/
def Good (K C : Prop) (s : SS M) : Prop :=
  (K → s.st.killers.size = Gen.killerLen) ∧ (C → s.st.history.size = Gen.historyLen)

structure Keeps (K C : Prop) (s s' : SS M) : Prop where
  good : Good K C s'
  k : K → s'.oobK = s.oobK
  h : C → s'.oobH = s.oobH
  c : s'.offShape = s.offShape

theorem Keeps.refl {s : SS M} (hg : Good K C s) : Keeps K C s s :=
  ⟨hg, fun _ => rfl, fun _ => rfl, rfl⟩

theorem Keeps.trans {a b c : SS M} (h1 : Keeps K C a b) (h2 : Keeps K C b c) :
    Keeps K C a c :=
  ⟨h2.good, fun hk => (h2.k hk).trans (h1.k hk), fun hc => (h2.h hc).trans (h1.h hc),
    h2.c.trans h1.c⟩

theorem Keeps.withSt {s : SS M} (hg : Good K C s) (st : St M)
    (hk : st.killers = s.st.killers) (hh : st.history = s.st.history) :
    Keeps K C s { s with st := st } :=
  ⟨⟨fun hK => by show st.killers.size = _; rw [hk]; exact hg.1 hK,
    fun hc => by show st.history.size = _; rw [hh]; exact hg.2 hc⟩, fun _ => rfl, fun _ => rfl, rfl⟩

theorem readKiller_keeps {s : SS M} (hg : Good K C s) (i : Nat)
    (hi : K → i < Gen.killerLen) : Keeps K C s (readKiller s i).2 := by
  unfold readKiller
  cases hx : s.st.killers[i]? with
  | some k => exact Keeps.refl hg
  | none =>
    refine ⟨hg, fun hK => ?_, fun _ => rfl, rfl⟩
    have h1 := Array.getElem?_eq_none_iff.1 hx
    have h2 := hg.1 hK
    have h3 := hi hK
    omega

theorem writeKiller_keeps {s : SS M} (hg : Good K C s) (i : Nat) (m : M)
    (hi : K → i < Gen.killerLen) : Keeps K C s (writeKiller s i m) := by
  unfold writeKiller
  split
  · refine ⟨⟨fun hK => ?_, hg.2⟩, fun _ => rfl, fun _ => rfl, rfl⟩
    simp only [Array.size_set]
    exact hg.1 hK
  · rename_i hlt
    refine ⟨hg, fun hK => ?_, fun _ => rfl, rfl⟩
    have h2 := hg.1 hK
    have h3 := hi hK
    omega

theorem bumpHistory_keeps {s : SS M} (hg : Good K C s) (i r : Nat)
    (hi : C → i < Gen.historyLen) : Keeps K C s (bumpHistory s i r) := by
  unfold bumpHistory
  split
  · refine ⟨⟨hg.1, fun hc => ?_⟩, fun _ => rfl, fun _ => rfl, rfl⟩
    simp only [Array.size_set]
    exact hg.2 hc
  · rename_i hlt
    refine ⟨hg, fun _ => rfl, fun hc => ?_, rfl⟩
    exact absurd (by rw [hg.2 hc]; exact hi hc) hlt

/-- the index of the history table for `m`, if any, is inside the table -/
def HistIn (o : Ops G M) (m : M) : Prop := ∀ i, o.histIdx m = some i → i < Gen.historyLen

theorem cutUpdS_keeps (o : Ops G M) (remaining : Nat) (rd : Int) (m : M) {s : SS M}
    (hg : Good K C s) (hki : K → rd.toNat < Gen.killerLen) (hhi : C → HistIn o m) :
    Keeps K C s (cutUpdS o remaining rd m s) := by
  unfold cutUpdS
  have h1 := writeKiller_keeps hg rd.toNat m hki
  cases hx : o.histIdx m with
  | none => exact h1
  | some i => exact h1.trans (bumpHistory_keeps h1.good i remaining (fun hc => hhi hc i hx))

theorem childOk_keeps {childS : Child G (SS M)} {g' : G} {rd' : Int}
    (hc : ∀ a b s, Good K C s → Keeps K C s (childS g' a b rd' s).1) (s0 : SS M) :
    ChildOk (Keeps K C s0) (Keeps K C s0) childS g' rd' :=
  fun a b s hs => res_same_iff.2 (hs.trans (hc a b s hs.good))

theorem nodeStore_killers (h : UInt64) (d : Nat) (e : Entry M) (st : St M) :
    (nodeStore h d e st).killers = st.killers ∧ (nodeStore h d e st).history = st.history :=
  nodeStore_ind (P := fun s => s.killers = st.killers ∧ s.history = st.history) ⟨rfl, rfl⟩ ⟨rfl, rfl⟩

theorem rootStore_killers (h : UInt64) (d : Nat) (e : Entry M) (st : St M) :
    (rootStore h d e st).killers = st.killers ∧ (rootStore h d e st).history = st.history :=
  rootStore_ind (P := fun s => s.killers = st.killers ∧ s.history = st.history) ⟨rfl, rfl⟩ ⟨rfl, rfl⟩

/-- the hypotheses on the game for the history table: an invariant `A` of the positions searched,
closed under the checked moves, under which the history index of a checked move is inside the
table -/
structure HistOk (o : Ops G M) (A : G → Prop) : Prop where
  closed : ∀ g m, A g → m ∈ o.checked g → A (o.push g m)
  idx : ∀ g m, A g → m ∈ o.checked g → HistIn o m

/-- the invariant between the iterations of the driver: only the history table matters, the killer
table is replaced at the start of every iteration -/
structure KeepsR (K C : Prop) (s s' : SS M) : Prop where
  hist : C → s'.st.history.size = Gen.historyLen
  k : K → s'.oobK = s.oobK
  h : C → s'.oobH = s.oobH
  c : s'.offShape = s.offShape

theorem KeepsR.refl {s : SS M} (hg : C → s.st.history.size = Gen.historyLen) :
    KeepsR K C s s := ⟨hg, fun _ => rfl, fun _ => rfl, rfl⟩

theorem KeepsR.trans {a b c : SS M} (h1 : KeepsR K C a b) (h2 : KeepsR K C b c) :
    KeepsR K C a c :=
  ⟨h2.hist, fun hk => (h2.k hk).trans (h1.k hk), fun hc => (h2.h hc).trans (h1.h hc),
    h2.c.trans h1.c⟩

theorem Keeps.toR {s s' : SS M} (h : Keeps K C s s') : KeepsR K C s s' :=
  ⟨h.good.2, h.k, h.h, h.c⟩

structure KeepsOut (K C : Prop) (s : SS M) (r : DriverOutS M) : Prop where
  k : K → r.oobK = s.oobK
  h : C → r.oobH = s.oobH
  c : r.offShape = s.offShape

theorem keepsOut_mkOutS {s s' : SS M} (h : KeepsR K C s s') (found : Option M)
    (infos : List (Info M)) (stopped : Bool) : KeepsOut K C s (mkOutS found infos s' stopped) :=
  ⟨h.k, h.h, h.c⟩

variable [DecidableEq M] (o : Ops G M) (runs : Nat → Bool)

/-! ## erasure -/

/-- **Erasure for the node**: whatever the state, the indices and the observer, the strict node
returns the state and the answer of the faithful node, and does not lower a flag, the observer's
included. -/
theorem nodeS_erase (obs : Nat → Int → Bool) (remaining : Nat)
    (g : G) (α β rd : Int) (s : SS M) :
    mapRes SS.st (nodeS o runs obs remaining g α β rd s) = nodeF o runs remaining g α β rd s.st ∧
      Sticky (observe obs remaining rd s) (nodeS o runs obs remaining g α β rd s).1 := by
  induction remaining using Nat.strongRecOn generalizing g α β rd s with
  | _ n ih =>
    rw [nodeS_eq, nodeF_eq, ← observe_st obs n rd s]
    generalize observe obs n rd s = s'
    simp only []
    cases runs s'.st.polls with
    | false => exact ⟨rfl, Sticky.withSt _ _⟩
    | true =>
      refine nodeCases_rel (R := fun a b => mapRes SS.st a = b ∧ Sticky s' a.1)
        (fun v => ⟨rfl, Sticky.withSt _ _⟩) fun r hn => ?_
      have hk1 := readKiller_fst ({ s' with st := pollSt s'.st } : SS M) rd.toNat
      have hk2 := readKiller_st ({ s' with st := pollSt s'.st } : SS M) rd.toNat
      have hk3 := (Sticky.withSt s' (pollSt s'.st)).trans (readKiller_sticky _ rd.toNat)
      generalize readKiller ({ s' with st := pollSt s'.st } : SS M) rd.toNat = k
        at hk1 hk2 hk3 ⊢
      simp only [] at hk1 hk2
      rw [nodeMoves_eq, ← hk1, ← hk2]
      have hc := fun m a b r' s2 => ih (r + 1) (by omega) (o.push g m) a b r' s2
      exact ⟨(lifts_mapRes SS.st).andThen (nodeLoopG_rel (lifts_mapRes _)
          (cutUpdS_st o (r + 2) rd) (fun m a b r' s2 => (hc m a b r' s2).1) _ _ _ _ _)
          fun s y => rfl,
        hk3.trans (nodeLoopS_store_sticky o
          (fun m a b s2 => (observe_sticky ..).trans (hc m a b _ s2).2)
          (r + 2) β _ 0 α scoreMin none k.2 _)⟩

theorem rootSearchS_erase (obs : Nat → Int → Bool) (g : G)
    (depth : Nat) (s : SS M) :
    mapRes SS.st (rootSearchS o runs obs g depth s) = rootSearchF o runs g depth s.st := by
  rw [rootSearchF_eq, rootSearchS_eq]
  by_cases hl : (o.checked g).length = 1
  · simp only [hl, if_true]; rfl
  · simp only [hl, if_false]
    cases rootHit (ttGet (rootSt s.st) (o.hash g)) depth with
    | some e => rfl
    | none =>
      exact (lifts_mapRes SS.st).andThen (rootLoopG_rel (lifts_mapRes _)
        (fun m a b r' s2 => (nodeS_erase o runs obs (depth - 1) _ a b r' s2).1) _ _ _ _)
        fun s y => rfl

theorem driverLoopS_erase (obs : Nat → Nat → Int → Bool) (g : G)
    (limit fuel depth : Nat) (found : Option M) (infos : List (Info M)) (s : SS M) :
    (driverLoopS o runs obs g limit fuel depth found infos s).out =
      driverLoopF o runs g limit fuel depth found infos s.st := by
  induction fuel generalizing depth found infos s with
  | zero => rfl
  | succ f ih =>
    rw [driverLoopS_succ, driverLoopF_succ, ← rootSearchS_erase o runs (obs depth) g depth s]
    obtain ⟨s1, _ | ⟨bm, sc, only⟩⟩ := rootSearchS o runs (obs depth) g depth s
    · rfl
    · dsimp only [mapRes]
      split
      · rfl
      · exact ih _ _ _ _

theorem driverS_out (obs : Nat → Nat → Int → Bool) (g : G)
    (tt : Table M) (off : Bool) (md : Option Nat) :
    (driverS o runs obs g tt off md).out = driverF o runs g tt off md :=
  driverLoopS_erase o runs obs g _ _ _ _ _ _

/-! ## on the call shape no flag is raised -/

/-- **The strict node on the call shape keeps every flag.** `(r0, rd0)` is the first call; the
observer accepts the calls below `(r0, rd0)`. Under `K`: `rd0.toNat + r0 ≤ Gen.killerLen + 1` and
the killer table has `Gen.killerLen` entries. Under `C`: the game satisfies `HistOk o A`, the
position `A`, the history table has `Gen.historyLen` entries. -/
theorem nodeS_keeps (obs : Nat → Int → Bool)
    (A : G → Prop) (hH : C → HistOk o A)
    {r0 : Nat} {rd0 : Int} (hk : K → rd0.toNat + r0 ≤ Gen.killerLen + 1)
    (hobs : ∀ r rd, CallsFrom r0 rd0 r rd → obs r rd = true)
    (remaining : Nat) (g : G) (α β rd : Int) (s : SS M) (hA : C → A g)
    (hcalls : CallsFrom r0 rd0 remaining rd) (hg : Good K C s) :
    Keeps K C s (nodeS o runs obs remaining g α β rd s).1 := by
  induction remaining using Nat.strongRecOn generalizing g α β rd s with
  | _ n ih =>
    rw [nodeS_eq, observe_of_true obs n rd s (hobs n rd hcalls)]
    simp only []
    have hp : Keeps K C s ({ s with st := pollSt s.st } : SS M) := Keeps.withSt hg _ rfl rfl
    split
    · exact Keeps.withSt hg _ rfl rfl
    · refine nodeCases_ind (P := fun a : SS M × Option Int => Keeps K C s a.1) (fun v => hp) fun r hn => ?_
      subst hn
      have hki : K → rd.toNat < Gen.killerLen := fun hK => hcalls.killer_lt (hk hK)
      have hk3 := hp.trans (readKiller_keeps hp.good rd.toNat hki)
      generalize readKiller ({ s with st := pollSt s.st } : SS M) rd.toNat = k at hk3 ⊢
      have hmem : ∀ m ∈ nodeMovesK o g k.1 k.2.st, m ∈ o.checked g :=
        fun m hm => (mem_sortMoves _ _ _).1 hm
      exact res_same_iff.1 ((nodeLoopG_res
        (fun m hm s1 hs => hs.trans (cutUpdS_keeps o (r + 2) rd m hs.good hki
          fun hC => (hH hC).idx g m (hA hC) (hmem m hm)))
        (fun m hm => childOk_keeps (fun a b s2 hg2 => ih (r + 1) (by omega) _ _ _ _ _
          (fun hC => (hH hC).closed g m (hA hC) (hmem m hm)) (CallsFrom.child hcalls) hg2) s)
        0 α scoreMin none hk3).andThen fun s1 y hy => res_same_iff.2 (hy.1.trans
          (Keeps.withSt hy.1.good _ (nodeStore_killers ..).1 (nodeStore_killers ..).2)))

/-- the root search starts from a fresh killer table of `Gen.killerLen` entries and calls the nodes
`(depth - 1, 1)` -/
theorem rootSearchS_keeps (obs : Nat → Int → Bool)
    (A : G → Prop) (hH : C → HistOk o A) (g : G) (depth : Nat) (hd : K → depth ≤ Gen.killerLen + 1)
    (hobs : ∀ r rd, Calls depth r rd → obs r rd = true)
    (s : SS M) (hA : C → A g) (hg : C → s.st.history.size = Gen.historyLen) :
    KeepsR K C s (rootSearchS o runs obs g depth s).1 := by
  rw [rootSearchS_eq]
  have hg0 : Good K C ({ s with st := rootSt s.st } : SS M) := ⟨fun _ => Array.size_replicate, hg⟩
  have h0 : KeepsR K C s ({ s with st := rootSt s.st } : SS M) :=
    ⟨hg, fun _ => rfl, fun _ => rfl, rfl⟩
  split
  · exact KeepsR.refl hg
  · split
    · exact h0
    · exact h0.trans (Keeps.toR (res_same_iff.1 ((rootLoopG_res
        (fun m hm => childOk_keeps (fun a b s2 hg2 => nodeS_keeps o runs obs A hH
          (fun hK => by have := hd hK; simp only [Int.toNat_one]; omega) hobs (depth - 1) _ _ _ 1 s2
          (fun hC => (hH hC).closed g m (hA hC) (mem_rootSorted hm)) CallsFrom.root hg2) _)
        0 (scoreMin + 1) none (Keeps.refl hg0)).andThen fun s1 y hy => res_same_iff.2 (hy.1.trans
          (Keeps.withSt hy.1.good _ (rootStore_killers ..).1 (rootStore_killers ..).2)))))

/-- the depths the loop runs through stay `≤ limit` -/
theorem driverLoopS_keeps (obs : Nat → Nat → Int → Bool) (A : G → Prop) (hH : C → HistOk o A) (g : G) (hA : C → A g)
    (limit : Nat) (hlim : K → limit ≤ Gen.killerLen + 1)
    (hobs : ∀ d, d ≤ limit → ∀ r rd, Calls d r rd → obs d r rd = true)
    (fuel depth : Nat) (hd : depth ≤ limit) (found : Option M) (infos : List (Info M)) (s : SS M)
    (hg : C → s.st.history.size = Gen.historyLen) :
    KeepsOut K C s (driverLoopS o runs obs g limit fuel depth found infos s) := by
  induction fuel generalizing depth found infos s with
  | zero => exact keepsOut_mkOutS (KeepsR.refl hg) _ _ _
  | succ f ih =>
    rw [driverLoopS_succ]
    have h1 := rootSearchS_keeps (K := K) o runs (obs depth) A hH g depth
      (fun hK => by have := hlim hK; omega) (hobs depth hd) s hA hg
    generalize rootSearchS o runs (obs depth) g depth s = rS at h1 ⊢
    obtain ⟨s1, _ | ⟨bm, sc, only⟩⟩ := rS
    · exact keepsOut_mkOutS h1 _ _ _
    · dsimp only
      split
      · exact keepsOut_mkOutS h1 _ _ _
      · next hx =>
        have i1 := ih (depth + 1) (by have := (exitCond_false hx).1; omega) (bm.or found)
          (mkInfo o g depth sc s1.st :: infos) s1 h1.hist
        exact ⟨fun hK => (i1.k hK).trans (h1.k hK), fun hC => (i1.h hC).trans (h1.h hC),
          i1.c.trans h1.c⟩

end Chess.Search.Shape
