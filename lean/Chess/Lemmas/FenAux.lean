import Chess.Lemmas.Defs

/-!
# Auxiliary lemmas shared by the FEN reader / writer proofs
Characters, the two splitters, `expandRank`, `mapM` on `Option`, indexing of a flattened board.
-/
namespace Chess

/-! ### characters -/

theorem forall_ascii (P : Char → Prop) (h : ∀ n, n < 128 → P (Char.ofNat n)) :
    ∀ c : Char, c.toNat < 128 → P c := by
  intro c hc
  have := h c.toNat hc
  rwa [Char.ofNat_toNat] at this

theorem isAlpha_lt {c : Char} (h : c.isAlpha = true) : c.toNat < 128 := by
  simp only [Char.isAlpha, Char.isUpper, Char.isLower, Bool.or_eq_true, Bool.and_eq_true,
    decide_eq_true_eq] at h
  simp only [Char.toNat]
  simp only [ge_iff_le, UInt32.le_iff_toNat_le] at h
  have h1 : 'Z'.val.toNat = 90 := rfl
  have h2 : 'z'.val.toNat = 122 := rfl
  omega

theorem isDigit_lt {c : Char} (h : c.isDigit = true) : c.toNat < 128 := by
  simp only [Char.isDigit, Bool.and_eq_true, decide_eq_true_eq] at h
  simp only [Char.toNat]
  simp only [ge_iff_le, UInt32.le_iff_toNat_le] at h
  have h1 : '9'.val.toNat = 57 := rfl
  omega

/-- is one of the digits `1`–`8` (the test of `Spec.expandRank`) -/
def isD18 (c : Char) : Bool := '1'.toNat ≤ c.toNat && c.toNat ≤ '8'.toNat

theorem isD18_iff {c : Char} : isD18 c = true ↔ 49 ≤ c.toNat ∧ c.toNat ≤ 56 := by
  simp only [isD18, Bool.and_eq_true, decide_eq_true_eq]
  have h1 : '1'.toNat = 49 := rfl
  have h2 : '8'.toNat = 56 := rfl
  omega

/-- the table of facts checked on all 128 ASCII characters -/
def AsciiFacts (c : Char) : Prop :=
    (c.isAlpha = true →
        Piece.fromCharAscii c = Spec.pieceOfLetter c
        ∧ c.isDigit = false ∧ isD18 c = false ∧ c ≠ '/')
    ∧ (c.isDigit = true → c.isAlpha = false ∧ c ≠ '/' ∧ 48 ≤ c.toNat ∧ c.toNat ≤ 57)
    ∧ (isD18 c = true → c.isDigit = true)

instance : DecidablePred AsciiFacts := by unfold AsciiFacts; infer_instance

theorem ascii_table : ∀ n, n < 128 → AsciiFacts (Char.ofNat n) := by
  decide +kernel

theorem ascii_facts {c : Char} (h : c.toNat < 128) : AsciiFacts c :=
  forall_ascii AsciiFacts ascii_table c h

theorem alpha_facts {c : Char} (h : c.isAlpha = true) :
    Piece.fromCharAscii c = Spec.pieceOfLetter c ∧ c.isDigit = false ∧ isD18 c = false ∧ c ≠ '/' :=
  (ascii_facts (isAlpha_lt h)).1 h

theorem digit_facts {c : Char} (h : c.isDigit = true) :
    c.isAlpha = false ∧ c ≠ '/' ∧ 48 ≤ c.toNat ∧ c.toNat ≤ 57 :=
  (ascii_facts (isDigit_lt h)).2.1 h

theorem isD18_lt {c : Char} (h : isD18 c = true) : c.toNat < 128 := by
  have := isD18_iff.1 h; omega

theorem d18_isDigit {c : Char} (h : isD18 c = true) : c.isDigit = true :=
  (ascii_facts (isD18_lt h)).2.2 h

/-! ### the piece letters -/

theorem pieceOfLetter_some {c : Char} {pc : Piece} (h : Spec.pieceOfLetter c = some pc) :
    c.isAlpha = true := by
  unfold Spec.pieceOfLetter at h
  split at h <;> first | rfl | cases h

theorem asCharAscii_eq (pc : Piece) : pc.asCharAscii = Spec.letterOfPiece pc := by
  rcases pc with ⟨t, o⟩
  cases t <;> cases o <;> decide

theorem pieceOfLetter_letter (pc : Piece) : Spec.pieceOfLetter (Spec.letterOfPiece pc) = some pc := by
  rcases pc with ⟨t, o⟩
  cases t <;> cases o <;> decide

theorem letter_isAlpha (pc : Piece) : (Spec.letterOfPiece pc).isAlpha = true :=
  pieceOfLetter_some (pieceOfLetter_letter pc)

/-! ### `mapM` in `Option` -/

theorem mapM_opt_nil {α β : Type} (f : α → Option β) : ([] : List α).mapM f = some [] := rfl

theorem mapM_opt_cons {α β : Type} (f : α → Option β) (a : α) (l : List α) :
    (a :: l).mapM f = match f a, l.mapM f with
      | some b, some bs => some (b :: bs)
      | _, _ => none := by
  rw [List.mapM_cons]
  cases f a <;> cases l.mapM f <;> rfl

theorem mapM_opt_cons_some {α β : Type} {f : α → Option β} {a : α} {l : List α} {b : β}
    {bs : List β} : (a :: l).mapM f = some (b :: bs) ↔ f a = some b ∧ l.mapM f = some bs := by
  rw [mapM_opt_cons]
  cases f a <;> cases l.mapM f <;> simp

theorem mapM_opt_length {α β : Type} (f : α → Option β) : ∀ (l : List α) (l' : List β),
    l.mapM f = some l' → l'.length = l.length
  | [], _, h => by cases h; rfl
  | a :: l, l', h => by
    rw [mapM_opt_cons] at h
    split at h
    · next b bs _ hl => cases h; simp [mapM_opt_length f l bs hl]
    · cases h

/-! ### splitting -/

/-- accumulator-free form of `Spec.splitOn` -/
def splitOn' (sep : Char → Bool) : List Char → List (List Char)
  | [] => [[]]
  | c :: cs =>
    if sep c then [] :: splitOn' sep cs
    else match splitOn' sep cs with
      | hd :: tl => (c :: hd) :: tl
      | [] => [[c]]

theorem splitOn'_ne_nil (sep : Char → Bool) (s : List Char) : splitOn' sep s ≠ [] := by
  cases s with
  | nil => simp [splitOn']
  | cons c cs =>
    unfold splitOn'
    split
    · simp
    · split <;> simp

theorem splitOn_go_eq (sep : Char → Bool) : ∀ (cs cur : List Char),
    Spec.splitOn.go sep cs cur =
      match splitOn' sep cs with
      | hd :: tl => (cur.reverse ++ hd) :: tl
      | [] => [cur.reverse] := by
  intro cs
  induction cs with
  | nil => intro cur; simp [Spec.splitOn.go, splitOn']
  | cons c cs ih =>
    intro cur
    unfold Spec.splitOn.go splitOn'
    cases hh : splitOn' sep cs with
    | nil => exact absurd hh (splitOn'_ne_nil _ _)
    | cons hd tl =>
      by_cases hs : sep c = true
      · simp only [hs, if_true]
        rw [ih [], hh]
        simp
      · simp only [hs, if_false, Bool.false_eq_true]
        rw [ih (c :: cur), hh]
        simp

theorem splitOn_eq (sep : Char → Bool) (s : List Char) : Spec.splitOn sep s = splitOn' sep s := by
  unfold Spec.splitOn
  rw [splitOn_go_eq]
  cases h : splitOn' sep s with
  | nil => exact absurd h (splitOn'_ne_nil _ _)
  | cons hd tl => simp

theorem splitOn'_cons_sep {sep : Char → Bool} {c : Char} (h : sep c = true) (cs : List Char) :
    splitOn' sep (c :: cs) = [] :: splitOn' sep cs := by
  simp [splitOn', h]

theorem splitOn'_cons_not {sep : Char → Bool} {c : Char} (h : sep c = false) (cs : List Char) :
    ∃ hd tl, splitOn' sep cs = hd :: tl ∧ splitOn' sep (c :: cs) = (c :: hd) :: tl := by
  cases hh : splitOn' sep cs with
  | nil => exact absurd hh (splitOn'_ne_nil _ _)
  | cons hd tl => exact ⟨hd, tl, rfl, by simp [splitOn', h, hh]⟩

/-- a separator-free block followed by a separator is the first piece -/
theorem splitOn'_block {sep : Char → Bool} {w : Char} (hw : sep w = true) :
    ∀ (a rest : List Char), (∀ c ∈ a, sep c = false) →
      splitOn' sep (a ++ w :: rest) = a :: splitOn' sep rest := by
  intro a
  induction a with
  | nil => intro rest _; simp [splitOn', hw]
  | cons c a ih =>
    intro rest h
    have hc : sep c = false := h c (by simp)
    have := ih rest (fun x hx => h x (by simp [hx]))
    simp [splitOn', hc, this]

theorem splitOn'_single {sep : Char → Bool} :
    ∀ (a : List Char), (∀ c ∈ a, sep c = false) → splitOn' sep a = [a] := by
  intro a
  induction a with
  | nil => intro _; rfl
  | cons c a ih =>
    intro h
    have hc : sep c = false := h c (by simp)
    have := ih (fun x hx => h x (by simp [hx]))
    simp [splitOn', hc, this]

/-! ### the two white-space splitters agree -/

theorem isAsciiWs_eq (c : Char) : isAsciiWs c = Spec.isWs c := by
  unfold isAsciiWs Spec.isWs
  cases decide (c = ' ') <;> cases decide (c = '\t') <;> cases decide (c = '\n')
    <;> cases decide (c = '\x0C') <;> cases decide (c = '\r') <;> rfl

theorem splitWsAux_eq : ∀ (s cur : List Char) (acc : List (List Char)),
    splitWsAux s cur acc
      = acc.reverse ++ (Spec.splitOn.go Spec.isWs s cur).filter (fun f => !f.isEmpty) := by
  intro s
  induction s with
  | nil =>
    intro cur acc
    unfold splitWsAux Spec.splitOn.go
    cases cur <;> simp
  | cons c cs ih =>
    intro cur acc
    unfold splitWsAux Spec.splitOn.go
    rw [isAsciiWs_eq]
    by_cases hs : Spec.isWs c = true
    · simp only [hs, if_true]
      rw [ih]
      cases cur <;> simp
    · simp only [hs, if_false, Bool.false_eq_true]
      rw [ih]

theorem splitWs_eq_fields (s : List Char) : splitWs s = Spec.fields s := by
  unfold splitWs Spec.fields Spec.splitOn
  rw [splitWsAux_eq]; simp

/-! ### `expandRank` -/

/-- the squares one character of a rank stands for: a run of empty squares or one piece -/
def cells (c : Char) : Option (List (Option Piece)) :=
  if isD18 c then some (List.replicate (c.toNat - 48) none)
  else (Spec.pieceOfLetter c).map fun pc => [some pc]

theorem cells_digit {c : Char} (h : isD18 c = true) :
    cells c = some (List.replicate (c.toNat - 48) none) := by
  rw [cells, if_pos h]

theorem cells_letter {c : Char} {pc : Piece} (hd : isD18 c = false)
    (h : Spec.pieceOfLetter c = some pc) : cells c = some [some pc] := by
  rw [cells, hd, h]; rfl

theorem expandRank_cons (c : Char) (cs : List Char) :
    Spec.expandRank (c :: cs)
      = (cells c).bind fun new => (Spec.expandRank cs).map (new ++ ·) := by
  rw [Spec.expandRank, cells, ← isD18]
  cases Spec.expandRank cs <;> cases isD18 c <;> cases Spec.pieceOfLetter c <;> rfl

theorem expandRank_cons_eq_some {c : Char} {cs : List Char} {cur : List (Option Piece)} :
    Spec.expandRank (c :: cs) = some cur ↔
      ∃ new rest, cells c = some new ∧ Spec.expandRank cs = some rest ∧ cur = new ++ rest := by
  rw [expandRank_cons]
  cases cells c <;> cases Spec.expandRank cs <;> simp [eq_comm]

/-! ### indexing a flattened list of rows of length eight -/

theorem flatten_getElem? {α : Type} : ∀ (L : List (List α)), (∀ x ∈ L, x.length = 8) → ∀ i : Nat,
    L.flatten[i]? = (L[i / 8]?).bind (fun r => r[i % 8]?) := by
  intro L
  induction L with
  | nil => intro _ i; simp
  | cons x L ih =>
    intro h i
    have hx : x.length = 8 := h x (by simp)
    have ih' := ih (fun y hy => h y (by simp [hy]))
    rw [List.flatten_cons, List.getElem?_append]
    by_cases hi : i < 8
    · have h0 : i / 8 = 0 := by omega
      have h1 : i % 8 = i := by omega
      simp [hx, hi, h0, h1]
    · have h0 : i / 8 = (i - 8) / 8 + 1 := by omega
      have h1 : i % 8 = (i - 8) % 8 := by omega
      simp only [hx, hi, if_false]
      rw [ih' (i - 8), h0, h1]
      simp

/-- a board is the concatenation of its eight rows of eight squares, rank 1 first -/
theorem flatten_eq_toList {α : Type} {L : List (List α)} {b : Vector α 64} (hlen : L.length = 8)
    (h8 : ∀ x ∈ L, x.length = 8)
    (h : ∀ k j, k < 8 → j < 8 → (L[k]?).bind (fun r => r[j]?) = b[k * 8 + j]?) :
    L.flatten = b.toList := by
  apply List.ext_getElem?
  intro i
  rw [flatten_getElem? _ h8, Vector.getElem?_toList]
  by_cases hi : i < 64
  · rw [h (i / 8) (i % 8) (by omega) (by omega)]
    congr 1; omega
  · rw [List.getElem?_eq_none (by omega), Vector.getElem?_eq_none (by omega)]
    rfl

/-- generic way to establish `parsePlacement s = some b` (used by reader and writer) -/
theorem parsePlacement_of_rows {s : List Char} {ranks : List (List Char)}
    {rows : List (List (Option Piece))} {b : Vector (Option Piece) 64}
    (h1 : Spec.splitOn (· = '/') s = ranks) (h2 : ranks.length = 8)
    (h3 : ranks.mapM Spec.expandRank = some rows) (h4 : ∀ r ∈ rows, r.length = 8)
    (h5 : rows.reverse.flatten = b.toList) : Spec.parsePlacement s = some b := by
  unfold Spec.parsePlacement
  simp only [h1, h2, ne_eq, not_true_eq_false, if_false, h3]
  have hall : (rows.all fun r => decide (r.length = 8)) = true := by
    simp only [List.all_eq_true, decide_eq_true_eq]; exact h4
  rw [if_pos hall]
  have hsz : (rows.reverse.flatten).toArray.size = 64 := by
    rw [h5]; simp
  rw [dif_pos hsz]
  congr 1
  apply Vector.toArray_inj.1
  simp only [h5]
  rcases b with ⟨⟨l⟩, hl⟩
  rfl

theorem fenLoose_of_fields {s p sd c e : List Char} {rest : List (List Char)}
    {b : Vector (Option Piece) 64} {side : Player} {wk wq bk bq : Bool} {ep : Option Nat}
    (h1 : Spec.fields s = p :: sd :: c :: e :: rest) (h2 : Spec.parsePlacement p = some b)
    (h3 : Spec.parseSide sd = some side) (h4 : Spec.parseCastlingLoose c = some (wk, wq, bk, bq))
    (h5 : Spec.parseEpLoose e = some ep) :
    Spec.fenLoose s
      = some { board := b, side := side, wk := wk, wq := wq, bk := bk, bq := bq, ep := ep } := by
  unfold Spec.fenLoose
  simp only [h1, h2, h3, h4, h5]

end Chess
