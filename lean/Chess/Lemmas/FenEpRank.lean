import Chess.Lemmas.FenRead

/-! # An accepted text has its en-passant square on the rank that fits the side to move, and no pawn on
the first or the last rank -/
namespace Chess
open Chess.Game

theorem ofFen_epRankOk {s : List Char} {g : Game} (h : Game.ofFen s = .ok g) : Spec.epRankOk s = true := by
  obtain ⟨p, -⟩ := ofFen_parts h
  unfold Spec.epRankOk
  rw [← splitWs_eq_fields, p.fields]
  simp only
  rw [← sideOf_eq, p.sideOk]
  rcases epOf_rankOk p.epOk with e | ⟨f, e⟩
  · rw [e]
  · rw [e]; cases p.player <;> simp [epRankOf]

theorem noEdgePawns_of_board {a : Spec.APos} (h : pawnOnEdge a.board = false) :
    Spec.noEdgePawns a = true :=
  (FenChk.noEdgePawns_iff a).2 h

theorem ofFen_noEdgePawns {s : List Char} {g : Game} (h : Game.ofFen s = .ok g) :
    Spec.noEdgePawns g.abs = true := by
  obtain ⟨p, wk, bk, c, rfl⟩ := ofFen_parts h
  rw [updatePhase_abs]
  apply noEdgePawns_of_board
  rw [mkGame_abs]
  exact c.edge

end Chess
