import Chess.Lemmas.FenAux
import Chess.Lemmas.Invariant

/-!
# C17 — FEN import is faithful and refuses malformed text without crashing (reader side)

The placement scanner is followed one character at a time under the invariant `CInv` and compared
with the grammar of `Spec/Fen.lean` in both directions. `Game.ofFen` is, by `rfl`, the staged
reader `ofFen'`; what an accepted text went through is gathered in `Staged` and `Checked`, and
soundness, completeness and the representation invariant of the game built are read off these.
-/
namespace Chess

/-! ## the scanner, one character at a time -/

/-- the scanner after writing `o` on the square it stands on: `some pc` is what a piece letter
does, `none` what one round of the `putEmpty` loop does to a square not yet touched -/
def Scan.write (s : Scan) (o : Option Piece) (h : (Pos.mk s.row s.col).idx < 64) : Scan :=
  let p : Pos := ⟨s.row, s.col⟩
  { s with board := s.board.set p.idx o h,
           pastScores := s.pastScores.set p.idx (placeScore p false o) h,
           score := s.score + placeScore p false o,
           pastHashes := s.pastHashes.set p.idx (placeHash p o) h,
           hash := s.hash ^^^ placeHash p o, col := s.col + 1,
           wking := if o = some ⟨.king, .white⟩ then some p else s.wking,
           bking := if o = some ⟨.king, .black⟩ then some p else s.bking }

theorem step_cases {s s' : Scan} {ch : Char} (h : s.step ch = .ok s') :
    (ch = '/' ∧ s.row ≠ 0 ∧ s.col = 8 ∧ s' = { s with col := 0, row := s.row - 1 }) ∨
    (ch.isAlpha = true ∧ s.col < 8 ∧ ∃ pc, Piece.fromCharAscii ch = some pc ∧
        ∃ hi : (Pos.mk s.row s.col).idx < 64, s' = s.write (some pc) hi) ∨
    (ch.isDigit = true ∧ ch.isAlpha = false ∧ 49 ≤ ch.toNat ∧ (ch.toNat : Int) - 48 ≤ 8 - s.col ∧
        s' = s.putEmpty (ch.toNat - 48)) := by
  unfold Scan.step at h
  by_cases h1 : ch = '/'
  · rw [if_pos h1] at h
    split at h
    · cases h
    · split at h
      · cases h
      · rename_i hr hc
        simp only [Except.ok.injEq] at h
        exact Or.inl ⟨h1, hr, by simpa using hc, h.symm⟩
  · rw [if_neg h1] at h
    by_cases h2 : ch.isAlpha = true
    · rw [if_pos h2] at h
      split at h
      · cases h
      · rename_i hc
        split at h
        · cases h
        · rename_i pc hpc
          dsimp only at h
          by_cases hi : (Pos.mk s.row s.col).idx < 64
          · rw [dif_pos hi] at h
            simp only [Except.ok.injEq] at h
            refine Or.inr (Or.inl ⟨h2, by omega, pc, hpc, hi, ?_⟩)
            rw [← h]
            unfold Scan.write
            rcases pc with ⟨t, o⟩
            cases t <;> cases o <;> rfl
          · rw [dif_neg hi] at h; cases h
    · rw [if_neg h2] at h
      by_cases h3 : ch.isDigit = true
      · rw [if_pos h3] at h
        dsimp only at h
        split at h
        · cases h
        · rename_i hcnt
          simp only [Except.ok.injEq] at h
          have hz : '0'.toNat = 48 := rfl
          simp only [hz, Bool.or_eq_true, decide_eq_true_eq, not_or, Int.not_lt] at hcnt
          have htn : ((ch.toNat : Int) - (48 : Nat)).toNat = ch.toNat - 48 := by omega
          rw [hz, htn] at h
          refine Or.inr (Or.inr ⟨h3, by simpa using h2, by omega, by omega, h.symm⟩)
      · rw [if_neg h3] at h; cases h


/-- scanner position in natural numbers, inside the board -/
structure Scan.At (s : Scan) (r c : Nat) : Prop where
  row : s.row = r
  col : s.col = c
  r7 : r ≤ 7
  c8 : c ≤ 8

/-- square `i` has been passed by a scanner standing at `(r, c)` (ranks are read from 7 down) -/
def Visited (r c i : Nat) : Prop := r < i / 8 ∨ (i / 8 = r ∧ i % 8 < c)

theorem not_visited_start {i : Nat} (h : i < 64) : ¬ Visited 7 0 i := by unfold Visited; omega

theorem not_visited_ahead {r c i : Nat} (h1 : r * 8 + c ≤ i) (h2 : i < r * 8 + 8) :
    ¬ Visited r c i := by unfold Visited; omega

theorem visited_behind {r c i : Nat} (hc : c ≤ 8) (h1 : r * 8 ≤ i) (h2 : i < r * 8 + c) :
    Visited r c i := by unfold Visited; omega

theorem Visited.mono {r c c' i : Nat} (h : Visited r c i) (hc : c ≤ c') : Visited r c' i := by
  unfold Visited at *; omega

theorem visited_succ {r c : Nat} (hc : c < 8) (i : Nat) :
    Visited r (c + 1) i ↔ Visited r c i ∨ r * 8 + c = i := by unfold Visited; omega

theorem visited_slash {r : Nat} (hr : r ≠ 0) (i : Nat) : Visited (r - 1) 0 i ↔ Visited r 8 i := by
  unfold Visited; omega

def Scan.king (s : Scan) : Player → Option Pos
  | .white => s.wking
  | .black => s.bking

theorem idx_nat (r c : Nat) : (Pos.mk (r : Int) (c : Int)).idx = r * 8 + c := by
  unfold Pos.idx; simp only; omega

theorem ofIdx_nat (r c : Nat) (hc : c < 8) : Pos.ofIdx (r * 8 + c) = ⟨(r : Int), (c : Int)⟩ := by
  unfold Pos.ofIdx
  have h1 : (r * 8 + c) / 8 = r := by omega
  have h2 : (r * 8 + c) % 8 = c := by omega
  rw [h1, h2]

theorem run_cons {s s' : Scan} {ch : Char} {cs : List Char} (h : s.run (ch :: cs) = .ok s') :
    ∃ s1, s.step ch = .ok s1 ∧ s1.run cs = .ok s' := by
  unfold Scan.run at h
  split at h
  · cases h
  · rename_i s1 hs1; exact ⟨s1, hs1, h⟩

/-! ## the invariant of the scanner -/

/-- the scanner standing at `(r, c)`: the caches of the squares passed are right, the squares
ahead are untouched, the running hash and score are the sums of the caches, and the king squares
noted are those of the kings placed -/
structure CInv (s : Scan) (r c : Nat) : Prop where
  pos : s.At r c
  vis : ∀ (i : Nat) (h : i < 64), Visited r c i →
    s.pastHashes[i] = placeHash (Pos.ofIdx i) s.board[i]
      ∧ s.pastScores[i] = placeScore (Pos.ofIdx i) false s.board[i]
  unv : ∀ (i : Nat) (h : i < 64), ¬ Visited r c i →
    s.pastHashes[i] = 0 ∧ s.pastScores[i] = 0 ∧ s.board[i] = none
  hash : s.hash = xorAll s.pastHashes
  score : s.score = sumAll s.pastScores
  king : ∀ pl p, s.king pl = some p →
    ∃ (i : Nat) (h : i < 64), p = Pos.ofIdx i ∧ s.board[i] = some ⟨.king, pl⟩
  noKing : ∀ pl, s.king pl = none → ∀ (i : Nat) (h : i < 64), s.board[i] ≠ some ⟨.king, pl⟩

theorem CInv.ahead {s : Scan} {r c i : Nat} (inv : CInv s r c) (h : i < 64)
    (hv : ¬ Visited r c i) : s.board[i]? = some none := by
  rw [Vector.getElem?_eq_getElem h, (inv.unv i h hv).2.2]

theorem cinv_init : CInv Scan.init 7 0 := by
  refine ⟨⟨rfl, rfl, by omega, by omega⟩, ?_, ?_, ?_, ?_, ?_, ?_⟩
  · intro i h hv; exact absurd hv (not_visited_start h)
  · intro i h _; simp [Scan.init]
  · decide +kernel
  · decide +kernel
  · intro pl p hp; cases pl <;> cases hp
  · intro pl _ i h; simp [Scan.init]

theorem cinv_write {s : Scan} {r c : Nat} (inv : CInv s r c) (hc : c < 8) (o : Option Piece)
    (hi : (Pos.mk s.row s.col).idx < 64) : CInv (s.write o hi) r (c + 1) := by
  have hr7 := inv.pos.r7
  have hk : r * 8 + c < 64 := by omega
  have hp : Pos.mk s.row s.col = Pos.ofIdx (r * 8 + c) := by
    rw [inv.pos.row, inv.pos.col, ofIdx_nat r c hc]
  have hv := visited_succ (r := r) hc
  obtain ⟨u1, u2, u3⟩ := inv.unv _ hk (not_visited_ahead (Nat.le_refl _) (by omega))
  have hking : ∀ pl, (s.write o hi).king pl
      = if o = some ⟨.king, pl⟩ then some (Pos.ofIdx (r * 8 + c)) else s.king pl := by
    intro pl; rw [← hp]; cases pl <;> rfl
  refine ⟨⟨inv.pos.row, (congrArg (· + 1) inv.pos.col :), hr7, by omega⟩, ?_, ?_, ?_, ?_, ?_, ?_⟩
  · intro i h hvi
    simp only [Scan.write, hp, Pos.idx_ofIdx hk, Vector.getElem_set]
    split
    · next e => subst e; exact ⟨rfl, rfl⟩
    · next e => exact inv.vis i h (((hv i).1 hvi).resolve_right e)
  · intro i h hvi
    have e : ¬ r * 8 + c = i := fun e => hvi ((hv i).2 (.inr e))
    simp only [Scan.write, hp, Pos.idx_ofIdx hk, Vector.getElem_set, if_neg e]
    exact inv.unv i h (fun e => hvi ((hv i).2 (.inl e)))
  · simp only [Scan.write, xorAll_set, inv.hash, hp, Pos.idx_ofIdx hk, u1]
    simp
  · simp only [Scan.write, sumAll_set, inv.score, hp, Pos.idx_ofIdx hk, u2]
    omega
  · intro pl p hp'
    rw [hking] at hp'
    split at hp'
    · next ho =>
      cases hp'
      exact ⟨r * 8 + c, hk, rfl, by simp only [Scan.write, hp, Pos.idx_ofIdx hk, Vector.getElem_set_self, ho]⟩
    · obtain ⟨i, h, hpi, hbi⟩ := inv.king pl p hp'
      have e : ¬ r * 8 + c = i := by
        intro he; subst he; rw [u3] at hbi; cases hbi
      exact ⟨i, h, hpi, by simp only [Scan.write, hp, Pos.idx_ofIdx hk, Vector.getElem_set, if_neg e]; exact hbi⟩
  · intro pl hn i h
    rw [hking] at hn
    split at hn
    · cases hn
    · next ho =>
      simp only [Scan.write, hp, Pos.idx_ofIdx hk, Vector.getElem_set]
      split
      · exact ho
      · exact inv.noKing pl hn i h

theorem cinv_slash {s : Scan} {r : Nat} (inv : CInv s r 8) (hr : r ≠ 0) :
    CInv { s with col := 0, row := s.row - 1 } (r - 1) 0 := by
  have hr7 := inv.pos.r7
  have hv := visited_slash hr
  refine ⟨⟨?_, rfl, by omega, by omega⟩, ?_, ?_, inv.hash, inv.score, inv.king, inv.noKing⟩
  · simp only; rw [inv.pos.row]; omega
  · intro i h hvi; exact inv.vis i h ((hv i).1 hvi)
  · intro i h hvi; exact inv.unv i h (fun h' => hvi ((hv i).2 h'))

theorem cinv_putEmpty : ∀ (n : Nat) (s : Scan) (r c : Nat), CInv s r c → c + n ≤ 8 →
    CInv (s.putEmpty n) r (c + n) ∧ (s.putEmpty n).board = s.board := by
  intro n
  induction n with
  | zero => intro s r c inv _; exact ⟨inv, rfl⟩
  | succ n ih =>
    intro s r c inv hcn
    have hr7 := inv.pos.r7
    have hidx : (Pos.mk s.row s.col).idx = r * 8 + c := by
      rw [inv.pos.row, inv.pos.col, idx_nat]
    have hi : (Pos.mk s.row s.col).idx < 64 := by omega
    obtain ⟨-, u2, u3⟩ := inv.unv _ hi (by rw [hidx]; exact not_visited_ahead (Nat.le_refl _) (by omega))
    -- on an untouched square the loop body, which leaves the board and the score cache alone, is `write none`
    have e1 := Vector.set_getElem_self (xs := s.board) hi
    have e2 := Vector.set_getElem_self (xs := s.pastScores) hi
    rw [u3] at e1
    rw [u2] at e2
    have hw : s.putEmpty (n + 1) = (s.write none hi).putEmpty n := by
      rw [Scan.putEmpty, dif_pos hi]
      simp only [Scan.write, placeScore, placeHash, e1, e2, Int.add_zero, reduceCtorEq, if_false]
    rw [hw, show c + (n + 1) = c + 1 + n by omega]
    obtain ⟨inv', hb⟩ := ih _ r (c + 1) (cinv_write inv (by omega) none hi) (by omega)
    exact ⟨inv', hb.trans e1⟩

/-- one accepted character keeps the invariant; `/` leaves the board alone, any other character
writes the squares it stands for -/
theorem cinv_step {s s' : Scan} {ch : Char} {r c : Nat} (inv : CInv s r c)
    (h : s.step ch = .ok s') :
    (ch = '/' ∧ r ≠ 0 ∧ c = 8 ∧ CInv s' (r - 1) 0 ∧ s'.board = s.board) ∨
    (ch ≠ '/' ∧ ∃ new, cells ch = some new ∧ c + new.length ≤ 8
      ∧ CInv s' r (c + new.length)
      ∧ ∀ i, s'.board[i]? = if r * 8 + c ≤ i ∧ i < r * 8 + c + new.length
          then new[i - (r * 8 + c)]? else s.board[i]?) := by
  have hr7 := inv.pos.r7
  have hrow := inv.pos.row
  have hcol := inv.pos.col
  rcases step_cases h with ⟨h1, h2, h3, rfl⟩ | ⟨h1, h2, pc, hpc, hi, rfl⟩ | ⟨h1, h2, h3, h4, rfl⟩
  · obtain rfl : c = 8 := by omega
    have hr : r ≠ 0 := by omega
    exact .inl ⟨h1, hr, rfl, cinv_slash inv hr, rfl⟩
  · obtain ⟨a1, -, a3, a4⟩ := alpha_facts h1
    refine .inr ⟨a4, [some pc], cells_letter a3 (a1.symm.trans hpc), by simp; omega,
      cinv_write inv (by omega) (some pc) hi, ?_⟩
    intro i
    have hidx : (Pos.mk s.row s.col).idx = r * 8 + c := by rw [hrow, hcol, idx_nat]
    simp only [Scan.write, hidx, Vector.getElem?_set, List.length_singleton]
    by_cases e : r * 8 + c = i
    · subst e; simp
    · have : ¬ (r * 8 + c ≤ i ∧ i < r * 8 + c + 1) := by omega
      simp [e, this]
  · obtain ⟨-, hne, h48, -⟩ := digit_facts h1
    have hd18 : isD18 ch = true := by rw [isD18_iff]; omega
    have hn : c + (ch.toNat - 48) ≤ 8 := by omega
    obtain ⟨inv', hb⟩ := cinv_putEmpty (ch.toNat - 48) s r c inv hn
    refine .inr ⟨hne, _, cells_digit hd18, by simpa using hn, by simpa using inv', ?_⟩
    intro i
    rw [hb, List.length_replicate]
    split
    · next hi =>
      rw [inv.ahead (by omega) (not_visited_ahead hi.1 (by omega)), List.getElem?_replicate,
        if_pos (by omega)]
    · rfl

theorem cinv_run : ∀ (cs : List Char) (s s' : Scan) (r c : Nat), CInv s r c → s.run cs = .ok s' →
    ∃ r' c', CInv s' r' c' := by
  intro cs
  induction cs with
  | nil => intro s s' r c inv h; cases h; exact ⟨r, c, inv⟩
  | cons ch cs ih =>
    intro s s' r c inv h
    obtain ⟨s1, hs1, hrun⟩ := run_cons h
    rcases cinv_step inv hs1 with ⟨-, -, -, inv1, -⟩ | ⟨-, _, -, -, inv1, -⟩
    · exact ih _ _ _ _ inv1 hrun
    · exact ih _ _ _ _ inv1 hrun

/-- at the end of an accepted placement field every square has been passed -/
theorem cinv_final {pieces : List Char} {sc : Scan} (h : Scan.init.run pieces = .ok sc)
    (hr : sc.row = 0) (hc : sc.col = 8) : CInv sc 0 8 := by
  obtain ⟨r, c, inv⟩ := cinv_run pieces _ _ _ _ cinv_init h
  obtain rfl : r = 0 := by have := inv.pos.row; omega
  obtain rfl : c = 8 := by have := inv.pos.col; omega
  exact inv

/-! ## the scanner against the grammar -/

/-- squares already passed are never written again -/
theorem run_frame : ∀ (cs : List Char) (s s' : Scan) (r c : Nat), CInv s r c →
    s.run cs = .ok s' → ∀ i, Visited r c i → s'.board[i]? = s.board[i]? := by
  intro cs
  induction cs with
  | nil => intro s s' r c _ h i _; cases h; rfl
  | cons ch cs ih =>
    intro s s' r c inv h i hv
    obtain ⟨s1, hs1, hrun⟩ := run_cons h
    rcases cinv_step inv hs1 with ⟨-, hr, rfl, inv1, hb⟩ | ⟨-, new, -, hn, inv1, hb⟩
    · rw [ih _ _ _ _ inv1 hrun i ((visited_slash hr i).2 hv), hb]
    · rw [ih _ _ _ _ inv1 hrun i (hv.mono (by omega)), hb,
        if_neg fun hi => not_visited_ahead hi.1 (by omega) hv]

/-- if the rest of the placement field is accepted from `(r, c)` and ends at `(0, 8)`, the rest
splits at `/` into the remainder of the current rank (`8 - c` squares) followed by `r` full
ranks, and the final board holds exactly those squares -/
theorem run_spec : ∀ (cs : List Char) (s s' : Scan) (r c : Nat), CInv s r c →
    s.run cs = .ok s' → s'.row = 0 → s'.col = 8 →
    ∃ cur rows, (splitOn' (· = '/') cs).mapM Spec.expandRank = some (cur :: rows)
      ∧ cur.length + c = 8 ∧ rows.length = r ∧ (∀ x ∈ rows, x.length = 8)
      ∧ (∀ j, j < cur.length → s'.board[r * 8 + c + j]? = cur[j]?)
      ∧ (∀ k j, k < r → j < 8 → s'.board[(r - 1 - k) * 8 + j]? = (rows[k]?).bind (fun x => x[j]?)) := by
  intro cs
  induction cs with
  | nil =>
    intro s s' r c inv h hr0 hc8
    cases h
    obtain rfl : r = 0 := by have := inv.pos.row; omega
    obtain rfl : c = 8 := by have := inv.pos.col; omega
    exact ⟨[], [], rfl, rfl, rfl, by simp, by simp, by omega⟩
  | cons ch cs ih =>
    intro s s' r c inv h hr0 hc8
    have hr7 := inv.pos.r7
    obtain ⟨s1, hs1, hrun⟩ := run_cons h
    rcases cinv_step inv hs1 with ⟨rfl, h2, rfl, inv1, -⟩ | ⟨hne, new, hcl, hn, inv1, hb⟩
    · obtain ⟨cur1, rows1, hm, hl, hrl, hall, hcur, hrows⟩ := ih s1 s' (r - 1) 0 inv1 hrun hr0 hc8
      refine ⟨[], cur1 :: rows1, ?_, rfl, by simp [hrl]; omega,
        List.forall_mem_cons.2 ⟨by omega, hall⟩, by simp, ?_⟩
      · rw [splitOn'_cons_sep (by decide), mapM_opt_cons_some]; exact ⟨rfl, hm⟩
      · intro k j hk hj
        cases k with
        | zero =>
          have := hcur j (by omega)
          simp only [Nat.add_zero] at this
          simp only [List.getElem?_cons_zero, Option.bind_some]
          rw [← this]; congr 1
        | succ k =>
          have := hrows k j (by omega) hj
          simp only [List.getElem?_cons_succ]
          rw [← this]; congr 1; omega
    · obtain ⟨cur1, rows1, hm, hl, hrl, hall, hcur, hrows⟩ :=
        ih s1 s' r (c + new.length) inv1 hrun hr0 hc8
      have hsep : (fun x : Char => decide (x = '/')) ch = false := by simp [hne]
      obtain ⟨hd', tl, hsp, hsp'⟩ := splitOn'_cons_not (sep := fun x : Char => decide (x = '/')) hsep cs
      rw [hsp, mapM_opt_cons_some] at hm
      refine ⟨new ++ cur1, rows1, ?_, by simp; omega, hrl, hall, ?_, hrows⟩
      · rw [hsp', mapM_opt_cons_some]
        exact ⟨expandRank_cons_eq_some.2 ⟨new, cur1, hcl, hm.1, rfl⟩, hm.2⟩
      · intro j hj
        by_cases hjn : j < new.length
        · rw [run_frame cs s1 s' r _ inv1 hrun _ (visited_behind hn (by omega) (by omega)), hb, if_pos (by omega),
            List.getElem?_append_left hjn]
          congr 1; omega
        · have := hcur (j - new.length) (by simp at hj; omega)
          rw [List.getElem?_append_right (by omega), ← this]
          congr 1; omega

/-- a placement field accepted by the scanner is accepted by the
grammar, and denotes exactly the scanner's board -/
theorem scan_parsePlacement {pieces : List Char} {sc : Scan}
    (h : Scan.init.run pieces = .ok sc) (hr : sc.row = 0) (hc : sc.col = 8) :
    Spec.parsePlacement pieces = some sc.board := by
  obtain ⟨cur, rows, hm, hl, hrl, hall, hcur, hrows⟩ :=
    run_spec pieces Scan.init sc 7 0 cinv_init h hr hc
  have hall' : ∀ x ∈ cur :: rows, x.length = 8 := List.forall_mem_cons.2 ⟨by omega, hall⟩
  have hlen : (splitOn' (· = '/') pieces).length = 8 := by
    rw [← mapM_opt_length _ _ _ hm]; simp [hrl]
  apply parsePlacement_of_rows (splitOn_eq _ _) hlen hm hall'
  apply flatten_eq_toList (by simp [hrl]) (fun x hx => hall' x (List.mem_reverse.1 hx))
  intro k j hk hj
  rw [List.getElem?_reverse (by simp [hrl]; omega), List.length_cons, hrl]
  by_cases h7 : k = 7
  · subst h7
    exact (hcur j (by omega)).symm
  · rw [show 7 + 1 - 1 - k = (6 - k) + 1 by omega, List.getElem?_cons_succ,
      ← hrows (6 - k) j (by omega) hj]
    congr 1; omega

/-! ## completeness of the scanner -/

theorem step_slash {s : Scan} (hr : s.row ≠ 0) (hc : s.col = 8) :
    s.step '/' = .ok { s with col := 0, row := s.row - 1 } := by
  unfold Scan.step; simp [hr, hc]

/-- a character standing for squares that still fit into the rank is accepted -/
theorem step_ok {s : Scan} {ch : Char} {r c : Nat} {new : List (Option Piece)} (hat : s.At r c)
    (hc : cells ch = some new) (hn : c + new.length ≤ 8) : ∃ s1, s.step ch = .ok s1 := by
  have hr7 := hat.r7
  unfold Scan.step
  unfold cells at hc
  split at hc
  · next hd =>
    cases hc
    have hdig := d18_isDigit hd
    obtain ⟨hna, hne, -⟩ := digit_facts hdig
    have h18 := isD18_iff.1 hd
    simp only [List.length_replicate] at hn
    rw [if_neg hne, if_neg (by rw [hna]; simp), if_pos hdig]
    dsimp only
    rw [show '0'.toNat = 48 from rfl, hat.col, if_neg (by
      simp only [Bool.or_eq_true, decide_eq_true_eq, not_or, Int.not_lt]; omega)]
    exact ⟨_, rfl⟩
  · cases hp : Spec.pieceOfLetter ch with
    | none => rw [hp] at hc; cases hc
    | some pc =>
      rw [hp] at hc; cases hc
      have ha := pieceOfLetter_some hp
      obtain ⟨a1, -, -, hne⟩ := alpha_facts ha
      simp only [List.length_singleton] at hn
      rw [if_neg hne, if_pos ha, hat.row, hat.col, if_neg (by omega)]
      simp only [a1.trans hp]
      rw [dif_pos (by rw [idx_nat]; omega)]
      exact ⟨_, rfl⟩

/-- the scanner accepts whatever the grammar accepts -/
theorem run_complete : ∀ (cs : List Char) (s : Scan) (r c : Nat)
    (cur : List (Option Piece)) (rows : List (List (Option Piece))), CInv s r c →
    (splitOn' (· = '/') cs).mapM Spec.expandRank = some (cur :: rows) →
    cur.length + c = 8 → rows.length = r → (∀ x ∈ rows, x.length = 8) →
    ∃ s', s.run cs = .ok s' ∧ s'.row = 0 ∧ s'.col = 8 := by
  intro cs
  induction cs with
  | nil =>
    intro s r c cur rows inv hm hl hrl _
    simp only [splitOn', mapM_opt_cons, mapM_opt_nil, Spec.expandRank, Option.some.injEq,
      List.cons.injEq] at hm
    obtain ⟨rfl, rfl⟩ := hm
    simp only [List.length_nil] at hl hrl
    refine ⟨s, rfl, ?_, ?_⟩
    · rw [inv.pos.row, ← hrl]; rfl
    · rw [inv.pos.col]; omega
  | cons ch cs ih =>
    intro s r c cur rows inv hm hl hrl hall
    have hat := inv.pos
    by_cases hsl : ch = '/'
    · subst hsl
      rw [splitOn'_cons_sep (by decide), mapM_opt_cons_some] at hm
      obtain ⟨he, hrest⟩ := hm
      cases he
      obtain rfl : c = 8 := by simpa using hl
      cases rows with
      | nil =>
        have := mapM_opt_length _ _ _ hrest
        exact absurd (List.length_eq_zero_iff.1 this.symm) (splitOn'_ne_nil _ _)
      | cons cur1 rows1 =>
        simp only [List.length_cons] at hrl
        have hstep := step_slash (s := s) (by rw [hat.row]; omega) hat.col
        obtain ⟨s', hrun, h0, h8⟩ := ih _ (r - 1) 0 cur1 rows1 (cinv_slash inv (by omega)) hrest
          (by have := hall cur1 (by simp); omega) (by omega) (fun x hx => hall x (by simp [hx]))
        refine ⟨s', ?_, h0, h8⟩
        unfold Scan.run
        rw [hstep]
        exact hrun
    · have hsep : (fun x : Char => decide (x = '/')) ch = false := by simp [hsl]
      obtain ⟨hd', tl, hsp, hsp'⟩ := splitOn'_cons_not (sep := fun x : Char => decide (x = '/')) hsep cs
      rw [hsp', mapM_opt_cons_some, expandRank_cons_eq_some] at hm
      obtain ⟨⟨new, rest, hcl, hrest, rfl⟩, ht⟩ := hm
      simp only [List.length_append] at hl
      obtain ⟨s1, hstep⟩ := step_ok hat hcl (by omega)
      rcases cinv_step inv hstep with ⟨h, -⟩ | ⟨-, new', hcl', -, inv1, -⟩
      · exact absurd h hsl
      · obtain rfl : new' = new := Option.some.inj (hcl'.symm.trans hcl)
        obtain ⟨s', hrun, h0, h8⟩ := ih s1 r _ rest rows inv1
          (by rw [hsp, mapM_opt_cons_some]; exact ⟨hrest, ht⟩) (by omega) hrl hall
        refine ⟨s', ?_, h0, h8⟩
        unfold Scan.run
        rw [hstep]
        exact hrun

theorem parsePlacement_inv {p : List Char} {b : Vector (Option Piece) 64}
    (h : Spec.parsePlacement p = some b) :
    ∃ cur rows, (splitOn' (· = '/') p).mapM Spec.expandRank = some (cur :: rows)
      ∧ cur.length = 8 ∧ rows.length = 7 ∧ (∀ x ∈ rows, x.length = 8) := by
  unfold Spec.parsePlacement at h
  rw [splitOn_eq] at h
  dsimp only at h
  split at h
  · cases h
  · rename_i hlen
    simp only [ne_eq, Decidable.not_not] at hlen
    split at h
    · cases h
    · rename_i rows hm
      split at h
      · rename_i hall
        simp only [List.all_eq_true, decide_eq_true_eq] at hall
        have hl := mapM_opt_length _ _ _ hm
        rw [hlen] at hl
        cases rows with
        | nil => simp at hl
        | cons cur rows =>
          refine ⟨cur, rows, hm, hall cur (by simp), by simpa using hl,
            fun x hx => hall x (by simp [hx])⟩
      · cases h

theorem scan_complete {p : List Char} {b : Vector (Option Piece) 64}
    (h : Spec.parsePlacement p = some b) :
    ∃ sc, Scan.init.run p = .ok sc ∧ sc.row = 0 ∧ sc.col = 8 ∧ sc.board = b := by
  obtain ⟨cur, rows, hm, hl, hrl, hall⟩ := parsePlacement_inv h
  obtain ⟨sc, hrun, h0, h8⟩ := run_complete p Scan.init 7 0 cur rows cinv_init hm (by omega) hrl hall
  have := scan_parsePlacement hrun h0 h8
  rw [h] at this
  exact ⟨sc, hrun, h0, h8, (Option.some.inj this).symm⟩

/-! ## castling field -/

def castChar (c : Char) : Bool := c = 'K' || c = 'Q' || c = 'k' || c = 'q' || c = '-'

/-- one character of the castling field: refused, or the right it names is set -/
theorem parseCastling_cons (st : GState) (c : Char) (cs : List Char) :
    (castChar c = false ∧ ∃ e, parseCastling st (c :: cs) = .error e) ∨
    (castChar c = true ∧ ∃ st1, parseCastling st (c :: cs) = parseCastling st1 cs
      ∧ st1.wk = (st.wk || decide ('K' = c)) ∧ st1.wq = (st.wq || decide ('Q' = c))
      ∧ st1.bk = (st.bk || decide ('k' = c)) ∧ st1.bq = (st.bq || decide ('q' = c))
      ∧ st1.enPassant = st.enPassant) := by
  have f1 := GState.setWk_spec st
  have f2 := GState.setWq_spec st
  have f3 := GState.setBk_spec st
  have f4 := GState.setBq_spec st
  unfold castChar
  by_cases h1 : c = 'K'
  · exact .inr ⟨by simp [h1], st.setWk, by rw [parseCastling, if_pos h1], by simp [f1, h1]⟩
  by_cases h2 : c = 'Q'
  · exact .inr ⟨by simp [h2], st.setWq, by rw [parseCastling, if_neg h1, if_pos h2], by simp [f2, h2]⟩
  by_cases h3 : c = 'k'
  · exact .inr ⟨by simp [h3], st.setBk, by rw [parseCastling, if_neg h1, if_neg h2, if_pos h3], by simp [f3, h3]⟩
  by_cases h4 : c = 'q'
  · exact .inr ⟨by simp [h4], st.setBq, by rw [parseCastling, if_neg h1, if_neg h2, if_neg h3, if_pos h4],
      by simp [f4, h4]⟩
  by_cases h5 : c = '-'
  · exact .inr ⟨by simp [h5], st, by rw [parseCastling, if_neg h1, if_neg h2, if_neg h3, if_neg h4, if_pos h5],
      by simp [h5]⟩
  exact .inl ⟨by simp [h1, h2, h3, h4, h5], _, by rw [parseCastling, if_neg h1, if_neg h2, if_neg h3, if_neg h4, if_neg h5]⟩

theorem parseCastling_spec : ∀ (cast : List Char) (st st' : GState),
    parseCastling st cast = .ok st' →
    cast.all castChar = true
    ∧ st'.wk = (st.wk || cast.contains 'K') ∧ st'.wq = (st.wq || cast.contains 'Q')
    ∧ st'.bk = (st.bk || cast.contains 'k') ∧ st'.bq = (st.bq || cast.contains 'q')
    ∧ st'.enPassant = st.enPassant := by
  intro cast
  induction cast with
  | nil => intro st st' h; cases h; simp
  | cons c cs ih =>
    intro st st' h
    rcases parseCastling_cons st c cs with ⟨-, e, he⟩ | ⟨hc, st1, he, b1, b2, b3, b4, b5⟩
    · rw [he] at h; cases h
    · rw [he] at h
      obtain ⟨a, a1, a2, a3, a4, a5⟩ := ih _ _ h
      simp [hc, a, a1, a2, a3, a4, a5, b1, b2, b3, b4, b5, Bool.or_assoc]

theorem parseCastling_complete : ∀ (cast : List Char) (st : GState), cast.all castChar = true →
    ∃ st', parseCastling st cast = .ok st' := by
  intro cast
  induction cast with
  | nil => intro st _; exact ⟨st, rfl⟩
  | cons c cs ih =>
    intro st h
    simp only [List.all_cons, Bool.and_eq_true] at h
    rcases parseCastling_cons st c cs with ⟨hc, -⟩ | ⟨-, st1, he, -⟩
    · rw [h.1] at hc; cases hc
    · rw [he]; exact ih st1 h.2

/-! ## `Game.ofFen` in stages -/

def sideOf (side : List Char) : Option Player :=
  if side = ['w'] then some Player.white else if side = ['b'] then some Player.black else none
def epRankOf : Player → Char | .white => '6' | .black => '3'
def epOf (player : Player) (st : GState) (ep : List Char) : Option GState :=
  if ep = ['-'] then some st
  else match ep with
    | [f, r] =>
      if 'a'.toNat ≤ f.toNat && f.toNat ≤ 'h'.toNat && r = epRankOf player then
        some (st.setEnPassant (f.toNat - 'a'.toNat : Nat))
      else none
    | _ => none
def mkGame (sc : Scan) (player : Player) (st : GState) (wk bk : Pos) : Game :=
  { score := sc.score, player := player, moveStack := [], endgame := false,
    hash := (if player = .black then sc.hash ^^^ Gen.blackToMove else sc.hash) ^^^ st.hash,
    board := sc.board, pastScores := sc.pastScores,
    pastHashes := sc.pastHashes, wking := wk, bking := bk, state := [st] }

def ofFenFinish (sc : Scan) (player : Player) (st : GState) : FenResult :=
  match sc.wking, sc.bking with
  | none, _ => .refused "White king not found"
  | _, none => .refused "Black king not found"
  | some wk, some bk =>
    if !(materialOkSide sc.board .white && materialOkSide sc.board .black)
        || pawnOnEdge sc.board then
      .refused "Impossible material"
    else if !rightsMatchBoard sc.board st then
      .refused "Castling rights do not match the board"
    else if !epMatchesBoard sc.board st player then
      .refused "En passant square does not match the board"
    else .ok (mkGame sc player st wk bk).updatePhase

def ofFen' (fen : List Char) : FenResult :=
  match splitWs fen with
  | [] => .refused "Missing board"
  | pieces :: rest =>
    match Scan.init.run pieces with
    | .error e => .refused e
    | .ok sc =>
      if sc.row ≠ 0 || sc.col ≠ 8 then .refused "Invalid board size" else
      match rest with
      | [] => .refused "Missing player"
      | side :: rest =>
        match sideOf side with
        | none => .refused "Invalid player"
        | some player =>
          match rest with
          | [] => .refused "Missing castling rights"
          | cast :: rest =>
            match parseCastling GState.default cast with
            | .error e => .refused e
            | .ok st =>
              match rest with
              | [] => .refused "Missing en passant"
              | ep :: _ =>
                match epOf player st ep with
                | none => .refused "Invalid en passant square"
                | some st => ofFenFinish sc player st

theorem ofFen_eq (s : List Char) : Game.ofFen s = ofFen' s := rfl

theorem ofFen_no_fault (s : List Char) (w : String) : Game.ofFen s ≠ .fault w := by
  rw [ofFen_eq]
  unfold ofFen' ofFenFinish
  intro h
  repeat' split at h
  all_goals cases h

/-- the four fields of a text and what the first stages of the reader take them for -/
structure Staged (s : List Char) where
  (pieces side cast ep : List Char)
  rest : List (List Char)
  sc : Scan
  player : Player
  (st0 st : GState)
  fields : splitWs s = pieces :: side :: cast :: ep :: rest
  run : Scan.init.run pieces = .ok sc
  row : sc.row = 0
  col : sc.col = 8
  sideOk : sideOf side = some player
  castOk : parseCastling GState.default cast = .ok st0
  epOk : epOf player st0 ep = some st

/-- the last stage: both kings have been met and the board passes the checks -/
structure Checked (sc : Scan) (player : Player) (st : GState) (wk bk : Pos) : Prop where
  wking : sc.wking = some wk
  bking : sc.bking = some bk
  white : materialOkSide sc.board .white = true
  black : materialOkSide sc.board .black = true
  edge : pawnOnEdge sc.board = false
  rights : rightsMatchBoard sc.board st = true
  epMatch : epMatchesBoard sc.board st player = true

theorem ofFen_parts {s : List Char} {g : Game} (h : Game.ofFen s = .ok g) :
    ∃ (p : Staged s) (wk bk : Pos), Checked p.sc p.player p.st wk bk
      ∧ g = (mkGame p.sc p.player p.st wk bk).updatePhase := by
  rw [ofFen_eq] at h
  unfold ofFen' ofFenFinish at h
  repeat' split at h
  all_goals first | cases h | skip
  -- one branch is left: every stage has succeeded and every check has passed
  rename_i _ pieces _ sc hr hb _ side _ player hsd _ cast _ st0 hc _ ep rest hs _ st he _ _ wk bk hw
    hbk hm hrm hem
  simp only [ne_eq, Bool.or_eq_true, decide_eq_true_eq, not_or, Decidable.not_not,
    Bool.not_eq_true', Bool.and_eq_false_iff, Bool.not_eq_false, Bool.not_eq_true] at hb hm hrm hem
  exact ⟨⟨pieces, side, cast, ep, rest, sc, player, st0, st, hs, hr, hb.1, hb.2, hsd, hc, he⟩, wk, bk,
    ⟨hw, hbk, hm.1.1, hm.1.2, hm.2, hrm, hem⟩, rfl⟩

theorem ofFen_intro {s : List Char} (p : Staged s) {wk bk : Pos}
    (c : Checked p.sc p.player p.st wk bk) :
    Game.ofFen s = .ok (mkGame p.sc p.player p.st wk bk).updatePhase := by
  rw [ofFen_eq]
  simp [ofFen', ofFenFinish, p.fields, p.run, p.row, p.col, p.sideOk, p.castOk, p.epOk, c.wking,
    c.bking, c.white, c.black, c.edge, c.rights, c.epMatch]

/-! ## `updatePhase` does not touch what `abs` reads -/

theorem setPosition_get_fields (g : Game) (p : Pos) :
    (g.setPosition p (g.get p)).board = g.board ∧ (g.setPosition p (g.get p)).player = g.player
    ∧ (g.setPosition p (g.get p)).state = g.state ∧ (g.setPosition p (g.get p)).wking = g.wking
    ∧ (g.setPosition p (g.get p)).bking = g.bking
    ∧ (g.setPosition p (g.get p)).endgame = g.endgame := by
  unfold Game.setPosition Game.get
  by_cases h : p.idx < 64
  · simp [h]
  · simp [h]

theorem updatePhase_fields (g : Game) :
    g.updatePhase.board = g.board ∧ g.updatePhase.player = g.player
    ∧ g.updatePhase.state = g.state ∧ g.updatePhase.wking = g.wking
    ∧ g.updatePhase.bking = g.bking := by
  unfold Game.updatePhase
  split
  · have a := setPosition_get_fields { g with endgame := true } g.wking
    have b := setPosition_get_fields
      (Game.setPosition { g with endgame := true } g.wking (Game.get { g with endgame := true } g.wking))
      (Game.setPosition { g with endgame := true } g.wking
        (Game.get { g with endgame := true } g.wking)).bking
    exact ⟨b.1.trans a.1, b.2.1.trans a.2.1, b.2.2.1.trans a.2.2.1, b.2.2.2.1.trans a.2.2.2.1,
      b.2.2.2.2.1.trans a.2.2.2.2.1⟩
  · exact ⟨rfl, rfl, rfl, rfl, rfl⟩

theorem updatePhase_abs (g : Game) : g.updatePhase.abs = g.abs := by
  obtain ⟨h1, h2, h3, _, _⟩ := updatePhase_fields g
  unfold Game.abs Game.top
  rw [h1, h2, h3]

/-! ## side and en-passant fields -/

theorem sideOf_eq (side : List Char) : sideOf side = Spec.parseSide side := by
  unfold Spec.parseSide
  split
  · rfl
  · rfl
  · next hw hb => rw [sideOf, if_neg hw, if_neg hb]

theorem epOf_spec {player : Player} {st0 st : GState} {ep : List Char}
    (h : epOf player st0 ep = some st) (h8 : st0.enPassant = 8) :
    Spec.parseEpLoose ep = some (if st.enPassant < 8 then some st.enPassant.toNat else none)
    ∧ st.wk = st0.wk ∧ st.wq = st0.wq ∧ st.bk = st0.bk ∧ st.bq = st0.bq
    ∧ st.enPassant ≤ 8 := by
  unfold epOf at h
  split at h
  · next hd =>
    cases h; subst hd
    rw [h8]
    exact ⟨rfl, rfl, rfl, rfl, rfl, by omega⟩
  · next hd =>
    split at h
    · rename_i f r
      split at h
      · rename_i hc
        simp only [Bool.and_eq_true, decide_eq_true_eq] at hc
        obtain ⟨⟨hf1, hf2⟩, hr⟩ := hc
        have ha : 'a'.toNat = 97 := rfl
        have hh : 'h'.toNat = 104 := rfl
        rw [ha] at hf1 h
        rw [hh] at hf2
        obtain ⟨e2, e3, e4, e5, e1⟩ :=
          GState.setEnPassant_spec st0 ((f.toNat - 97 : Nat) : Int) (by omega) (by omega)
        cases h
        refine ⟨?_, e2, e3, e4, e5, by rw [e1]; omega⟩
        rw [e1, if_pos (by omega), Int.toNat_natCast, Spec.parseEpLoose, ha, hh,
          if_pos (by subst hr; cases player <;> simp [hf1, hf2, epRankOf])]
      · cases h
    · cases h

/-! ## soundness of the import -/

theorem mkGame_abs (sc : Scan) (player : Player) (st : GState) (wk bk : Pos) :
    (mkGame sc player st wk bk).abs =
      { board := sc.board, side := player, wk := st.wk, wq := st.wq, bk := st.bk, bq := st.bq,
        ep := if st.enPassant < 8 then some st.enPassant.toNat else none } := rfl

/-- the fields that got through the first stages of the reader denote, in the independent
grammar, exactly the position of the game about to be built (whatever the king squares) -/
theorem Staged.sound {s : List Char} (p : Staged s) (wk bk : Pos) :
    Spec.fenLoose s = some (mkGame p.sc p.player p.st wk bk).abs := by
  rw [mkGame_abs]
  have hf := (splitWs_eq_fields s).symm.trans p.fields
  have hcne : p.cast.isEmpty = false := by
    have : p.cast ∈ Spec.fields s := by rw [hf]; simp
    simp only [Spec.fields, List.mem_filter, Bool.not_eq_true'] at this
    exact this.2
  obtain ⟨c0, c1, c2, c3, c4, c5⟩ := parseCastling_spec p.cast _ _ p.castOk
  simp only [default_facts, Bool.false_or] at c1 c2 c3 c4 c5
  obtain ⟨e0, e1, e2, e3, e4, -⟩ := epOf_spec p.epOk c5
  have h4 : Spec.parseCastlingLoose p.cast = some (p.st.wk, p.st.wq, p.st.bk, p.st.bq) := by
    unfold Spec.parseCastlingLoose
    have hall : (p.cast.all fun c => decide (c = 'K') || decide (c = 'Q') || decide (c = 'k')
        || decide (c = 'q') || decide (c = '-')) = true := c0
    rw [hcne, hall, e1, e2, e3, e4, c1, c2, c3, c4]
    rfl
  exact fenLoose_of_fields hf (scan_parsePlacement p.run p.row p.col)
    ((sideOf_eq p.side).symm.trans p.sideOk) h4 e0

/-- **C17**: an accepted text denotes (in the independent grammar) exactly the
position that was imported: every square, the side to move, the four castling rights and the
en-passant file. -/
theorem ofFen_sound {s : List Char} {g : Game} (h : Game.ofFen s = .ok g) :
    Spec.fenLoose s = some g.abs := by
  obtain ⟨p, wk, bk, -, rfl⟩ := ofFen_parts h
  rw [updatePhase_abs]
  exact p.sound wk bk

/-- **C17**: text that is malformed beyond doubt (no reading at all in the loose
grammar) is refused — with a message, never a fault. -/
theorem ofFen_refuses_malformed {s : List Char} (h : Spec.fenLoose s = none) :
    ∃ w, Game.ofFen s = .refused w := by
  cases hr : Game.ofFen s with
  | ok g => rw [ofFen_sound hr] at h; cases h
  | refused w => exact ⟨w, rfl⟩
  | fault w => exact absurd hr (ofFen_no_fault s w)

theorem ofFen_ok_loose {s : List Char} {g : Game} (h : Game.ofFen s = .ok g) :
    (Spec.fenLoose s).isSome = true := by
  rw [ofFen_sound h]; rfl


/-! ## the caches and kings of the game built -/

theorem filter_len_one_unique {α : Type} (p : α → Bool) : ∀ (l : List α),
    (l.filter p).length = 1 → ∀ (i j : Nat) (hi : i < l.length) (hj : j < l.length),
    p l[i] = true → p l[j] = true → i = j := by
  intro l
  induction l with
  | nil => intro h; simp at h
  | cons a l ih =>
    intro h i j hi hj pi pj
    by_cases ha : p a = true
    · rw [List.filter_cons_of_pos ha] at h
      have hnil : l.filter p = [] := by
        simp only [List.length_cons, Nat.add_eq_right] at h
        exact List.length_eq_zero_iff.1 h
      have hno : ∀ x ∈ l, ¬ p x = true := List.filter_eq_nil_iff.1 hnil
      cases i with
      | zero =>
        cases j with
        | zero => rfl
        | succ j => exact absurd pj (hno _ (List.getElem_mem _))
      | succ i => exact absurd pi (hno _ (List.getElem_mem _))
    · rw [List.filter_cons_of_neg ha] at h
      cases i with
      | zero => exact absurd pi ha
      | succ i =>
        cases j with
        | zero => exact absurd pj ha
        | succ j =>
          congr 1
          exact ih h i j (by simpa using hi) (by simpa using hj) pi pj

theorem all_visited (i : Nat) (h : i < 64) : Visited 0 8 i := by unfold Visited; omega

theorem mkGame_cache {sc : Scan} (inv : CInv sc 0 8) (player : Player) (st : GState) (wk bk : Pos) :
    (mkGame sc player st wk bk).CacheInv ∧ (mkGame sc player st wk bk).resScore = 0
    ∧ (mkGame sc player st wk bk).resHash
        = (if player = .black then Gen.blackToMove else 0) ^^^ st.hash := by
  refine ⟨⟨fun i h => (inv.vis i h (all_visited i h)).1, fun i h => (inv.vis i h (all_visited i h)).2⟩,
    ?_, ?_⟩
  · show sc.score - sumAll sc.pastScores = 0
    rw [inv.score]; omega
  · show (if player = .black then sc.hash ^^^ Gen.blackToMove else sc.hash) ^^^ st.hash
        ^^^ xorAll sc.pastHashes = _
    rw [inv.hash]
    generalize xorAll sc.pastHashes = x
    generalize st.hash = y
    generalize Gen.blackToMove = z
    cases player
    · simp only [if_false, reduceCtorEq]
      have : x ^^^ y ^^^ x = (x ^^^ x) ^^^ y := by ac_rfl
      rw [this]; simp only [UInt64.xor_self]
    · simp only [if_true]
      have : x ^^^ z ^^^ y ^^^ x = (x ^^^ x) ^^^ (z ^^^ y) := by ac_rfl
      rw [this]; simp only [UInt64.xor_self, UInt64.zero_xor]

theorem countKing_one {b : Vector (Option Piece) 64} {pl : Player}
    (h : materialOkSide b pl = true) : countPieces b pl .king = 1 := by
  unfold materialOkSide at h
  simp only [Bool.and_eq_true, decide_eq_true_eq] at h
  exact h.1

theorem king_exists {b : Vector (Option Piece) 64} {pl : Player}
    (h : materialOkSide b pl = true) : ∃ (i : Nat) (hi : i < 64), b[i] = some ⟨.king, pl⟩ := by
  have hc := countKing_one h
  unfold countPieces at hc
  have hpos : 0 < (b.toList.filter (fun o => decide (o = some ⟨.king, pl⟩))).length := by omega
  obtain ⟨x, hx, hp⟩ := List.length_filter_pos_iff.1 hpos
  simp only [decide_eq_true_eq] at hp
  obtain ⟨i, hi, hxi⟩ := List.getElem_of_mem hx
  have hi' : i < 64 := by simpa using hi
  refine ⟨i, hi', ?_⟩
  rw [← hp, ← hxi]; simp

/-- a side whose material passes the check has had its king noted by the scanner -/
theorem CInv.king_some {s : Scan} {r c : Nat} (inv : CInv s r c) {pl : Player}
    (h : materialOkSide s.board pl = true) : ∃ p, s.king pl = some p := by
  cases hk : s.king pl with
  | some p => exact ⟨p, rfl⟩
  | none =>
    obtain ⟨i, hi, hb⟩ := king_exists h
    exact absurd hb (inv.noKing pl hk i hi)

theorem king_unique {b : Vector (Option Piece) 64} {pl : Player}
    (h : materialOkSide b pl = true) (i j : Nat) (hi : i < 64) (hj : j < 64)
    (h1 : b[i] = some ⟨.king, pl⟩) (h2 : b[j] = some ⟨.king, pl⟩) : i = j := by
  have hc := countKing_one h
  unfold countPieces at hc
  apply filter_len_one_unique _ b.toList hc i j (by simpa using hi) (by simpa using hj)
  · simp [h1]
  · simp [h2]

/-! ## castling rights and en-passant file against the board -/

theorem boardAt_eq_get (g : Game) (r c : Int) : boardAt g.board r c = g.get ⟨r, c⟩ := by
  unfold boardAt Game.get Pos.idx
  by_cases h : (r * 8 + c).toNat < 64
  · simp [Array.getD, h]
  · simp [Array.getD, h]

theorem at_eq_boardAt (a : Spec.APos) (r c : Int) (h : 0 ≤ r ∧ r < 8 ∧ 0 ≤ c ∧ c < 8) :
    a.at (r, c) = boardAt a.board r c := by
  unfold Spec.APos.at Spec.onBoard boardAt
  simp [h.1, h.2.1, h.2.2.1, h.2.2.2]

/-- every castling right of the abstract position has its king and rook on their home squares
(the corresponding clauses of `Spec.sane`) -/
def RightsOkBoard (a : Spec.APos) : Prop :=
  (a.wk = true → a.at (0, 4) = some ⟨.king, .white⟩ ∧ a.at (0, 7) = some ⟨.rook, .white⟩)
  ∧ (a.wq = true → a.at (0, 4) = some ⟨.king, .white⟩ ∧ a.at (0, 0) = some ⟨.rook, .white⟩)
  ∧ (a.bk = true → a.at (7, 4) = some ⟨.king, .black⟩ ∧ a.at (7, 7) = some ⟨.rook, .black⟩)
  ∧ (a.bq = true → a.at (7, 4) = some ⟨.king, .black⟩ ∧ a.at (7, 0) = some ⟨.rook, .black⟩)

/-- an en-passant file of the abstract position is backed by the enemy pawn that has just made
its double step, the two squares behind it being empty (the corresponding clause of `Spec.sane`) -/
def EpOkBoard (a : Spec.APos) : Prop :=
  ∀ f : Nat, a.ep = some f →
    match a.side with
    | .white => a.at (4, (f : Int)) = some ⟨.pawn, .black⟩ ∧ a.at (5, (f : Int)) = none
        ∧ a.at (6, (f : Int)) = none
    | .black => a.at (3, (f : Int)) = some ⟨.pawn, .white⟩ ∧ a.at (2, (f : Int)) = none
        ∧ a.at (1, (f : Int)) = none

namespace FenChk

theorem bimp (x : Bool) (P : Prop) : (x = false ∨ P) ↔ (x = true → P) := by
  cases x <;> simp

theorem rightsMatch_iff (g : Game) :
    rightsMatchBoard g.board g.top = true ↔ RightsOkBoard g.abs := by
  have e04 := at_eq_boardAt g.abs 0 4 (by omega)
  have e07 := at_eq_boardAt g.abs 0 7 (by omega)
  have e00 := at_eq_boardAt g.abs 0 0 (by omega)
  have e74 := at_eq_boardAt g.abs 7 4 (by omega)
  have e77 := at_eq_boardAt g.abs 7 7 (by omega)
  have e70 := at_eq_boardAt g.abs 7 0 (by omega)
  unfold rightsMatchBoard RightsOkBoard
  rw [e04, e07, e00, e74, e77, e70]
  simp only [Bool.and_eq_true, Bool.or_eq_true, Bool.not_eq_true', decide_eq_true_eq, bimp]
  show _ ↔ (g.top.wk = true → _) ∧ (g.top.wq = true → _) ∧ (g.top.bk = true → _)
    ∧ (g.top.bq = true → _)
  constructor
  · rintro ⟨⟨⟨a, b⟩, c⟩, d⟩; exact ⟨a, b, c, d⟩
  · rintro ⟨a, b, c, d⟩; exact ⟨⟨⟨a, b⟩, c⟩, d⟩

theorem epMatch_iff (g : Game) :
    epMatchesBoard g.board g.top g.player = true ↔ EpOkBoard g.abs := by
  have h0 := GState.enPassant_nonneg g.top
  unfold epMatchesBoard EpOkBoard
  show _ ↔ ∀ f : Nat, (if g.top.enPassant < 8 then some g.top.enPassant.toNat else none) = some f →
    match g.player with
    | .white => _
    | .black => _
  dsimp only
  by_cases h8 : g.top.enPassant < 8
  · have hb : ∀ r : Int, 0 ≤ r → r < 8 →
        g.abs.at (r, ((g.top.enPassant.toNat : Nat) : Int)) = boardAt g.board r g.top.enPassant := by
      intro r hr0 hr8
      rw [Int.toNat_of_nonneg h0]
      exact at_eq_boardAt g.abs r _ ⟨hr0, hr8, h0, h8⟩
    simp only [h8, if_true, Option.some.injEq, forall_eq']
    cases g.player
    · simp only [Bool.and_eq_true, decide_eq_true_eq, Option.isNone_iff_eq_none]
      rw [hb 4 (by omega) (by omega), hb 5 (by omega) (by omega), hb 6 (by omega) (by omega)]
      exact and_assoc
    · simp only [Bool.and_eq_true, decide_eq_true_eq, Option.isNone_iff_eq_none]
      rw [hb 3 (by omega) (by omega), hb 2 (by omega) (by omega), hb 1 (by omega) (by omega)]
      exact and_assoc
  · simp [h8]

/-- one clause of `RightsInv` from what the reader checks -/
theorem rights_clause (g : Game) (hk : g.KingInv) (pl : Player) (r c : Int)
    (hr : 0 ≤ r ∧ r < 8)
    (h : boardAt g.board r 4 = some ⟨.king, pl⟩ ∧ boardAt g.board r c = some ⟨.rook, pl⟩) :
    g.get ⟨r, c⟩ = some ⟨.rook, pl⟩ ∧ g.kingPos pl = ⟨r, 4⟩
      ∧ (g.kingExists pl = true → g.get ⟨r, 4⟩ = some ⟨.king, pl⟩) := by
  rw [boardAt_eq_get, boardAt_eq_get] at h
  have v4 : (Pos.mk r 4).Valid :=
    ⟨hr.1, hr.2, by show (0 : Int) ≤ 4; omega, by show (4 : Int) < 8; omega⟩
  exact ⟨h.2, hk.unique _ pl v4 h.1, fun _ => h.1⟩

theorem rightsInv_of_match (g : Game) (hk : g.KingInv)
    (h : rightsMatchBoard g.board g.top = true) : g.RightsInv := by
  unfold rightsMatchBoard at h
  simp only [Bool.and_eq_true, Bool.or_eq_true, Bool.not_eq_true', decide_eq_true_eq, bimp] at h
  obtain ⟨⟨⟨hwk, hwq⟩, hbk⟩, hbq⟩ := h
  exact ⟨fun e => rights_clause g hk .white 0 7 (by omega) (hwk e),
    fun e => rights_clause g hk .white 0 0 (by omega) (hwq e),
    fun e => rights_clause g hk .black 7 7 (by omega) (hbk e),
    fun e => rights_clause g hk .black 7 0 (by omega) (hbq e)⟩

theorem epInv_of_match (g : Game) (h : epMatchesBoard g.board g.top g.player = true) :
    g.EpInv := by
  intro h8
  unfold epMatchesBoard at h
  dsimp only at h
  rw [if_pos h8] at h
  cases hp : g.player <;> rw [hp] at h <;>
    simp only [Bool.and_eq_true, decide_eq_true_eq, Option.isNone_iff_eq_none,
      boardAt_eq_get] at h ⊢
  · exact ⟨h.1.1, h.1.2⟩
  · exact ⟨h.1.1, h.1.2⟩

end FenChk

/-! ## completeness of the reader -/

theorem fenLoose_inv {s : List Char} {a : Spec.APos} (h : Spec.fenLoose s = some a) :
    ∃ p sd c e rest, Spec.fields s = p :: sd :: c :: e :: rest
      ∧ Spec.parsePlacement p = some a.board ∧ Spec.parseSide sd = some a.side
      ∧ Spec.parseCastlingLoose c = some (a.wk, a.wq, a.bk, a.bq)
      ∧ Spec.parseEpLoose e = some a.ep := by
  unfold Spec.fenLoose at h
  split at h
  · rename_i p sd c e rest hf
    split at h
    · rename_i b side wk wq bk bq ep h1 h2 h3 h4
      simp only [Option.some.injEq] at h
      subst h
      exact ⟨p, sd, c, e, rest, hf, h1, h2, h3, h4⟩
    · cases h
  · cases h

/-- the en-passant field is `-` or a file followed by the rank that fits the side to move -/
def EpRankOk (e : List Char) (side : Player) : Prop := e = ['-'] ∨ ∃ f, e = [f, epRankOf side]

theorem epOf_rankOk {side : Player} {st st' : GState} {e : List Char} (h : epOf side st e = some st') :
    EpRankOk e side := by
  unfold epOf at h
  split at h
  · next hd => exact .inl hd
  · split at h
    · rename_i f r _
      split at h
      · next hc =>
        simp only [Bool.and_eq_true, decide_eq_true_eq] at hc
        exact .inr ⟨f, by rw [hc.2]⟩
      · cases h
    · cases h

theorem epOf_complete {e : List Char} {side : Player} {x : Option Nat} (st : GState)
    (h : Spec.parseEpLoose e = some x) (hr : EpRankOk e side) : ∃ st', epOf side st e = some st' := by
  unfold epOf
  by_cases hd : e = ['-']
  · rw [if_pos hd]; exact ⟨st, rfl⟩
  · rw [if_neg hd]
    rcases hr with hr | ⟨f, rfl⟩
    · exact absurd hr hd
    · unfold Spec.parseEpLoose at h
      split at h
      · rename_i heq; exact absurd heq hd
      · rename_i f' r' heq
        simp only [List.cons.injEq, and_true] at heq
        obtain ⟨rfl, rfl⟩ := heq
        split at h
        · rename_i hc
          simp only [Bool.and_eq_true, decide_eq_true_eq] at hc
          have : (decide ('a'.toNat ≤ f.toNat) && decide (f.toNat ≤ 'h'.toNat)
              && decide (epRankOf side = epRankOf side)) = true := by
            simp only [Bool.and_eq_true, decide_eq_true_eq, and_true]
            exact hc.1
          exact ⟨_, if_pos this⟩
        · cases h
      · cases h

/-- the reader's material conditions, on a board -/
def MaterialOKBoard (b : Vector (Option Piece) 64) : Prop :=
  materialOkSide b .white = true ∧ materialOkSide b .black = true ∧ pawnOnEdge b = false

/-- **C17** (general form): every text with a loose reading whose en-passant rank
fits the side to move, whose material passes the reader's check and whose castling rights and
en-passant file are backed by the board is accepted, and the game built denotes that reading -/
theorem ofFen_complete_of_loose {s : List Char} {a : Spec.APos} (h : Spec.fenLoose s = some a)
    (hep : ∀ p sd c e rest, Spec.fields s = p :: sd :: c :: e :: rest → EpRankOk e a.side)
    (hm : MaterialOKBoard a.board) (hro : RightsOkBoard a) (heo : EpOkBoard a) :
    ∃ g, Game.ofFen s = .ok g ∧ g.abs = a := by
  obtain ⟨p, sd, c, e, rest, hf, h1, h2, h3, h4⟩ := fenLoose_inv h
  obtain ⟨sc, hrun, h0, h8, hbd⟩ := scan_complete h1
  have inv := cinv_final hrun h0 h8
  obtain ⟨hmw, hmb, hpe⟩ := hm
  rw [← hbd] at hmw hmb hpe
  have hcast : c.all castChar = true := by
    unfold Spec.parseCastlingLoose at h3
    split at h3
    · cases h3
    · rename_i hcond
      simp only [Bool.or_eq_true, Bool.not_eq_true', not_or, Bool.not_eq_false] at hcond
      exact hcond.2
  obtain ⟨st0, hst0⟩ := parseCastling_complete c GState.default hcast
  obtain ⟨st, hst⟩ := epOf_complete st0 h4 (hep p sd c e rest hf)
  obtain ⟨wk, hwk⟩ := inv.king_some hmw
  obtain ⟨bk, hbk⟩ := inv.king_some hmb
  let q : Staged s := ⟨p, sd, c, e, rest, sc, a.side, st0, st, (splitWs_eq_fields s).trans hf, hrun,
    h0, h8, (sideOf_eq sd).trans h2, hst0, hst⟩
  have ha : a = (mkGame sc a.side st wk bk).abs := Option.some.inj (h.symm.trans (q.sound wk bk))
  refine ⟨_, ofFen_intro q ⟨hwk, hbk, hmw, hmb, hpe,
    (FenChk.rightsMatch_iff (mkGame sc a.side st wk bk)).2 (ha ▸ hro),
    (FenChk.epMatch_iff (mkGame sc a.side st wk bk)).2 (ha ▸ heo)⟩, ?_⟩
  rw [updatePhase_abs]
  exact ha.symm

/-- **C17**: every well-formed FEN whose material passes the reader's check and whose
castling rights and en-passant file are backed by the board is accepted and imported as the
position it denotes -/
theorem ofFen_complete {s : List Char} {a : Spec.APos} (h : Spec.fenStrict s = some a)
    (hm : MaterialOKBoard a.board) (hro : RightsOkBoard a) (heo : EpOkBoard a) :
    ∃ g, Game.ofFen s = .ok g ∧ g.abs = a := by
  unfold Spec.fenStrict at h
  dsimp only at h
  split at h
  · cases h
  · split at h
    · rename_i p sd c e rest hf
      split at h
      · cases h
      · split at h
        · rename_i a' hl
          have hepok : a' = a ∧ EpRankOk e a'.side := by
            split at h
            · next f hs => cases h; exact ⟨rfl, .inr ⟨f, by rw [hs]; rfl⟩⟩
            · next f hs => cases h; exact ⟨rfl, .inr ⟨f, by rw [hs]; rfl⟩⟩
            · cases h; exact ⟨rfl, .inl rfl⟩
            · cases h
          obtain ⟨rfl, hepok⟩ := hepok
          apply ofFen_complete_of_loose hl _ hm hro heo
          intro p' sd' c' e' rest' hf'
          rw [hf] at hf'
          simp only [List.cons.injEq] at hf'
          obtain ⟨_, _, _, rfl, _⟩ := hf'
          exact hepok
        · cases h
    · cases h

/-! ### a sane position passes all the reader's checks -/

namespace FenChk

theorem at_ofIdx (a : Spec.APos) (i : Nat) (hi : i < 64) :
    a.at (((i / 8 : Nat) : Int), ((i % 8 : Nat) : Int)) = a.board[i] := by
  rw [at_eq_boardAt a _ _ (by omega)]
  unfold boardAt
  have : (((i / 8 : Nat) : Int) * 8 + ((i % 8 : Nat) : Int)).toNat = i := by omega
  rw [this]
  simp [Array.getD, hi]

theorem toList_eq_map_range (b : Vector (Option Piece) 64) :
    b.toList = (List.range 64).map (fun i => b.toArray.getD i none) := by
  apply List.ext_getElem
  · simp
  · intro i h1 h2
    have hi : i < 64 := by simpa using h1
    simp [Array.getD, hi]

theorem count_eq (a : Spec.APos) (pl : Player) (t : PieceType) :
    Spec.count a ⟨t, pl⟩ = countPieces a.board pl t := by
  unfold Spec.count countPieces Spec.allSqs
  rw [toList_eq_map_range, List.filter_map, List.filter_map, List.length_map, List.length_map]
  refine congrArg List.length (List.filter_congr ?_)
  intro i hi
  have hi' : i < 64 := by simpa using hi
  simp only [Function.comp]
  rw [at_ofIdx a i hi']
  simp [Array.getD, hi']

theorem materialOkSide_of_spec {a : Spec.APos} {pl : Player}
    (h : Spec.materialOk a pl = true) : materialOkSide a.board pl = true := by
  unfold Spec.materialOk at h
  unfold materialOkSide
  simp only [count_eq] at h
  exact h

theorem noEdgePawns_iff (a : Spec.APos) : Spec.noEdgePawns a = true ↔ pawnOnEdge a.board = false := by
  unfold Spec.noEdgePawns pawnOnEdge
  rw [List.all_eq_true, List.any_eq_false]
  refine forall₂_congr fun c hc => ?_
  have hc8 : c < 8 := by simpa using hc
  have e0 : a.at (0, (c : Int)) = a.board[c] := by
    have := at_ofIdx a c (by omega)
    have h1 : c / 8 = 0 := by omega
    have h2 : c % 8 = c := by omega
    rw [h1, h2] at this
    exact this
  have e7 : a.at (7, (c : Int)) = a.board[56 + c] := by
    have := at_ofIdx a (56 + c) (by omega)
    have h1 : (56 + c) / 8 = 7 := by omega
    have h2 : (56 + c) % 8 = c := by omega
    rw [h1, h2] at this
    exact this
  rw [e0, e7, Vector.getElem?_eq_getElem (by omega), Vector.getElem?_eq_getElem (by omega)]
  generalize a.board[c] = x
  generalize a.board[56 + c] = y
  cases x <;> cases y <;> simp

theorem pawnOnEdge_of_spec {a : Spec.APos} (h : Spec.noEdgePawns a = true) :
    pawnOnEdge a.board = false :=
  (noEdgePawns_iff a).1 h

end FenChk

theorem materialOKBoard_of_sane {a : Spec.APos} (h : Spec.sane a = true) :
    MaterialOKBoard a.board := by
  simp only [Spec.sane, Bool.and_eq_true] at h
  obtain ⟨⟨⟨⟨⟨⟨⟨⟨hmw, hmb⟩, hne⟩, -⟩, -⟩, -⟩, -⟩, -⟩, -⟩ := h
  exact ⟨FenChk.materialOkSide_of_spec hmw, FenChk.materialOkSide_of_spec hmb,
    FenChk.pawnOnEdge_of_spec hne⟩

theorem rightsOkBoard_of_sane {a : Spec.APos} (h : Spec.sane a = true) : RightsOkBoard a := by
  simp only [Spec.sane, Bool.and_eq_true, Bool.or_eq_true, Bool.not_eq_true',
    decide_eq_true_eq, FenChk.bimp] at h
  obtain ⟨⟨⟨⟨⟨-, hwk⟩, hwq⟩, hbk⟩, hbq⟩, -⟩ := h
  exact ⟨hwk, hwq, hbk, hbq⟩

theorem epOkBoard_of_sane {a : Spec.APos} (h : Spec.sane a = true) : EpOkBoard a := by
  simp only [Spec.sane, Bool.and_eq_true] at h
  obtain ⟨-, hep⟩ := h
  intro f hf
  rw [hf] at hep
  simp only [Bool.and_eq_true, decide_eq_true_eq, Option.isNone_iff_eq_none] at hep
  obtain ⟨⟨⟨-, h1⟩, h2⟩, h3⟩ := hep
  cases hs : a.side <;> rw [hs] at h1 h2 h3 <;> simp only [Spec.epFromRow, Spec.forward] at h1 h2 h3
  · exact ⟨h1, h2, h3⟩
  · exact ⟨h1, h2, h3⟩

/-- **C17**, for sane positions: every well-formed FEN of a position the rules call
sane is accepted and imported as the position it denotes -/
theorem ofFen_complete_of_sane {s : List Char} {a : Spec.APos} (h : Spec.fenStrict s = some a)
    (hs : Spec.sane a = true) : ∃ g, Game.ofFen s = .ok g ∧ g.abs = a :=
  ofFen_complete h (materialOKBoard_of_sane hs) (rightsOkBoard_of_sane hs) (epOkBoard_of_sane hs)

/-! ## the representation invariant -/

theorem get_valid (g : Game) {p : Pos} (hp : p.Valid) : g.get p = g.board[p.idx]'(Pos.idx_lt hp) := by
  unfold Game.get
  rw [dif_pos (Pos.idx_lt hp)]

theorem mkGame_kingInv {sc : Scan} {player : Player} {st : GState} {iw ib : Nat} (hiw : iw < 64)
    (hib : ib < 64) (hbw : sc.board[iw] = some ⟨.king, .white⟩)
    (hbb : sc.board[ib] = some ⟨.king, .black⟩) (hmw : materialOkSide sc.board .white = true)
    (hmb : materialOkSide sc.board .black = true) :
    (mkGame sc player st (Pos.ofIdx iw) (Pos.ofIdx ib)).KingInv := by
  refine ⟨Pos.ofIdx_valid hiw, Pos.ofIdx_valid hib, fun p pl hp hget => ?_⟩
  rw [get_valid _ hp] at hget
  cases pl
  · show Pos.ofIdx iw = p
    rw [← king_unique hmw p.idx iw (Pos.idx_lt hp) hiw hget hbw, Pos.ofIdx_idx hp]
  · show Pos.ofIdx ib = p
    rw [← king_unique hmb p.idx ib (Pos.idx_lt hp) hib hget hbb, Pos.ofIdx_idx hp]

/-- the game built from the scan satisfies `WF`, and `updatePhase` keeps it -/
theorem ofFen_wf {s : List Char} {g : Game} (h : Game.ofFen s = .ok g) : g.WF := by
  obtain ⟨p, wk, bk, c, rfl⟩ := ofFen_parts h
  have inv := cinv_final p.run p.row p.col
  obtain ⟨iw, hiw, rfl, hbw⟩ := inv.king .white wk c.wking
  obtain ⟨ib, hib, rfl, hbb⟩ := inv.king .black bk c.bking
  obtain ⟨c1, c2, c3⟩ := mkGame_cache inv p.player p.st (Pos.ofIdx iw) (Pos.ofIdx ib)
  have hk := mkGame_kingInv (player := p.player) (st := p.st) hiw hib hbw hbb c.white c.black
  have c5 := (parseCastling_spec p.cast _ _ p.castOk).2.2.2.2.2
  rw [default_facts.2.2.2.2] at c5
  exact Game.updatePhase_wf
    { cache := c1, kings := hk, rights := FenChk.rightsInv_of_match _ hk c.rights,
      epInv := FenChk.epInv_of_match _ c.epMatch, resHash := c3, resScore := c2,
      nonempty := List.cons_ne_nil _ _,
      ep := ⟨GState.enPassant_nonneg _, (epOf_spec p.epOk c5).2.2.2.2.2⟩ }

/-- **C17**: the caches of an imported game are consistent -/
theorem ofFen_wf_cache {s : List Char} {g : Game} (h : Game.ofFen s = .ok g) :
    g.CacheInv ∧ g.resScore = 0
    ∧ g.resHash = (if g.player = .black then Gen.blackToMove else 0) ^^^ g.top.hash :=
  ⟨(ofFen_wf h).cache, (ofFen_wf h).resScore, (ofFen_wf h).resHash⟩

theorem ofFen_wf_rest {s : List Char} {g : Game} (h : Game.ofFen s = .ok g) :
    g.KingInv ∧ g.state ≠ [] ∧ g.top.enPassant ≤ 8 ∧ g.moveStack = [] := by
  refine ⟨(ofFen_wf h).kings, (ofFen_wf h).nonempty, (ofFen_wf h).ep.2, ?_⟩
  obtain ⟨p, wk, bk, -, rfl⟩ := ofFen_parts h
  exact Game.updatePhase_moveStack

theorem ofFen_rightsInv {s : List Char} {g : Game} (h : Game.ofFen s = .ok g) : g.RightsInv :=
  (ofFen_wf h).rights

theorem ofFen_epInv {s : List Char} {g : Game} (h : Game.ofFen s = .ok g) : g.EpInv :=
  (ofFen_wf h).epInv

/-- both kings of an imported game stand on their cached squares -/
theorem ofFen_kings {s : List Char} {g : Game} (h : Game.ofFen s = .ok g) (pl : Player) :
    g.get (g.kingPos pl) = some ⟨.king, pl⟩ := by
  obtain ⟨p, wk, bk, c, rfl⟩ := ofFen_parts h
  obtain ⟨i, hi, hp, hb⟩ := (cinv_final p.run p.row p.col).king pl
    ((mkGame p.sc p.player p.st wk bk).kingPos pl) (by cases pl; exact c.wking; exact c.bking)
  obtain ⟨f1, -, -, f4, f5⟩ := updatePhase_fields (mkGame p.sc p.player p.st wk bk)
  have hkp : (mkGame p.sc p.player p.st wk bk).updatePhase.kingPos pl = Pos.ofIdx i := by
    rw [← hp]; cases pl; exact f4; exact f5
  rw [hkp, Game.get_ofIdx _ hi]
  simp only [f1]
  exact hb

/-- what the reader has checked, in the words of the abstract position: the castling rights and
the en-passant file of an imported game are backed by its board -/
theorem ofFen_rightsOkBoard {s : List Char} {g : Game} (h : Game.ofFen s = .ok g) :
    RightsOkBoard g.abs ∧ EpOkBoard g.abs := by
  obtain ⟨p, wk, bk, c, rfl⟩ := ofFen_parts h
  rw [updatePhase_abs]
  exact ⟨(FenChk.rightsMatch_iff (mkGame p.sc p.player p.st wk bk)).1 c.rights,
    (FenChk.epMatch_iff (mkGame p.sc p.player p.st wk bk)).1 c.epMatch⟩

/-! ### two examples: a castling right without its rook, an en-passant square without its pawn -/

def rightsWitness : List Char := "4k3/8/8/8/8/8/8/4K3 w K -".toList

def FenChk.refusedWith : FenResult → String → Bool
  | .refused w, m => w == m
  | _, _ => false

theorem FenChk.refusedWith_iff {r : FenResult} {m : String} :
    FenChk.refusedWith r m = true ↔ r = .refused m := by
  cases r <;> simp [FenChk.refusedWith]

/-- The text `4k3/8/8/8/8/8/8/4K3 w K -` gives White the king-side castling right although
there is no rook on h1: the reader refuses it. -/
theorem ofFen_rights_checked_example :
    Game.ofFen rightsWitness = .refused "Castling rights do not match the board" :=
  FenChk.refusedWith_iff.1 (by decide +kernel)

def epWitness : List Char := "4k3/8/8/8/8/8/8/4K3 w - e6".toList

/-- The text `4k3/8/8/8/8/8/8/4K3 w - e6` names an en-passant square although no black pawn
stands on e5: the reader refuses it. -/
theorem ofFen_ep_checked_example :
    Game.ofFen epWitness = .refused "En passant square does not match the board" :=
  FenChk.refusedWith_iff.1 (by decide +kernel)

end Chess

#print axioms Chess.ofFen_no_fault
#print axioms Chess.splitWs_eq_fields
#print axioms Chess.scan_parsePlacement
#print axioms Chess.ofFen_sound
#print axioms Chess.ofFen_refuses_malformed
#print axioms Chess.ofFen_wf_cache
#print axioms Chess.ofFen_complete_of_loose
#print axioms Chess.ofFen_complete
#print axioms Chess.ofFen_complete_of_sane
#print axioms Chess.ofFen_wf_rest
#print axioms Chess.ofFen_rightsInv
#print axioms Chess.ofFen_epInv
#print axioms Chess.ofFen_wf
#print axioms Chess.ofFen_kings
#print axioms Chess.ofFen_rightsOkBoard
#print axioms Chess.ofFen_rights_checked_example
#print axioms Chess.ofFen_ep_checked_example

