import Chess.Lemmas.FenAux
import Chess.Lemmas.FenRead

/-!
# C11 — the exported FEN describes the position (writer side)

For every game `g`: the text `g.fen4` / `g.fen` splits into four / six non-empty fields, the
placement field has eight ranks each expanding to exactly the eight squares of that row, no two
digits are adjacent, and both the loose and the strict reading of the specification give back
`g.abs`.  The reader accepts the text again exactly when the material, rights and en-passant
checks it makes hold of `g`.
-/
namespace Chess

theorem natToChars_table : ∀ n : Fin 9, 1 ≤ n.val →
    natToChars n.val = [Char.ofNat (48 + n.val)] ∧ isD18 (Char.ofNat (48 + n.val)) = true
      ∧ (Char.ofNat (48 + n.val)).toNat - 48 = n.val := by
  decide

/-- the eight squares of row `r`, file a first -/
def rowSquares (g : Game) (r : Int) : List (Option Piece) :=
  (List.range 8).map (fun (c : Nat) => g.get ⟨r, (c : Int)⟩)

theorem rowSquares_length (g : Game) (r : Int) : (rowSquares g r).length = 8 := by
  simp [rowSquares]

/-- characters of a rank: piece letters and the digits 1–8 -/
def RowChar (c : Char) : Prop := c.isAlpha = true ∨ isD18 c = true

theorem rowChar_ne_slash {c : Char} (h : RowChar c) : c ≠ '/' := by
  rcases h with h | h
  · exact (alpha_facts h).2.2.2
  · exact (digit_facts (d18_isDigit h)).2.1

theorem nad_cons_nondigit {c : Char} {l : List Char} (hc : c.isDigit = false)
    (h : Spec.noAdjacentDigits l = true) : Spec.noAdjacentDigits (c :: l) = true := by
  cases l with
  | nil => rfl
  | cons b rest => simp [Spec.noAdjacentDigits, hc, h]

theorem nad_digit_nondigit {d c : Char} {l : List Char} (hc : c.isDigit = false)
    (h : Spec.noAdjacentDigits l = true) : Spec.noAdjacentDigits (d :: c :: l) = true := by
  have := nad_cons_nondigit hc h
  simp [Spec.noAdjacentDigits, hc, this]

/-- what the encoder writes for a run of `e ≤ 8` empty squares: nothing, or one of the digits
`1`–`8`, which the grammar expands to `e` empty squares -/
theorem runDigit_spec {e : Nat} (h8 : e ≤ 8) :
    ∃ d : List Char, (if e > 0 then natToChars e else []) = d ∧ (d = [] ∨ ∃ x, d = [x])
      ∧ (∀ x ∈ d, isD18 x = true)
      ∧ ∀ cs, Spec.expandRank (d ++ cs) = (Spec.expandRank cs).map (List.replicate e none ++ ·) := by
  by_cases h0 : e > 0
  · obtain ⟨hx, h18, hn⟩ := natToChars_table ⟨e, by omega⟩ h0
    refine ⟨_, by rw [if_pos h0, hx], .inr ⟨_, rfl⟩, by simpa using h18, fun cs => ?_⟩
    rw [List.singleton_append, expandRank_cons, cells_digit h18, hn]; rfl
  · obtain rfl : e = 0 := by omega
    refine ⟨[], rfl, .inl rfl, by simp, fun cs => ?_⟩
    rw [List.nil_append]
    cases Spec.expandRank cs <;> rfl

/-- the run-length encoder from any file on: what it writes expands to the empty run carried over
followed by the remaining squares of the row, consists of piece letters and digits `1`–`8`, and
has no two digits side by side -/
theorem fenRow_go_spec (g : Game) (row : Int) : ∀ (cs : List Nat) (e : Nat), e + cs.length ≤ 8 →
    Spec.expandRank (fenRow.go g row cs e)
        = some (List.replicate e none ++ cs.map (fun (c : Nat) => g.get ⟨row, (c : Int)⟩))
    ∧ (∀ x ∈ fenRow.go g row cs e, RowChar x)
    ∧ Spec.noAdjacentDigits (fenRow.go g row cs e) = true := by
  intro cs
  induction cs with
  | nil =>
    intro e he
    obtain ⟨d, hd, hl, h18, hx⟩ := runDigit_spec (e := e) (by simpa using he)
    unfold fenRow.go
    rw [hd]
    refine ⟨?_, fun x hm => .inr (h18 x hm), ?_⟩
    · have := hx []
      rw [List.append_nil] at this
      rw [this]; simp [Spec.expandRank]
    · rcases hl with rfl | ⟨x, rfl⟩ <;> rfl
  | cons c cs ih =>
    intro e he
    simp only [List.length_cons] at he
    unfold fenRow.go
    cases hg : g.get ⟨row, (c : Int)⟩ with
    | none =>
      obtain ⟨i1, i2, i3⟩ := ih (e + 1) (by omega)
      exact ⟨by simp [i1, List.replicate_succ', hg], i2, i3⟩
    | some pc =>
      obtain ⟨i1, i2, i3⟩ := ih 0 (by omega)
      obtain ⟨d, hd, hl, h18, hx⟩ := runDigit_spec (e := e) (by omega)
      have hal := letter_isAlpha pc
      obtain ⟨-, a2, a3, -⟩ := alpha_facts hal
      simp only [hd, asCharAscii_eq]
      refine ⟨?_, ?_, ?_⟩
      · rw [hx, expandRank_cons, cells_letter a3 (pieceOfLetter_letter pc), i1]
        simp [hg]
      · intro x hm
        rcases List.mem_append.1 hm with hm | hm
        · exact .inr (h18 x hm)
        · rcases List.mem_cons.1 hm with rfl | hm
          · exact .inl hal
          · exact i2 x hm
      · rcases hl with rfl | ⟨x, rfl⟩
        · exact nad_cons_nondigit a2 i3
        · exact nad_digit_nondigit a2 i3

theorem fenRow_spec (g : Game) (row : Int) :
    Spec.expandRank (fenRow g row) = some (rowSquares g row)
    ∧ (∀ x ∈ fenRow g row, RowChar x) ∧ Spec.noAdjacentDigits (fenRow g row) = true := by
  have := fenRow_go_spec g row (List.range 8) 0 (by simp)
  simpa [fenRow, rowSquares] using this

/-- **Heart of C11**: a written rank expands to exactly the eight squares of that row. -/
theorem expandRank_fenRow (g : Game) (row : Int) :
    Spec.expandRank (fenRow g row) = some (rowSquares g row) := (fenRow_spec g row).1

theorem fenRow_chars (g : Game) (row : Int) : ∀ x ∈ fenRow g row, RowChar x := (fenRow_spec g row).2.1

theorem nad_fenRow (g : Game) (row : Int) : Spec.noAdjacentDigits (fenRow g row) = true :=
  (fenRow_spec g row).2.2

theorem nad_append_sep {c : Char} (hc : c.isDigit = false) {b : List Char}
    (hb : Spec.noAdjacentDigits b = true) : ∀ a : List Char,
    Spec.noAdjacentDigits a = true → Spec.noAdjacentDigits (a ++ c :: b) = true := by
  intro a
  induction a with
  | nil => intro _; exact nad_cons_nondigit hc hb
  | cons x a ih =>
    intro ha
    cases a with
    | nil => exact nad_digit_nondigit hc hb
    | cons y rest =>
      simp only [Spec.noAdjacentDigits, Bool.and_eq_true] at ha
      have := ih ha.2
      simp only [List.cons_append] at this ⊢
      simp only [Spec.noAdjacentDigits, Bool.and_eq_true]
      exact ⟨ha.1, this⟩

/-! ### the placement field -/

theorem fenBoard_eq (g : Game) : fenBoard g =
    fenRow g 7 ++ '/' :: (fenRow g 6 ++ '/' :: (fenRow g 5 ++ '/' :: (fenRow g 4 ++ '/' ::
      (fenRow g 3 ++ '/' :: (fenRow g 2 ++ '/' :: (fenRow g 1 ++ '/' :: fenRow g 0)))))) := by
  simp [fenBoard, List.intercalate]

theorem fenRow_noslash (g : Game) (row : Int) :
    ∀ c ∈ fenRow g row, (fun x : Char => decide (x = '/')) c = false := by
  intro c hc
  simp only [decide_eq_false_iff_not]
  exact rowChar_ne_slash (fenRow_chars g row c hc)

theorem splitOn_fenBoard (g : Game) :
    Spec.splitOn (· = '/') (fenBoard g) =
      [fenRow g 7, fenRow g 6, fenRow g 5, fenRow g 4, fenRow g 3, fenRow g 2, fenRow g 1,
        fenRow g 0] := by
  have hs : (fun x : Char => decide (x = '/')) '/' = true := by decide
  rw [splitOn_eq, fenBoard_eq]
  rw [splitOn'_block hs _ _ (fenRow_noslash g 7), splitOn'_block hs _ _ (fenRow_noslash g 6),
    splitOn'_block hs _ _ (fenRow_noslash g 5), splitOn'_block hs _ _ (fenRow_noslash g 4),
    splitOn'_block hs _ _ (fenRow_noslash g 3), splitOn'_block hs _ _ (fenRow_noslash g 2),
    splitOn'_block hs _ _ (fenRow_noslash g 1), splitOn'_single _ (fenRow_noslash g 0)]

theorem nad_fenBoard (g : Game) : Spec.noAdjacentDigits (fenBoard g) = true := by
  have hc : '/'.isDigit = false := by decide
  rw [fenBoard_eq]
  exact nad_append_sep hc (nad_append_sep hc (nad_append_sep hc (nad_append_sep hc
    (nad_append_sep hc (nad_append_sep hc (nad_append_sep hc (nad_fenRow g 0) _ (nad_fenRow g 1))
    _ (nad_fenRow g 2)) _ (nad_fenRow g 3)) _ (nad_fenRow g 4)) _ (nad_fenRow g 5))
    _ (nad_fenRow g 6)) _ (nad_fenRow g 7)

theorem get_board (g : Game) (r c : Nat) (hr : r < 8) (hc : c < 8) :
    g.board[r * 8 + c]? = some (g.get ⟨(r : Int), (c : Int)⟩) := by
  unfold Game.get Pos.idx
  have : ((r : Int) * 8 + (c : Int)).toNat = r * 8 + c := by omega
  simp only [this]
  rw [dif_pos (by omega), Vector.getElem?_eq_getElem]

theorem rows_flatten (g : Game) :
    ([rowSquares g 7, rowSquares g 6, rowSquares g 5, rowSquares g 4, rowSquares g 3,
      rowSquares g 2, rowSquares g 1, rowSquares g 0] : List _).reverse.flatten
      = g.board.toList := by
  have hrev : ([rowSquares g 7, rowSquares g 6, rowSquares g 5, rowSquares g 4, rowSquares g 3,
      rowSquares g 2, rowSquares g 1, rowSquares g 0] : List _).reverse
      = (List.range 8).map (fun (r : Nat) => rowSquares g (r : Int)) := by
    rfl
  rw [hrev]
  apply flatten_eq_toList (by simp)
  · intro x hx
    obtain ⟨r, -, rfl⟩ := List.mem_map.1 hx
    exact rowSquares_length g _
  · intro k j hk hj
    simp [rowSquares, hk, hj, get_board g k j hk hj]

theorem mapM_fenRows (g : Game) :
    [fenRow g 7, fenRow g 6, fenRow g 5, fenRow g 4, fenRow g 3, fenRow g 2, fenRow g 1,
        fenRow g 0].mapM Spec.expandRank =
      some [rowSquares g 7, rowSquares g 6, rowSquares g 5, rowSquares g 4, rowSquares g 3,
        rowSquares g 2, rowSquares g 1, rowSquares g 0] := by
  simp only [mapM_opt_cons, mapM_opt_nil, expandRank_fenRow]

theorem parsePlacement_fenBoard (g : Game) : Spec.parsePlacement (fenBoard g) = some g.board := by
  apply parsePlacement_of_rows (splitOn_fenBoard g) rfl (mapM_fenRows g) _ (rows_flatten g)
  intro r hr
  simp only [List.mem_cons, List.not_mem_nil, or_false] at hr
  rcases hr with rfl | rfl | rfl | rfl | rfl | rfl | rfl | rfl <;> exact rowSquares_length g _

/-! ### white space and fields -/

def NoWsFacts (c : Char) : Prop :=
  (c.isAlpha = true ∨ c.isDigit = true) → Spec.isWs c = false

instance : DecidablePred NoWsFacts := by unfold NoWsFacts; infer_instance

theorem noWs_table : ∀ n, n < 128 → NoWsFacts (Char.ofNat n) := by decide +kernel

theorem alnum_noWs {c : Char} (h : c.isAlpha = true ∨ c.isDigit = true) : Spec.isWs c = false :=
  forall_ascii NoWsFacts noWs_table c (h.elim isAlpha_lt isDigit_lt) h

theorem rowChar_noWs {c : Char} (h : RowChar c) : Spec.isWs c = false :=
  alnum_noWs (h.imp_right d18_isDigit)

theorem fields_block {a : List Char} (hne : a ≠ []) (hws : ∀ c ∈ a, Spec.isWs c = false)
    {w : Char} (hw : Spec.isWs w = true) (rest : List Char) :
    Spec.fields (a ++ w :: rest) = a :: Spec.fields rest := by
  unfold Spec.fields
  rw [splitOn_eq, splitOn'_block hw a rest hws, ← splitOn_eq]
  cases a with
  | nil => exact absurd rfl hne
  | cons x xs => simp

theorem fields_single {a : List Char} (hne : a ≠ []) (hws : ∀ c ∈ a, Spec.isWs c = false) :
    Spec.fields a = [a] := by
  unfold Spec.fields
  rw [splitOn_eq, splitOn'_single a hws]
  cases a with
  | nil => exact absurd rfl hne
  | cons x xs => simp

theorem fenRow_noWs (g : Game) (row : Int) : ∀ c ∈ fenRow g row, Spec.isWs c = false :=
  fun c hc => rowChar_noWs (fenRow_chars g row c hc)

theorem fenBoard_noWs (g : Game) : ∀ c ∈ fenBoard g, Spec.isWs c = false := by
  intro c hc
  rw [fenBoard_eq] at hc
  simp only [List.mem_append, List.mem_cons] at hc
  have hs : Spec.isWs '/' = false := by decide
  rcases hc with h | h | h | h | h | h | h | h | h | h | h | h | h | h | h
  all_goals first
    | exact fenRow_noWs g _ c h
    | (subst h; exact hs)

theorem fenBoard_ne_nil (g : Game) : fenBoard g ≠ [] := by
  rw [fenBoard_eq]; simp

theorem fenCastling_facts (s : GState) :
    fenCastling s ≠ [] ∧ (∀ c ∈ fenCastling s, Spec.isWs c = false)
    ∧ Spec.parseCastlingLoose (fenCastling s) = some (s.wk, s.wq, s.bk, s.bq)
    ∧ Spec.castlingStrict (fenCastling s) = true := by
  unfold fenCastling
  generalize s.wk = a, s.wq = b, s.bk = c, s.bq = d
  revert a b c d
  decide

theorem fenEp_facts (g : Game) :
    fenEp g ≠ [] ∧ (∀ c ∈ fenEp g, Spec.isWs c = false)
    ∧ Spec.parseEpLoose (fenEp g)
        = some (if g.top.enPassant < 8 then some g.top.enPassant.toNat else none) := by
  unfold fenEp
  by_cases h : g.top.enPassant < 8
  · have h0 := GState.enPassant_nonneg g.top
    obtain ⟨k, hk⟩ : ∃ k : Fin 8, g.top.enPassant.toNat = k.val :=
      ⟨⟨g.top.enPassant.toNat, by omega⟩, rfl⟩
    simp only [h, if_true, hk]
    clear hk
    cases g.player <;> revert k <;> decide
  · simp only [h, if_false]
    exact ⟨by simp, by decide, rfl⟩

def sideChar (p : Player) : Char := match p with | .white => 'w' | .black => 'b'

theorem sideChar_facts (p : Player) :
    (∀ c ∈ [sideChar p], Spec.isWs c = false) ∧ Spec.parseSide [sideChar p] = some p := by
  cases p <;> decide

theorem natToChars_digits (n : Nat) : natToChars n ≠ [] ∧ ∀ c ∈ natToChars n, c.isDigit = true := by
  have h : natToChars n = Nat.toDigits 10 n := by
    simp [natToChars, toString, Nat.toList_repr]
  rw [h]
  exact ⟨Nat.toDigits_ne_nil, fun c hc => Nat.isDigit_of_mem_toDigits (by decide) (by decide) hc⟩

theorem fen4_eq (g : Game) : g.fen4 =
    fenBoard g ++ ' ' :: ([sideChar g.player] ++ ' ' :: (fenCastling g.top ++ ' ' :: fenEp g)) := by
  cases hp : g.player <;> simp [Game.fen4, sideChar, hp]

theorem fen_eq (g : Game) : g.fen =
    fenBoard g ++ ' ' :: ([sideChar g.player] ++ ' ' :: (fenCastling g.top ++ ' ' ::
      (fenEp g ++ ' ' :: (['0'] ++ ' ' :: natToChars (g.moveStack.length / 2 + 1))))) := by
  cases hp : g.player <;> simp [Game.fen, Game.fen4, sideChar, hp]

theorem fen4_fields (g : Game) :
    Spec.fields g.fen4 = [fenBoard g, [sideChar g.player], fenCastling g.top, fenEp g] := by
  have hsp : Spec.isWs ' ' = true := by decide
  rw [fen4_eq, fields_block (fenBoard_ne_nil g) (fenBoard_noWs g) hsp,
    fields_block (by simp) (sideChar_facts _).1 hsp,
    fields_block (fenCastling_facts _).1 (fenCastling_facts _).2.1 hsp,
    fields_single (fenEp_facts g).1 (fenEp_facts g).2.1]

theorem fen_fields (g : Game) :
    Spec.fields g.fen = [fenBoard g, [sideChar g.player], fenCastling g.top, fenEp g, ['0'],
      natToChars (g.moveStack.length / 2 + 1)] := by
  have hsp : Spec.isWs ' ' = true := by decide
  have hz : ∀ c ∈ ['0'], Spec.isWs c = false := by decide
  rw [fen_eq, fields_block (fenBoard_ne_nil g) (fenBoard_noWs g) hsp,
    fields_block (by simp) (sideChar_facts _).1 hsp,
    fields_block (fenCastling_facts _).1 (fenCastling_facts _).2.1 hsp,
    fields_block (fenEp_facts g).1 (fenEp_facts g).2.1 hsp,
    fields_block (by simp) hz hsp,
    fields_single (natToChars_digits _).1
      (fun c hc => alnum_noWs (.inr ((natToChars_digits _).2 c hc)))]

theorem fen_fields_length (g : Game) :
    (Spec.fields g.fen4).length = 4 ∧ (Spec.fields g.fen).length = 6
    ∧ (∀ f ∈ Spec.fields g.fen4, f ≠ []) ∧ (∀ f ∈ Spec.fields g.fen, f ≠ []) := by
  refine ⟨by rw [fen4_fields]; rfl, by rw [fen_fields]; rfl, ?_, ?_⟩
  all_goals
    intro f hf
    simp only [Spec.fields, List.mem_filter, Bool.not_eq_true', List.isEmpty_eq_false_iff] at hf
    exact hf.2

/-- **C11**: shape of the placement field: eight ranks, each describing exactly the
eight squares of its row (so each rank "sums to 8", with digits 1–8 only), no adjacent digits -/
theorem fenBoard_shape (g : Game) :
    Spec.splitOn (· = '/') (fenBoard g) = [fenRow g 7, fenRow g 6, fenRow g 5, fenRow g 4,
        fenRow g 3, fenRow g 2, fenRow g 1, fenRow g 0]
    ∧ (∀ r : Int, Spec.expandRank (fenRow g r) = some (rowSquares g r)
        ∧ (rowSquares g r).length = 8)
    ∧ (∀ r : Int, ∀ c ∈ fenRow g r, c.isAlpha = true ∨ isD18 c = true)
    ∧ Spec.noAdjacentDigits (fenBoard g) = true :=
  ⟨splitOn_fenBoard g, fun r => ⟨expandRank_fenRow g r, rowSquares_length g r⟩,
    fun r => fenRow_chars g r, nad_fenBoard g⟩

/-! ### the text denotes the position -/

/-- **C11**: the four-field export denotes exactly the position -/
theorem fen4_denotes (g : Game) : Spec.fenLoose g.fen4 = some g.abs :=
  fenLoose_of_fields (fen4_fields g) (parsePlacement_fenBoard g) (sideChar_facts _).2
    (fenCastling_facts _).2.2.1 (fenEp_facts g).2.2

/-- **C11**: the six-field export denotes exactly the position -/
theorem fen_denotes (g : Game) : Spec.fenLoose g.fen = some g.abs :=
  fenLoose_of_fields (fen_fields g) (parsePlacement_fenBoard g) (sideChar_facts _).2
    (fenCastling_facts _).2.2.1 (fenEp_facts g).2.2

/-- **C11**: the export is a well-formed six-field FEN for exactly that position -/
theorem fen_strict (g : Game) : Spec.fenStrict g.fen = some g.abs := by
  unfold Spec.fenStrict
  have hd : Spec.allDigits (natToChars (g.moveStack.length / 2 + 1)) = true := by
    have := natToChars_digits (g.moveStack.length / 2 + 1)
    unfold Spec.allDigits
    simp only [Bool.and_eq_true, Bool.not_eq_true', List.isEmpty_eq_false_iff, List.all_eq_true]
    exact this
  have hz : Spec.allDigits ['0'] = true := by decide
  simp only [fen_fields, fen_denotes, List.length_cons, List.length_nil, nad_fenBoard,
    (fenCastling_facts _).2.2.2, List.all_cons, List.all_nil, hd, hz]
  have habs : g.abs.side = g.player := rfl
  rw [habs]
  unfold fenEp
  by_cases h : g.top.enPassant < 8
  · simp only [h, if_true]
    cases g.player <;> simp
  · simp only [h, if_false]
    cases g.player <;> simp

/-- **C11**: whenever the reader accepts the exported text, the game
it builds has the same placement, side to move, castling rights and en-passant file -/
theorem fen_roundtrip_abs_of_ok {g g' : Game} (h : Game.ofFen g.fen = .ok g') : g'.abs = g.abs :=
  Option.some.inj ((ofFen_sound h).symm.trans (fen_denotes g))

theorem fen4_roundtrip_abs_of_ok {g g' : Game} (h : Game.ofFen g.fen4 = .ok g') :
    g'.abs = g.abs :=
  Option.some.inj ((ofFen_sound h).symm.trans (fen4_denotes g))

/-- the reader's material check (one king a side, at most eight pawns with promoted pieces
covered by missing pawns, no pawn on the first or last rank) holds of the game's board -/
def MaterialOK (g : Game) : Prop := MaterialOKBoard g.board

theorem abs_at_eq_get (g : Game) (r c : Int) (h : 0 ≤ r ∧ r < 8 ∧ 0 ≤ c ∧ c < 8) :
    g.abs.at (r, c) = g.get ⟨r, c⟩ := by
  rw [at_eq_boardAt g.abs r c h]
  exact boardAt_eq_get g r c

/-- `RightsInv` of a game whose kings stand on their cached squares says that the castling
rights of its position are backed by the board -/
theorem rightsOkBoard_of_rightsInv {g : Game} (hr : g.RightsInv)
    (hkw : g.kingExists .white = true) (hkb : g.kingExists .black = true) :
    RightsOkBoard g.abs := by
  unfold RightsOkBoard
  rw [abs_at_eq_get g 0 4 (by omega), abs_at_eq_get g 0 7 (by omega), abs_at_eq_get g 0 0 (by omega),
    abs_at_eq_get g 7 4 (by omega), abs_at_eq_get g 7 7 (by omega), abs_at_eq_get g 7 0 (by omega)]
  exact ⟨fun h => ⟨(hr.wk h).2.2 hkw, (hr.wk h).1⟩, fun h => ⟨(hr.wq h).2.2 hkw, (hr.wq h).1⟩,
    fun h => ⟨(hr.bk h).2.2 hkb, (hr.bk h).1⟩, fun h => ⟨(hr.bq h).2.2 hkb, (hr.bq h).1⟩⟩

/-- the square the double-stepping pawn of the recorded en-passant file came from -/
def epOrigin (g : Game) : Pos :=
  ⟨match g.player with | .white => 6 | .black => 1, g.top.enPassant⟩

/-- `EpInv`, together with the emptiness of the square the pawn came from (which `EpInv` does not
record), says that the en-passant file of the position is backed by the board -/
theorem epOkBoard_of_epInv {g : Game} (he : g.EpInv)
    (ho : g.top.enPassant < 8 → g.get (epOrigin g) = none) : EpOkBoard g.abs := by
  have h0 := GState.enPassant_nonneg g.top
  intro f hf
  show match g.player with
    | .white => _
    | .black => _
  have hf' : (if g.top.enPassant < 8 then some g.top.enPassant.toNat else none) = some f := hf
  split at hf'
  · next h8 =>
    obtain rfl := Option.some.inj hf'
    have e := fun r (hr : 0 ≤ r ∧ r < 8) => abs_at_eq_get g r g.top.enPassant ⟨hr.1, hr.2, h0, h8⟩
    have he' := he h8
    have ho' := ho h8
    unfold epOrigin at ho'
    rw [Int.toNat_of_nonneg h0]
    cases hp : g.player <;> rw [hp] at he' ho' <;> simp only at he' ho' ⊢
    · rw [e 4 (by omega), e 5 (by omega), e 6 (by omega)]
      exact ⟨he'.1, he'.2, ho'⟩
    · rw [e 3 (by omega), e 2 (by omega), e 1 (by omega)]
      exact ⟨he'.1, he'.2, ho'⟩
  · cases hf'

/-- **C11**: the exported text of a game with possible material whose castling rights
and en-passant file are backed by the board (what the reader checks) is accepted by the reader
and re-imports to a game with the same placement, side to move, castling rights and en-passant
file -/
theorem fen_roundtrip_abs (g : Game) (hm : MaterialOK g) (hr : RightsOkBoard g.abs)
    (he : EpOkBoard g.abs) : ∃ g', Game.ofFen g.fen = .ok g' ∧ g'.abs = g.abs :=
  ofFen_complete (fen_strict g) hm hr he

/-- the three conditions are exactly what is needed: the reader accepts the exported text of `g`
if and only if `g` passes the material, rights and en-passant checks -/
theorem fen_reimport_iff (g : Game) :
    (∃ g', Game.ofFen g.fen = .ok g') ↔
      MaterialOK g ∧ RightsOkBoard g.abs ∧ EpOkBoard g.abs := by
  constructor
  · rintro ⟨g', h⟩
    have e := fen_roundtrip_abs_of_ok h
    obtain ⟨p, wk, bk, c, hg'⟩ := ofFen_parts h
    have hb : g'.board = g.board := congrArg Spec.APos.board e
    have hb' : g'.board = p.sc.board := by rw [hg']; exact (updatePhase_fields _).1
    obtain ⟨h1, h2⟩ := ofFen_rightsOkBoard h
    rw [e] at h1 h2
    refine ⟨?_, h1, h2⟩
    unfold MaterialOK MaterialOKBoard
    rw [← hb, hb']
    exact ⟨c.white, c.black, c.edge⟩
  · rintro ⟨hm, hr, he⟩
    obtain ⟨g', h, _⟩ := fen_roundtrip_abs g hm hr he
    exact ⟨g', h⟩

/-- the same for a well-formed game: `RightsInv` and `EpInv` do the work, given that both kings
stand on their cached squares and the square the en-passant pawn came from is empty -/
theorem fen_roundtrip_abs_of_wf (g : Game) (hw : g.WF) (hm : MaterialOK g)
    (hkw : g.kingExists .white = true) (hkb : g.kingExists .black = true)
    (ho : g.top.enPassant < 8 → g.get (epOrigin g) = none) :
    ∃ g', Game.ofFen g.fen = .ok g' ∧ g'.abs = g.abs :=
  fen_roundtrip_abs g hm (rightsOkBoard_of_rightsInv hw.rights hkw hkb)
    (epOkBoard_of_epInv hw.epInv ho)

/-- the same for a game whose position the rules call sane (no invariant needed) -/
theorem fen_roundtrip_abs_of_sane (g : Game) (hs : Spec.sane g.abs = true) :
    ∃ g', Game.ofFen g.fen = .ok g' ∧ g'.abs = g.abs :=
  ofFen_complete_of_sane (fen_strict g) hs

theorem fen_roundtrip_abs' (g : Game) (_hep : g.top.enPassant ≤ 8) (hm : MaterialOK g)
    (hr : RightsOkBoard g.abs) (he : EpOkBoard g.abs) :
    ∃ g', Game.ofFen g.fen = .ok g' ∧ g'.abs = g.abs :=
  fen_roundtrip_abs g hm hr he

end Chess

#print axioms Chess.fen_roundtrip_abs
#print axioms Chess.fen_reimport_iff
#print axioms Chess.fen_roundtrip_abs_of_wf
#print axioms Chess.fen_roundtrip_abs_of_sane
#print axioms Chess.fen_roundtrip_abs_of_ok
#print axioms Chess.expandRank_fenRow
#print axioms Chess.fen4_fields
#print axioms Chess.fen_fields
#print axioms Chess.fen_fields_length
#print axioms Chess.fenBoard_shape
#print axioms Chess.fen4_denotes
#print axioms Chess.fen_denotes
#print axioms Chess.fen_strict
