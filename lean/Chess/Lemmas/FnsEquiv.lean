import Chess.Lemmas.FnsEquiv.Base
import Chess.Lemmas.FnsEquiv.GameState
import Chess.Lemmas.FnsEquiv.Position
import Chess.Lemmas.FnsEquiv.PositionAdd
import Chess.Lemmas.FnsEquiv.Piece
import Chess.Lemmas.FnsEquiv.Move
import Chess.Lemmas.FnsEquiv.Search
import Chess.Lemmas.FnsEquiv.Letters
import Chess.Lemmas.FnsEquiv.Hash

/-!
# The generated definitions (`Chess/Gen/Fns.lean`) equal the hand-written model

`tools/translate.py` regenerates `Chess.Gen.Fns.*` from the Rust text on every run (a parser for the
Rust subset of the leaf functions, not patterns over the text). Each theorem `<Type>_<fn>_eq` states
that the generated definition and the model's definition agree, through the abstraction maps of
`FnsEquiv/Base.lean`: `toPos`, `toPieceType`, `toPlayer`, `toPiece`, `toMove` (machine integers to
`Int`, Rust constructor names to the model's). A rewrite of the Rust text that keeps the meaning gives
a different generated term and the proofs still check; a rewrite that changes the meaning leaves a
theorem that no longer checks (the broken obligation is named after the function).
`tools/translate_selftest.py` exercises both directions; its table is `tools/translate_selftest.md`.

The theorems live in the modules imported above (separate modules so that lake checks them in
parallel; all in namespace `Chess.FnsEquiv`, each followed by `#print axioms`):

| module | theorems | method |
|---|---|---|
| `GameState` | `GameState_default_eq`, `GameState_en_passant_eq`, `GameState_set_en_passant_eq`, `GameState_{white,black}_{king,queen}_castling_eq`, `GameState_set_…_castling_{false,true}_eq` | all 256 bytes evaluated by the kernel (`forall_u8`, `decide +kernel`); `set_en_passant`: the cast of the value over `0..=15`, then the two sides agree up to the order of the operands |
| `Position` | `Position_new_eq` (rows, cols in `-16..=16`), `Position_as_usize_eq` (same box, index in `0..=127`), `Position_as_usize_eq_of_valid`, `Position_row_eq`, `Position_col_eq`, `Position_new_unsafe_eq`, `Position_ROOKS_eq`, `Position_new_assert_eq` (box `-16..=16`; the `assert!` is `Pos.inBoard`), `Position_add_unsafe_eq` (valid square, deltas `-2..=2`) | kernel evaluation over the stated box (`forall_i8`); `rfl` for the projections; `Position_add_unsafe_eq` read in `Int` like `Position_add_eq` |
| `PositionAdd` | `Position_add_eq` (valid square, deltas in `-8..=8`) | both sides read in `Int` (`Pos_add_ite` for the model); the `i8` sums do not wrap in that range (`Int8.toInt_add`, bounds by `omega`), and `omega` compares the two tests; if the Rust text hides that shape, all 8·8·17·17 cases by kernel evaluation |
| `Piece` | `PieceType_discr_eq`, `Player_discr_eq`, `PieceType_material_value_eq`, `Piece_material_value_eq`, `Piece_as_index_eq`, `Piece_score_eq` (on the engine's tables, both phases, 12 pieces × 64 squares), `ENDGAME_THRESHOLD_eq` | `cases` on the constructors, then kernel evaluation; `Piece_score_eq`: which entry the Rust text reads and the factor, by `rfl` with the tables as variables; then `PieceType_discr_eq`/`Player_discr_eq`, `Position_as_usize_eq_of_valid`, and no `i16` wrap because the entries are small (`scoreTable_small`, evaluated on the tables) |
| `Move` | `Move_is_tactical_move_eq`, `Move_index_history_eq` | `cases` on the constructor; the fields the function does not read are replaced by fixed ones by `rfl`; the remaining finite family (12×12 pieces, 12 pieces × 64 squares) by kernel evaluation |
| `Letters` | `Piece_as_char_ascii_eq`/`_table`, `Piece_as_str_pgn_eq`/`_table`, `Piece_as_char_eq`/`_table` (model text functions; data tables `Gen.asciiLetters`, `Gen.pgnLetters`, `Gen.glyphsWhite`, `Gen.glyphsBlack`), `Piece_from_char_ascii_eq`/`_table` (EVERY `Char`; `Gen.fromLetters`), `toAsciiUppercase_eq`, `isAsciiLowercase_eq` | `cases` on the constructors + kernel evaluation; `from_char_ascii`: the 128 ASCII chars by kernel evaluation, a char `≥ 128` differs from every ASCII literal the term compares it with (`ne_ascii_of_high`, side condition decided on the literal), so both sides are `none` |
| `Hash` | `GameState_hash_eq` (all 256 bytes, `STATE := Gen.stateKeys`), `Piece_hash_eq` (12 pieces × 64 valid squares, `PIECE := pieceRows`, the flat `Gen.pieceKeys` cut into 64 rows of 12; `pieceRows_shape` by `rows_flatMap`) | which entry the Rust text reads, by `rfl` with the table as a variable; the index functions by `Position_as_usize_eq_of_valid`, `Piece_as_index_eq`; row `i`, column `k` of the cut table is flat entry `i*12+k` (`rows_getD`) |
| `Search` | `move_score_eq` (with `move_score_pv`, `move_score_killer`, `move_score_rest`, `move_score_order`), `move_score_unwrap_safe` | `toMove` is injective (so `==` on Rust moves is `=` on model moves); three layers by `unfold` + `simp only` on the two `if`s; the arms by kernel evaluation over pieces, the quiet arm through `Move_index_history_eq` and `quiet_arith` |

Where the model uses unbounded `Int`/`Nat` and Rust a machine type, the theorem carries the range
hypothesis under which the machine arithmetic is exact (the shipped profile wraps on overflow; the
generated term wraps in the same way), and its doc comment says which.
-/
