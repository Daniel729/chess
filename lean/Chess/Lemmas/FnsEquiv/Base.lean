import Chess.Gen.Fns
import Chess.Model.Uci

/-! # Helpers for `Chess/Lemmas/FnsEquiv.lean`: finite enumeration of machine integers, abstraction maps -/
namespace Chess.FnsEquiv
open Chess

def u8s : List UInt8 := (List.range 256).map UInt8.ofNat
def i8s (lo hi : Int) : List Int8 := (List.range (hi - lo + 1).toNat).map (fun (k : Nat) => Int8.ofInt (lo + (k : Int)))

theorem mem_u8s (x : UInt8) : x ∈ u8s := by
  unfold u8s
  refine List.mem_map.2 ⟨x.toNat, List.mem_range.2 x.toNat_lt, ?_⟩
  simp
#print axioms mem_u8s

theorem mem_i8s {lo hi : Int} {x : Int8} (h1 : lo ≤ x.toInt) (h2 : x.toInt ≤ hi) : x ∈ i8s lo hi := by
  unfold i8s
  refine List.mem_map.2 ⟨(x.toInt - lo).toNat, List.mem_range.2 (by omega), ?_⟩
  rw [show lo + (((x.toInt - lo).toNat : Nat) : Int) = x.toInt by omega, Int8.ofInt_toInt]
#print axioms mem_i8s

theorem forall_u8 {P : UInt8 → Prop} (h : ∀ x ∈ u8s, P x) : ∀ x, P x := fun x => h x (mem_u8s x)
#print axioms forall_u8

theorem forall_i8 {P : Int8 → Prop} (lo hi : Int) (h : ∀ x ∈ i8s lo hi, P x) :
    ∀ x : Int8, lo ≤ x.toInt → x.toInt ≤ hi → P x := fun x h1 h2 => h x (mem_i8s h1 h2)
#print axioms forall_i8

def toPos (p : Gen.Fns.Position) : Pos := ⟨p._0.toInt, p._1.toInt⟩

def toPieceType : Gen.Fns.PieceType → PieceType
  | .Queen => .queen | .Rook => .rook | .Bishop => .bishop
  | .Knight => .knight | .Pawn => .pawn | .King => .king

def toPlayer : Gen.Fns.Player → Player
  | .White => .white | .Black => .black

def toPiece (p : Gen.Fns.Piece) : Piece := ⟨toPieceType p.piece_type, toPlayer p.owner⟩

def toMove : Gen.Fns.Move → Move
  | .Normal pc s e c => .normal (toPiece pc) (toPos s) (toPos e) (c.map toPiece)
  | .Promotion o t s e c => .promotion (toPlayer o) (toPieceType t) (toPos s) (toPos e) (c.map toPiece)
  | .CastlingShort o => .castlingShort (toPlayer o)
  | .CastlingLong o => .castlingLong (toPlayer o)
  | .EnPassant o a b => .enPassant (toPlayer o) a.toInt b.toInt

/-- the invariant of `Position` ("values for row and col are always in 0..8") -/
def PosValid (p : Gen.Fns.Position) : Prop :=
  0 ≤ p._0.toInt ∧ p._0.toInt ≤ 7 ∧ 0 ≤ p._1.toInt ∧ p._1.toInt ≤ 7

end Chess.FnsEquiv
