import Chess.Lemmas.FnsEquiv.Base

namespace Chess.FnsEquiv
open Chess

/-- the byte of a translated `GameState`, whatever its (private) field is called in the Rust source -/
def gsByte : Gen.Fns.GameState → UInt8
  | ⟨b⟩ => b

/-! ## `gamestate.rs`  (model: `Chess.GState`, a byte) -/

theorem GameState_default_eq : gsByte Gen.Fns.GameState.default = GState.default := by decide +kernel
#print axioms GameState_default_eq

theorem GameState_en_passant_eq : ∀ s : Gen.Fns.GameState,
    (Gen.Fns.GameState.en_passant s).toInt = GState.enPassant (gsByte s) := by
  intro ⟨b⟩; revert b; refine forall_u8 ?_; decide +kernel
#print axioms GameState_en_passant_eq

set_option linter.unusedSimpArgs false in
/-- `set_en_passant`, for an argument in `0..=15` (the callers pass a file `0..=7` or `8`); there
`value as u8` is exact. The `+` is the wrapping `+` of the release build on both sides. -/
theorem GameState_set_en_passant_eq : ∀ s : Gen.Fns.GameState, ∀ v : Int8, 0 ≤ v.toInt → v.toInt ≤ 15 →
    gsByte (Gen.Fns.GameState.set_en_passant s v) = GState.setEnPassant (gsByte s) v.toInt := by
  intro ⟨b⟩ v h0 h15
  have hc : (RustSem.cast v : UInt8) = UInt8.ofNat v.toInt.toNat :=
    forall_i8 (P := fun v => (RustSem.cast v : UInt8) = UInt8.ofNat v.toInt.toNat) 0 15 (by decide) v h0 h15
  -- with the cast settled (16 values), both sides are the same `+` of the same `&&&`, up to the order of the
  -- operands in the Rust text and the spelling of the mask
  simp only [Gen.Fns.GameState.set_en_passant, gsByte, GState.setEnPassant, hc, UInt8.add_comm, UInt8.and_comm] <;> rfl
#print axioms GameState_set_en_passant_eq

theorem GameState_white_king_castling_eq : ∀ s : Gen.Fns.GameState,
    Gen.Fns.GameState.white_king_castling s = GState.wk (gsByte s) := by
  intro ⟨b⟩; revert b; refine forall_u8 ?_; decide +kernel
#print axioms GameState_white_king_castling_eq

theorem GameState_white_queen_castling_eq : ∀ s : Gen.Fns.GameState,
    Gen.Fns.GameState.white_queen_castling s = GState.wq (gsByte s) := by
  intro ⟨b⟩; revert b; refine forall_u8 ?_; decide +kernel
#print axioms GameState_white_queen_castling_eq

theorem GameState_black_king_castling_eq : ∀ s : Gen.Fns.GameState,
    Gen.Fns.GameState.black_king_castling s = GState.bk (gsByte s) := by
  intro ⟨b⟩; revert b; refine forall_u8 ?_; decide +kernel
#print axioms GameState_black_king_castling_eq

theorem GameState_black_queen_castling_eq : ∀ s : Gen.Fns.GameState,
    Gen.Fns.GameState.black_queen_castling s = GState.bq (gsByte s) := by
  intro ⟨b⟩; revert b; refine forall_u8 ?_; decide +kernel
#print axioms GameState_black_queen_castling_eq

theorem GameState_set_white_king_castling_false_eq : ∀ s : Gen.Fns.GameState,
    gsByte (Gen.Fns.GameState.set_white_king_castling_false s) = GState.clearWk (gsByte s) := by
  intro ⟨b⟩; revert b; refine forall_u8 ?_; decide +kernel
#print axioms GameState_set_white_king_castling_false_eq

theorem GameState_set_white_queen_castling_false_eq : ∀ s : Gen.Fns.GameState,
    gsByte (Gen.Fns.GameState.set_white_queen_castling_false s) = GState.clearWq (gsByte s) := by
  intro ⟨b⟩; revert b; refine forall_u8 ?_; decide +kernel
#print axioms GameState_set_white_queen_castling_false_eq

theorem GameState_set_black_king_castling_false_eq : ∀ s : Gen.Fns.GameState,
    gsByte (Gen.Fns.GameState.set_black_king_castling_false s) = GState.clearBk (gsByte s) := by
  intro ⟨b⟩; revert b; refine forall_u8 ?_; decide +kernel
#print axioms GameState_set_black_king_castling_false_eq

theorem GameState_set_black_queen_castling_false_eq : ∀ s : Gen.Fns.GameState,
    gsByte (Gen.Fns.GameState.set_black_queen_castling_false s) = GState.clearBq (gsByte s) := by
  intro ⟨b⟩; revert b; refine forall_u8 ?_; decide +kernel
#print axioms GameState_set_black_queen_castling_false_eq

theorem GameState_set_white_king_castling_true_eq : ∀ s : Gen.Fns.GameState,
    gsByte (Gen.Fns.GameState.set_white_king_castling_true s) = GState.setWk (gsByte s) := by
  intro ⟨b⟩; revert b; refine forall_u8 ?_; decide +kernel
#print axioms GameState_set_white_king_castling_true_eq

theorem GameState_set_white_queen_castling_true_eq : ∀ s : Gen.Fns.GameState,
    gsByte (Gen.Fns.GameState.set_white_queen_castling_true s) = GState.setWq (gsByte s) := by
  intro ⟨b⟩; revert b; refine forall_u8 ?_; decide +kernel
#print axioms GameState_set_white_queen_castling_true_eq

theorem GameState_set_black_king_castling_true_eq : ∀ s : Gen.Fns.GameState,
    gsByte (Gen.Fns.GameState.set_black_king_castling_true s) = GState.setBk (gsByte s) := by
  intro ⟨b⟩; revert b; refine forall_u8 ?_; decide +kernel
#print axioms GameState_set_black_king_castling_true_eq

theorem GameState_set_black_queen_castling_true_eq : ∀ s : Gen.Fns.GameState,
    gsByte (Gen.Fns.GameState.set_black_queen_castling_true s) = GState.setBq (gsByte s) := by
  intro ⟨b⟩; revert b; refine forall_u8 ?_; decide +kernel
#print axioms GameState_set_black_queen_castling_true_eq

end Chess.FnsEquiv
