import Chess.Lemmas.FnsEquiv.GameState
import Chess.Lemmas.FnsEquiv.Position
import Chess.Lemmas.FnsEquiv.Piece

namespace Chess.FnsEquiv
open Chess

/-! ## the key-table index expressions: `GameState::hash` (gamestate.rs), `Piece::hash` (piece.rs)

`zobrist::STATE : [u64; 256]` and `zobrist::PIECE : [[u64; 12]; 64]` are computed by rustc from a binary file;
the generated functions take them as parameters (`RustSem`, last item). Here they are instantiated by the
tables `tools/extract.py` reads out of the same file: `Gen.stateKeys`, and `Gen.pieceKeys` (flat, entry
`sq * 12 + kind`, the order in which `zobrist.rs` fills `PIECE[sq][kind]`) cut into 64 rows of 12. What is
proved is the INDEX arithmetic of the Rust text: which entry is read for which state byte / square / piece. -/

/-- `zobrist::PIECE` in its Rust shape: row `sq` is the 12 entries of `Gen.pieceKeys` from `sq*12` on -/
def pieceRows : Array (Array UInt64) :=
  ((List.range 64).map (fun sq => ((Gen.pieceKeys.toList.drop (sq * 12)).take 12).toArray)).toArray

/-- the rows of `n` cut from a list, laid end to end, are the list up to the end of the last row -/
theorem rows_flatMap {α : Type} (l : List α) (n : Nat) : ∀ rows,
    (List.range rows).flatMap (fun sq => (l.drop (sq * n)).take n) = l.take (rows * n)
  | 0 => by simp
  | k + 1 => by
    rw [List.range_succ, List.flatMap_append, rows_flatMap l n k, Nat.succ_mul, List.take_add]
    simp

/-- the shape is `[[u64; 12]; 64]`, and the rows laid end to end are the flat table -/
theorem pieceRows_shape : pieceRows.size = 64 ∧ pieceRows.all (fun r => r.size == 12) = true
    ∧ pieceRows.toList.flatMap Array.toList = Gen.pieceKeys.toList := by
  have hs : Gen.pieceKeys.size = 768 := by decide +kernel
  unfold pieceRows
  refine ⟨by simp, ?_, ?_⟩
  · -- row `sq` has `min 12 (768 - sq * 12)` entries
    simp [hs]
    omega
  · rw [List.toList_toArray, List.flatMap_map]
    exact (rows_flatMap _ 12 64).trans (List.take_of_length_le (Nat.le_of_eq hs))
#print axioms pieceRows_shape

/-- row `i`, column `k` of a table cut into `rows` rows of `n` is entry `i * n + k` of the flat table -/
theorem rows_getD {α : Type} (a : Array α) (n rows i k : Nat) (d : α) (hi : i < rows) (hk : k < n) :
    ((((List.range rows).map fun sq => ((a.toList.drop (sq * n)).take n).toArray).toArray).getD i #[]).getD k d
      = a.getD (i * n + k) d := by
  have h : k < min n (a.size - i * n) ↔ i * n + k < a.size := by omega
  simp only [Array.getD, List.size_toArray, List.length_map, List.length_range, hi, ↓reduceDIte,
    Array.getInternal_eq_getElem, List.getElem_toArray, List.getElem_map, List.getElem_range, List.length_take,
    List.length_drop, Array.length_toList, h, List.getElem_take, List.getElem_drop, Array.getElem_toList]

/-- `b as usize` for a byte is its value -/
theorem cast_u8_usize (b : UInt8) : (RustSem.cast b : RustSem.Usize) = b.toNat := by
  show ((b.toNat : Int) % (RustSem.usizeModulus : Int)).toNat = b.toNat
  have := b.toNat_lt
  unfold RustSem.usizeModulus
  omega

/-- `GameState::hash`: the entry of `STATE` at the state byte, for every byte -/
theorem GameState_hash_eq : ∀ s : Gen.Fns.GameState,
    Gen.Fns.GameState.hash Gen.stateKeys s = GState.hash (gsByte s) := by
  intro ⟨b⟩
  -- the Rust text, whatever `let`s it goes through, reads `STATE[self.bitfield as usize]`
  have h : ∀ STATE, Gen.Fns.GameState.hash STATE ⟨b⟩ = STATE.getD (RustSem.cast b : RustSem.Usize) default :=
    fun _ => rfl
  rw [h, cast_u8_usize]; rfl
#print axioms GameState_hash_eq

/-- `Piece::hash`: entry `[pos.as_usize()][self.as_index()]` of `PIECE` is the model's flat entry
`idx * 12 + asIndex`, for every valid square and every piece (both unchecked accesses are in bounds there) -/
theorem Piece_hash_eq : ∀ (pc : Gen.Fns.Piece) (p : Gen.Fns.Position), PosValid p →
    Gen.Fns.Piece.hash pieceRows pc p = Piece.hash (toPiece pc) (toPos p) := by
  intro pc p hp
  -- the Rust text reads `PIECE[pos.as_usize()][self.as_index()]`; the two index functions are the
  -- model's by their own theorems, and the table is a variable up to here
  have h : ∀ PIECE, Gen.Fns.Piece.hash PIECE pc p
      = (PIECE.getD (Gen.Fns.Position.as_usize p) default).getD (Gen.Fns.Piece.as_index pc) default :=
    fun _ => rfl
  rw [h, Position_as_usize_eq_of_valid p hp, Piece_as_index_eq]
  have hi : (toPos p).idx < 64 := by
    obtain ⟨h1, h2, h3, h4⟩ := hp
    show (p._0.toInt * 8 + p._1.toInt).toNat < 64
    omega
  have hk : (toPiece pc).asIndex < 12 := by
    obtain ⟨t, o⟩ := pc
    cases t <;> cases o <;> decide
  exact rows_getD Gen.pieceKeys 12 64 _ _ 0 hi hk
#print axioms Piece_hash_eq

end Chess.FnsEquiv
