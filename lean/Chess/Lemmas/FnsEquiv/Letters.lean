import Chess.Lemmas.FnsEquiv.Base
import Chess.Model.Text

namespace Chess.FnsEquiv
open Chess

/-! ## the letter functions of `piece.rs`  (model: `Chess.Piece.asCharAscii`, `fromCharAscii`, `asStrPgn`, `asGlyph`;
data: `Gen.asciiLetters`, `Gen.pgnLetters`, `Gen.fromLetters`, `Gen.glyphsWhite`, `Gen.glyphsBlack`)

The tables are indexed in `PieceType` order (Queen, Rook, Bishop, Knight, Pawn, King), i.e. by
`(toPieceType t).toNat`, which is `t as usize` (`PieceType_discr_eq`). -/

theorem isAsciiLowercase_eq (c : Char) : RustSem.isAsciiLowercase c = c.isLower := by
  simp only [RustSem.isAsciiLowercase, Char.isLower, Char.toNat, ge_iff_le, UInt32.le_iff_toNat_le]
  rfl
#print axioms isAsciiLowercase_eq

def asciiChars : List Char := (List.range 128).map Char.ofNat

theorem mem_asciiChars {c : Char} (h : c.toNat < 128) : c ∈ asciiChars :=
  List.mem_map.2 ⟨c.toNat, List.mem_range.2 h, Char.ofNat_toNat c⟩
#print axioms mem_asciiChars

theorem toAsciiUppercase_high {c : Char} (h : 128 ≤ c.toNat) : RustSem.toAsciiUppercase c = c := by
  have : RustSem.isAsciiLowercase c = false := by
    simp only [RustSem.isAsciiLowercase, Bool.and_eq_false_iff, decide_eq_false_iff_not]; omega
  simp [RustSem.toAsciiUppercase, this]
#print axioms toAsciiUppercase_high

theorem toAsciiLowercase_high {c : Char} (h : 128 ≤ c.toNat) : RustSem.toAsciiLowercase c = c := by
  have : RustSem.isAsciiUppercase c = false := by
    simp only [RustSem.isAsciiUppercase, Bool.and_eq_false_iff, decide_eq_false_iff_not]; omega
  simp [RustSem.toAsciiLowercase, this]
#print axioms toAsciiLowercase_high

theorem toUpper_high {c : Char} (h : 128 ≤ c.toNat) : c.toUpper = c := by
  have h' : 128 ≤ c.val.toNat := h
  unfold Char.toUpper
  rw [dif_neg]
  intro ⟨_, h2⟩
  have : c.val.toNat ≤ 'z'.val.toNat := UInt32.le_iff_toNat_le.1 h2
  have : 'z'.val.toNat = 122 := by decide
  omega
#print axioms toUpper_high

theorem toAsciiUppercase_eq (c : Char) : RustSem.toAsciiUppercase c = c.toUpper := by
  by_cases h : c.toNat < 128
  · revert c
    suffices ∀ c ∈ asciiChars, RustSem.toAsciiUppercase c = c.toUpper from fun c h => this c (mem_asciiChars h)
    decide +kernel
  · rw [toAsciiUppercase_high (by omega), toUpper_high (by omega)]
#print axioms toAsciiUppercase_eq

theorem ne_of_high {c : Char} (h : 128 ≤ c.toNat) (d : Char) (hd : d.toNat < 128) : ¬ d = c := fun e => by
  subst e; omega

theorem ne_ascii_of_high {c : Char} (h : 128 ≤ c.toNat) (d : Char) (hd : d.toNat < 128) : (c == d) = false :=
  beq_eq_false_iff_ne.2 fun e => ne_of_high h d hd e.symm
#print axioms ne_ascii_of_high

theorem Piece_as_char_ascii_eq (pc : Gen.Fns.Piece) :
    Gen.Fns.Piece.as_char_ascii pc = Piece.asCharAscii (toPiece pc) := by
  obtain ⟨t, o⟩ := pc
  cases t <;> cases o <;> decide +kernel
#print axioms Piece_as_char_ascii_eq

theorem Piece_as_char_ascii_table (t : Gen.Fns.PieceType) :
    Gen.asciiLetters[(toPieceType t).toNat]? = some (Gen.Fns.Piece.as_char_ascii ⟨t, .White⟩)
    ∧ (Gen.asciiLetters.map Char.toLower)[(toPieceType t).toNat]? = some (Gen.Fns.Piece.as_char_ascii ⟨t, .Black⟩) := by
  cases t <;> decide +kernel
#print axioms Piece_as_char_ascii_table

theorem Piece_as_str_pgn_eq (pc : Gen.Fns.Piece) :
    (Gen.Fns.Piece.as_str_pgn pc).toList = Piece.asStrPgn (toPiece pc) := by
  obtain ⟨t, o⟩ := pc
  cases t <;> cases o <;> decide +kernel
#print axioms Piece_as_str_pgn_eq

theorem Piece_as_str_pgn_table (pc : Gen.Fns.Piece) :
    Gen.pgnLetters[(toPieceType pc.piece_type).toNat]? = some (Gen.Fns.Piece.as_str_pgn pc) := by
  obtain ⟨t, o⟩ := pc
  cases t <;> cases o <;> decide +kernel
#print axioms Piece_as_str_pgn_table

/-! ### `Piece::as_char` (the Unicode glyphs) -/

theorem Piece_as_char_eq (pc : Gen.Fns.Piece) :
    Gen.Fns.Piece.as_char pc = Piece.asGlyph (toPiece pc) := by
  obtain ⟨t, o⟩ := pc
  cases t <;> cases o <;> decide +kernel
#print axioms Piece_as_char_eq

theorem Piece_as_char_table (t : Gen.Fns.PieceType) :
    Gen.glyphsWhite[(toPieceType t).toNat]? = some (Gen.Fns.Piece.as_char ⟨t, .White⟩)
    ∧ Gen.glyphsBlack[(toPieceType t).toNat]? = some (Gen.Fns.Piece.as_char ⟨t, .Black⟩) := by
  cases t <;> decide +kernel
#print axioms Piece_as_char_table

/-! ### `Piece::from_char_ascii`, on EVERY `char`

Below 128 both sides are evaluated by the kernel (128 chars). At or above 128 both are `none`: the generated
term compares (a case conversion of) the argument with ASCII literals only, and such a char differs from each of
them (`ne_ascii_of_high`; its side condition `d.toNat < 128` is decided on the literal). -/

theorem Piece_from_char_ascii_ascii : ∀ c ∈ asciiChars,
    (Gen.Fns.Piece.from_char_ascii c).map toPiece = Piece.fromCharAscii c := by
  decide +kernel
#print axioms Piece_from_char_ascii_ascii

-- (a harmless variant of the source may convert to lowercase instead; both facts are offered)
set_option linter.unusedSimpArgs false in
theorem Piece_from_char_ascii_high {c : Char} (h : 128 ≤ c.toNat) : Gen.Fns.Piece.from_char_ascii c = none := by
  have ne := ne_ascii_of_high h
  simp (discharger := decide) [Gen.Fns.Piece.from_char_ascii, toAsciiUppercase_high h, toAsciiLowercase_high h, ne]
#print axioms Piece_from_char_ascii_high

theorem fromCharAscii_high {c : Char} (h : 128 ≤ c.toNat) : Piece.fromCharAscii c = none := by
  simp (discharger := decide) [Piece.fromCharAscii, Piece.fromCharAscii.find, Gen.fromLetters, toUpper_high h,
    ne_of_high h]
#print axioms fromCharAscii_high

theorem Piece_from_char_ascii_eq (c : Char) :
    (Gen.Fns.Piece.from_char_ascii c).map toPiece = Piece.fromCharAscii c := by
  by_cases h : c.toNat < 128
  · exact Piece_from_char_ascii_ascii c (mem_asciiChars h)
  · rw [Piece_from_char_ascii_high (by omega), fromCharAscii_high (by omega)]; rfl
#print axioms Piece_from_char_ascii_eq

/-- read against the data: a char is accepted iff its uppercase is the `i`-th entry of `Gen.fromLetters`, the
result is then the `i`-th piece type, Black iff the char is an ASCII lowercase letter -/
theorem Piece_from_char_ascii_table (t : Gen.Fns.PieceType) (o : Gen.Fns.Player) (c : Char) :
    Gen.Fns.Piece.from_char_ascii c = some ⟨t, o⟩ ↔
      Gen.fromLetters[(toPieceType t).toNat]? = some c.toUpper ∧ (o = .Black ↔ c.isLower = true) := by
  by_cases h : c.toNat < 128
  · -- one evaluation for all twelve pieces, so that each `from_char_ascii c` is computed once
    have all : ∀ c ∈ asciiChars, ∀ t ∈ [Gen.Fns.PieceType.Queen, .Rook, .Bishop, .Knight, .Pawn, .King],
        ∀ o ∈ [Gen.Fns.Player.White, .Black], Gen.Fns.Piece.from_char_ascii c = some ⟨t, o⟩ ↔
          Gen.fromLetters[(toPieceType t).toNat]? = some c.toUpper ∧ (o = .Black ↔ c.isLower = true) := by
      decide +kernel
    exact all c (mem_asciiChars h) t (by cases t <;> decide) o (by cases o <;> decide)
  · have hh : 128 ≤ c.toNat := by omega
    rw [Piece_from_char_ascii_high hh, toUpper_high hh]
    cases t <;> simp (discharger := decide) [Gen.fromLetters, toPieceType, PieceType.toNat, ne_of_high hh]
#print axioms Piece_from_char_ascii_table

end Chess.FnsEquiv
