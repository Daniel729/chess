import Chess.Lemmas.FnsEquiv.Base

namespace Chess.FnsEquiv
open Chess

/-! ## `move_struct.rs`  (model: `Chess.Move`)

A `Move` carries positions (pairs of `i8`), so its values cannot be enumerated. The functions here
look only at the constructor, the pieces and (for `index_history`) the target square; the proofs
split on the constructor, replace the fields the function ignores by fixed ones (`rfl`: the function
does not read them) and evaluate the remaining finite family in the kernel. -/

def MoveValid : Gen.Fns.Move → Prop
  | .Normal _ s e _ => PosValid s ∧ PosValid e
  | .Promotion _ _ s e _ => PosValid s ∧ PosValid e
  | _ => True

private def p00 : Gen.Fns.Position := ⟨0, 0⟩

theorem is_tactical_closed : ∀ (t : Gen.Fns.PieceType) (o : Gen.Fns.Player) (t' : Gen.Fns.PieceType) (o' : Gen.Fns.Player),
    Gen.Fns.Move.is_tactical_move (.Normal ⟨t, o⟩ p00 p00 (some ⟨t', o'⟩))
      = (toMove (.Normal ⟨t, o⟩ p00 p00 (some ⟨t', o'⟩))).isTactical := by
  intro t o t' o'
  cases t <;> cases o <;> cases t' <;> cases o' <;> decide +kernel
#print axioms is_tactical_closed

theorem Move_is_tactical_move_eq (m : Gen.Fns.Move) :
    Gen.Fns.Move.is_tactical_move m = (toMove m).isTactical := by
  cases m with
  | Normal pc s e cap =>
    cases cap with
    | none => rfl
    | some c =>
      obtain ⟨t, o⟩ := pc
      obtain ⟨t', o'⟩ := c
      exact is_tactical_closed t o t' o'
  | Promotion o t s e cap => rfl
  | CastlingShort o => rfl
  | CastlingLong o => rfl
  | EnPassant o a b => rfl
#print axioms Move_is_tactical_move_eq

theorem index_history_closed : ∀ (t : Gen.Fns.PieceType) (o : Gen.Fns.Player), ∀ r ∈ i8s 0 7, ∀ c ∈ i8s 0 7,
    Gen.Fns.Move.index_history (.Normal ⟨t, o⟩ p00 ⟨r, c⟩ none)
      = (toMove (.Normal ⟨t, o⟩ p00 ⟨r, c⟩ none)).indexHistory := by
  intro t o
  cases t <;> cases o <;> decide +kernel
#print axioms index_history_closed

/-- `index_history`, for a move whose squares are valid: `piece.as_index() * 64 + end.as_usize()` in
`usize` (no wrap: the value is below 768) is the model's index; captures and special moves have none. -/
theorem Move_index_history_eq (m : Gen.Fns.Move) (hm : MoveValid m) :
    Gen.Fns.Move.index_history m = (toMove m).indexHistory := by
  cases m with
  | Normal pc s e cap =>
    cases cap with
    | some c => rfl
    | none =>
      obtain ⟨t, o⟩ := pc
      obtain ⟨r, c⟩ := e
      obtain ⟨_, h1, h2, h3, h4⟩ := hm
      exact index_history_closed t o r (mem_i8s h1 h2) c (mem_i8s h3 h4)
  | Promotion o t s e cap => rfl
  | CastlingShort o => rfl
  | CastlingLong o => rfl
  | EnPassant o a b => rfl
#print axioms Move_index_history_eq

end Chess.FnsEquiv
