import Chess.Lemmas.FnsEquiv.Position

namespace Chess.FnsEquiv
open Chess

/-! ## `piece.rs`  (model: `Chess.PieceType`, `Chess.Piece`) -/

/-- the order of the `enum PieceType` declaration is the model's `toNat` (what `as usize` yields) -/
theorem PieceType_discr_eq (t : Gen.Fns.PieceType) : Gen.Fns.PieceType.discr t = ((toPieceType t).toNat : Int) := by
  cases t <;> decide
#print axioms PieceType_discr_eq

/-- `Player::White = 1`, `Player::Black = -1` are the model's `sign` -/
theorem Player_discr_eq (o : Gen.Fns.Player) : Gen.Fns.Player.discr o = (toPlayer o).sign := by
  cases o <;> decide
#print axioms Player_discr_eq

theorem PieceType_material_value_eq (t : Gen.Fns.PieceType) :
    (Gen.Fns.PieceType.material_value t).toNat = (toPieceType t).materialValue := by
  cases t <;> decide +kernel
#print axioms PieceType_material_value_eq

theorem Piece_material_value_eq (pc : Gen.Fns.Piece) :
    (Gen.Fns.Piece.material_value pc).toNat = (toPiece pc).materialValue := by
  obtain ⟨t, o⟩ := pc
  cases t <;> cases o <;> decide +kernel
#print axioms Piece_material_value_eq

/-- `as_index` (a `usize`, here `Nat` reduced mod 2^64) is the model's index `0..12` -/
theorem Piece_as_index_eq (pc : Gen.Fns.Piece) : Gen.Fns.Piece.as_index pc = (toPiece pc).asIndex := by
  obtain ⟨t, o⟩ := pc
  cases t <;> cases o <;> decide +kernel
#print axioms Piece_as_index_eq

/-- The argument `Game::piece_scores` (`mod.rs`: `[QUEEN, ROOK, BISHOP, KNIGHT, PAWN, KING_*]`, the king's entry
switched by `update_phase`) built from the tables `tools/extract.py` reads out of `scores.rs`, as `i16`. -/
def scoreTables (endgame : Bool) : Array (Array Int16) :=
  #[Gen.queenScores.map Int16.ofInt, Gen.rookScores.map Int16.ofInt, Gen.bishopScores.map Int16.ofInt,
    Gen.knightScores.map Int16.ofInt, Gen.pawnScores.map Int16.ofInt,
    (if endgame then Gen.kingScoresEnd else Gen.kingScoresMiddle).map Int16.ofInt]

/-- every entry of the piece-square tables is far from `i16::MIN`, so its product with `±1` does not wrap -/
theorem scoreTable_small : ∀ e t, ∀ x ∈ (Piece.scoreTable t e).toList, -32767 ≤ x ∧ x ≤ 32767 := by
  intro e t; cases e <;> cases t <;> decide +kernel

/-- entry `piece_type as usize` of the six tables, whatever is done to each of them (`f`; kept a variable so
that checking this does not look into `Array.map`) -/
theorem tables_getD (f : Array Int → Array Int16) (e : Bool) (t : Gen.Fns.PieceType) :
    (#[f Gen.queenScores, f Gen.rookScores, f Gen.bishopScores, f Gen.knightScores, f Gen.pawnScores,
      f (if e then Gen.kingScoresEnd else Gen.kingScoresMiddle)]).getD
        (RustSem.cast (Gen.Fns.PieceType.discr t) : RustSem.Usize) default
      = f (Piece.scoreTable (toPieceType t) e) := by
  cases e <;> cases t <;> rfl

theorem i16_mul_sign {x s : Int} (hx : -32767 ≤ x ∧ x ≤ 32767) (hs : s = 1 ∨ s = -1) :
    (Int16.ofInt x * Int16.ofInt s).toInt = x * s := by
  rw [← Int16.ofInt_mul]
  apply Int16.toInt_ofInt_of_le <;> rcases hs with rfl | rfl <;> omega

theorem score_entry (e : Bool) (t : Gen.Fns.PieceType) (p : Gen.Fns.Position) (hp : PosValid p) (s : Int)
    (hs : s = 1 ∨ s = -1) :
    (((scoreTables e).getD (RustSem.cast (Gen.Fns.PieceType.discr t) : RustSem.Usize) default).getD
        (Gen.Fns.Position.as_usize p) default * Int16.ofInt s).toInt
      = (Piece.scoreTable (toPieceType t) e).getD (toPos p).idx 0 * s := by
  rw [show (scoreTables e).getD _ default = _ from tables_getD (Array.map Int16.ofInt) e t,
    Position_as_usize_eq_of_valid p hp]
  have ha := scoreTable_small e (toPieceType t)
  generalize (toPos p).idx = i
  generalize Piece.scoreTable (toPieceType t) e = a at ha ⊢
  have hm : (a.map Int16.ofInt).getD i default = Int16.ofInt (a.getD i 0) := by
    simp only [Array.getD, Array.size_map]
    split
    · exact Array.getElem_map ..
    · rfl
  have hx : -32767 ≤ a.getD i 0 ∧ a.getD i 0 ≤ 32767 := by
    unfold Array.getD
    split
    · exact ha _ (Array.getElem_mem_toList _)
    · decide
  rw [hm, i16_mul_sign hx hs]

/-- `Piece::score` on the engine's tables, for a valid position: table choice (`piece_type as usize`),
row flip for White (`7 - row`), square index (`row*8+col`), and sign (`owner as Score`) are the model's.
No `i16` product wraps here because the table entries are far from `i16::MIN` (`scoreTable_small`, decided
on the extracted tables). The unchecked accesses are in bounds on this domain. -/
theorem Piece_score_eq : ∀ (endgame : Bool) (pc : Gen.Fns.Piece) (p : Gen.Fns.Position), PosValid p →
    (Gen.Fns.Piece.score pc p (scoreTables endgame)).toInt = Piece.score (toPiece pc) (toPos p) endgame := by
  intro endgame ⟨t, o⟩ ⟨r, c⟩ hp
  -- what the Rust text reads, for either colour, with the tables and the square as variables
  have h : ∀ scores, Gen.Fns.Piece.score ⟨t, o⟩ ⟨r, c⟩ scores =
      (scores.getD (RustSem.cast (Gen.Fns.PieceType.discr t) : RustSem.Usize) default).getD
        (Gen.Fns.Position.as_usize ⟨match o with | .White => 7 - r | .Black => r, c⟩) default
      * (RustSem.cast (Gen.Fns.Player.discr o) : Int16) := by
    cases o <;> exact fun _ => rfl
  have hs : (RustSem.cast (Gen.Fns.Player.discr o) : Int16) = Int16.ofInt (toPlayer o).sign :=
    congrArg Int16.ofInt (Player_discr_eq o)
  have h7 : (7 - r).toInt = 7 - r.toInt :=
    forall_i8 (P := fun r => (7 - r).toInt = 7 - r.toInt) 0 7 (by decide) r hp.1 hp.2.1
  have h1 : 0 ≤ r.toInt := hp.1
  have h2 : r.toInt ≤ 7 := hp.2.1
  rw [h, hs]
  cases o
  · refine (score_entry endgame t ⟨7 - r, c⟩ ⟨?_, ?_, hp.2.2⟩ 1 (.inl rfl)).trans ?_
    · show 0 ≤ (7 - r).toInt; omega
    · show (7 - r).toInt ≤ 7; omega
    · show (Piece.scoreTable _ _).getD ((7 - r).toInt * 8 + c.toInt).toNat 0 * 1 = _
      rw [h7]; rfl
  · exact score_entry endgame t ⟨r, c⟩ hp (-1) (.inr rfl)
#print axioms Piece_score_eq

/-- `ENDGAME_THRESHOLD` (the constant expression `1500 + 20000` in `scores.rs`, evaluated in `u32`) is the
value `tools/extract.py` reads as data -/
theorem ENDGAME_THRESHOLD_eq : Gen.Fns.ENDGAME_THRESHOLD.toNat = Gen.endgameThreshold := by decide +kernel
#print axioms ENDGAME_THRESHOLD_eq

end Chess.FnsEquiv
