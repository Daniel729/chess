import Chess.Lemmas.FnsEquiv.Base

namespace Chess.FnsEquiv
open Chess

/-! ## `position.rs`  (model: `Chess.Pos`, unbounded `Int`) -/

/-- `Position::new`, for rows and columns in `-16..=16` (no arithmetic happens, the bound only makes
the check finite; the engine calls it with `-2..=9`). -/
theorem Position_new_eq : ∀ r : Int8, -16 ≤ r.toInt → r.toInt ≤ 16 → ∀ c : Int8, -16 ≤ c.toInt → c.toInt ≤ 16 →
    (Gen.Fns.Position.new r c).map toPos = Pos.new? r.toInt c.toInt := by
  refine forall_i8 (-16) 16 ?_; intro r hr; refine forall_i8 (-16) 16 ?_; revert r
  decide +kernel
#print axioms Position_new_eq

/-- `Position::as_usize`, for rows and columns in `-16..=16` whose index `row*8+col` lies in
`0..=127`: there the `i8` product and sum are exact (or wrap back to the exact value) and the cast to
`usize` does not sign-extend, so the result is the model's `Pos.idx`. Every valid position qualifies. -/
theorem Position_as_usize_eq : ∀ r : Int8, -16 ≤ r.toInt → r.toInt ≤ 16 → ∀ c : Int8, -16 ≤ c.toInt → c.toInt ≤ 16 →
    0 ≤ r.toInt * 8 + c.toInt → r.toInt * 8 + c.toInt ≤ 127 →
    Gen.Fns.Position.as_usize ⟨r, c⟩ = (toPos ⟨r, c⟩).idx := by
  refine forall_i8 (-16) 16 ?_; intro r hr; refine forall_i8 (-16) 16 ?_; revert r
  decide +kernel
#print axioms Position_as_usize_eq

theorem Position_as_usize_eq_of_valid (p : Gen.Fns.Position) (h : PosValid p) :
    Gen.Fns.Position.as_usize p = (toPos p).idx := by
  obtain ⟨r, c⟩ := p
  obtain ⟨h1, h2, h3, h4⟩ := h
  simp only at h1 h2 h3 h4
  exact Position_as_usize_eq r (by omega) (by omega) c (by omega) (by omega) (by omega) (by omega)
#print axioms Position_as_usize_eq_of_valid

theorem Position_row_eq (p : Gen.Fns.Position) : (Gen.Fns.Position.row p).toInt = (toPos p).row := by
  cases p; rfl
#print axioms Position_row_eq

theorem Position_col_eq (p : Gen.Fns.Position) : (Gen.Fns.Position.col p).toInt = (toPos p).col := by
  cases p; rfl
#print axioms Position_col_eq

/-- `Position::new_unsafe` (release: the `debug_assert!` is a no-op) builds the pair -/
theorem Position_new_unsafe_eq (r c : Int8) : toPos (Gen.Fns.Position.new_unsafe r c) = ⟨r.toInt, c.toInt⟩ := by
  rfl
#print axioms Position_new_unsafe_eq

/-- the four rook home squares are the ones the model uses (`Game.pos Gen.whiteQueenRook` …, which
`tools/extract.py` reads from the same four lines as data) -/
theorem Position_ROOKS_eq :
    toPos Gen.Fns.Position.WHITE_QUEEN_ROOK = Game.pos Gen.whiteQueenRook ∧
    toPos Gen.Fns.Position.WHITE_KING_ROOK = Game.pos Gen.whiteKingRook ∧
    toPos Gen.Fns.Position.BLACK_QUEEN_ROOK = Game.pos Gen.blackQueenRook ∧
    toPos Gen.Fns.Position.BLACK_KING_ROOK = Game.pos Gen.blackKingRook := by
  decide +kernel
#print axioms Position_ROOKS_eq

/-- `Position::new_assert`, for rows and columns in `-16..=16`: on the board it builds the pair; off the board the
`assert!` fails (a panic in Rust, `default` in `RustSem.assert`), i.e. the assertion is exactly `Pos.inBoard`. -/
theorem Position_new_assert_eq : ∀ r : Int8, -16 ≤ r.toInt → r.toInt ≤ 16 → ∀ c : Int8, -16 ≤ c.toInt → c.toInt ≤ 16 →
    (Pos.inBoard r.toInt c.toInt = true → toPos (Gen.Fns.Position.new_assert r c) = ⟨r.toInt, c.toInt⟩)
    ∧ (Pos.inBoard r.toInt c.toInt = false → Gen.Fns.Position.new_assert r c = default) := by
  refine forall_i8 (-16) 16 ?_; intro r hr; refine forall_i8 (-16) 16 ?_; revert r
  decide +kernel
#print axioms Position_new_assert_eq

/-- `Position::add_unsafe` (release: the `debug_assert!` is a no-op), for a valid position and deltas in `-2..=2`
(its callers pass the pawn steps `(±1, 0)`, `(±2, 0)`): the `i8` sums do not wrap there and are the model's. -/
theorem Position_add_unsafe_eq : ∀ p : Gen.Fns.Position, PosValid p →
    ∀ dr : Int8, -2 ≤ dr.toInt → dr.toInt ≤ 2 → ∀ dc : Int8, -2 ≤ dc.toInt → dc.toInt ≤ 2 →
    toPos (Gen.Fns.Position.add_unsafe p (dr, dc)) = Pos.addUnsafe (toPos p) (dr.toInt, dc.toInt) := by
  intro ⟨r, c⟩ ⟨h1, h2, h3, h4⟩ dr a1 a2 dc b1 b2
  simp only at h1 h2 h3 h4
  -- `toInt` of an `i8` sum is the sum reduced into `-128..128`, which is the sum itself here (at most 9 in absolute value)
  -- (if the Rust text has the operands in the other order, the two sides still differ by that and `omega` closes it)
  simp (disch := omega) only [Gen.Fns.Position.add_unsafe, Pos.addUnsafe, toPos, Int8.toInt_add,
    Int.bmod_eq_of_le_mul_two] <;> (simp only [Pos.mk.injEq]; omega)
#print axioms Position_add_unsafe_eq

end Chess.FnsEquiv
