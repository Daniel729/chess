import Chess.Lemmas.FnsEquiv.Base

namespace Chess.FnsEquiv
open Chess

/-! ## `position.rs`: `Position::add` -/

/-- the model's `Pos.add` on components, with the board test as a proposition -/
theorem Pos_add_ite (r c dr dc : Int) :
    Pos.add ⟨r, c⟩ (dr, dc) = if (0 ≤ r + dr ∧ r + dr < 8) ∧ 0 ≤ c + dc ∧ c + dc < 8
      then some ⟨r + dr, c + dc⟩ else none := by
  simp only [Pos.add, Pos.new?, Pos.inBoard, Bool.and_eq_true, decide_eq_true_eq, and_assoc]

-- the `simp` set below also covers a test written negated (`if !(..) { return None }`), unused on the present text
set_option linter.unusedSimpArgs false in
/-- `Position::add`, for a valid position (the type's invariant) and deltas in `-8..=8` (all the engine's
deltas: knight/king/pawn steps, and ray steps up to the first square off the board).
In that range `self.0 + delta.0` does not wrap, so the `i8` sum is the model's `Int` sum. -/
theorem Position_add_eq : ∀ p : Gen.Fns.Position, PosValid p →
    ∀ dr : Int8, -8 ≤ dr.toInt → dr.toInt ≤ 8 → ∀ dc : Int8, -8 ≤ dc.toInt → dc.toInt ≤ 8 →
    (Gen.Fns.Position.add p (dr, dc)).map toPos = Pos.add (toPos p) (dr.toInt, dc.toInt) := by
  intro ⟨r, c⟩ ⟨h1, h2, h3, h4⟩ dr a1 a2 dc b1 b2
  simp only at h1 h2 h3 h4
  -- The argument below reads the Rust text as it is written now (two sums, one test on them). A rewrite that keeps
  -- the meaning but hides that shape (the test in a helper function, `add` calling `new`) falls through to the
  -- second alternative: all 8·8·17·17 cases evaluated by the kernel, which needs no shape at all.
  first
  | rw [show toPos ⟨r, c⟩ = ⟨r.toInt, c.toInt⟩ from rfl, Pos_add_ite]
    -- The Rust side is read in `Int`: comparisons through `toInt`, literals by their value, and `toInt` of an
    -- `i8` sum is the sum reduced into `-128..128` (`Int8.toInt_add`), which is the sum itself because its
    -- absolute value is at most 15 (`Int.bmod_eq_of_le_mul_two`, side conditions by `omega` from the hypotheses).
    simp (disch := omega) only [Gen.Fns.Position.add, RustSem.rangeContains, toPos, Int8.le_iff_toInt_le,
      Int8.lt_iff_toInt_lt, Int8.toInt_add, Int8.toInt_ofNat, Int8.size, Int.bmod_eq_of_le_mul_two,
      apply_ite (Option.map toPos), Option.map_some, Option.map_none, Bool.not_eq_true', Bool.and_eq_true,
      Bool.and_eq_false_iff, decide_eq_true_eq, decide_eq_false_iff_not]
    -- Both sides are now an `if` on linear conditions over the same four integers; `omega` compares them in each
    -- of the four combinations, whatever the order of the operands of `+` and `&&` in the Rust text.
    split <;> split <;> simp only [Option.some.injEq, Pos.mk.injEq, reduceCtorEq] <;> omega
  | exact (by decide +kernel : ∀ r ∈ i8s 0 7, ∀ c ∈ i8s 0 7, ∀ dr ∈ i8s (-8) 8, ∀ dc ∈ i8s (-8) 8,
        (Gen.Fns.Position.add ⟨r, c⟩ (dr, dc)).map toPos = Pos.add (toPos ⟨r, c⟩) (dr.toInt, dc.toInt))
      r (mem_i8s h1 h2) c (mem_i8s h3 h4) dr (mem_i8s a1 a2) dc (mem_i8s b1 b2)
#print axioms Position_add_eq

end Chess.FnsEquiv
