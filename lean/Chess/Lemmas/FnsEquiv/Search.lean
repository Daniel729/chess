import Chess.Lemmas.FnsEquiv.Move

set_option linter.unusedSimpArgs false

namespace Chess.FnsEquiv
open Chess

/-! ## `search.rs`: `move_score`  (model: `Search.moveKey Uci.chessOps`, i.e. `Uci.orderKey` behind the
table-move / killer-move tests) -/

theorem toPos_injective {a b : Gen.Fns.Position} (h : toPos a = toPos b) : a = b := by
  obtain ⟨a0, a1⟩ := a
  obtain ⟨b0, b1⟩ := b
  simp only [toPos, Pos.mk.injEq] at h
  rw [Int8.toInt_inj.1 h.1, Int8.toInt_inj.1 h.2]
#print axioms toPos_injective

theorem toPieceType_injective {a b : Gen.Fns.PieceType} (h : toPieceType a = toPieceType b) : a = b := by
  cases a <;> cases b <;> first | rfl | cases h
#print axioms toPieceType_injective

theorem toPlayer_injective {a b : Gen.Fns.Player} (h : toPlayer a = toPlayer b) : a = b := by
  cases a <;> cases b <;> first | rfl | cases h
#print axioms toPlayer_injective

theorem toPiece_injective {a b : Gen.Fns.Piece} (h : toPiece a = toPiece b) : a = b := by
  obtain ⟨a0, a1⟩ := a
  obtain ⟨b0, b1⟩ := b
  simp only [toPiece, Piece.mk.injEq] at h
  rw [toPieceType_injective h.1, toPlayer_injective h.2]
#print axioms toPiece_injective

theorem optPiece_injective {a b : Option Gen.Fns.Piece} (h : a.map toPiece = b.map toPiece) : a = b := by
  cases a <;> cases b <;> simp only [Option.map, Option.some.injEq, reduceCtorEq] at h ⊢
  exact toPiece_injective h
#print axioms optPiece_injective

theorem toMove_injective {a b : Gen.Fns.Move} (h : toMove a = toMove b) : a = b := by
  cases a <;> cases b <;> simp only [toMove, Move.normal.injEq, Move.promotion.injEq, Move.castlingShort.injEq,
    Move.castlingLong.injEq, Move.enPassant.injEq, reduceCtorEq] at h
  · obtain ⟨h1, h2, h3, h4⟩ := h
    rw [toPiece_injective h1, toPos_injective h2, toPos_injective h3, optPiece_injective h4]
  · obtain ⟨h1, h2, h3, h4, h5⟩ := h
    rw [toPlayer_injective h1, toPieceType_injective h2, toPos_injective h3, toPos_injective h4, optPiece_injective h5]
  · rw [toPlayer_injective h]
  · rw [toPlayer_injective h]
  · obtain ⟨h1, h2, h3⟩ := h
    rw [toPlayer_injective h1, Int8.toInt_inj.1 h2, Int8.toInt_inj.1 h3]
#print axioms toMove_injective

theorem some_toMove_eq_iff (x : Option Gen.Fns.Move) (m : Gen.Fns.Move) :
    x.map toMove = some (toMove m) ↔ x = some m := by
  cases x with
  | none => simp
  | some y =>
    simp only [Option.map, Option.some.injEq]
    exact ⟨toMove_injective, fun h => by rw [h]⟩
#print axioms some_toMove_eq_iff

/-- a promotion to a king does not exist (`get_pawn_moves` offers Queen, Rook, Bishop, Knight); for it
`9 - 100` would wrap in `u32` while the model's `Nat` subtraction truncates -/
def PromoOk : Gen.Fns.Move → Prop
  | .Promotion _ t _ _ _ => t ≠ .King
  | _ => True

/-! the three layers of `move_score`: table move, killer move, the kind of the move -/

/-- closing tactic of the three layer lemmas: after unfolding, `simp` decides the two leading tests whatever way
the Rust text spells them (`is_some_and(|x| x == m)`, `== Some(m)`, a `match`), and what is left is a constant
(a literal or a named constant) to be compared with the model's `0` / `1` -/
macro "layer_close" : tactic => `(tactic| (all_goals first | rfl | decide | (simp; done)))

theorem move_score_pv (m : Gen.Fns.Move) (killer : Option Gen.Fns.Move) (hist : Array UInt16) :
    Gen.Fns.move_score m (some m) killer hist = 0 := by
  unfold Gen.Fns.move_score
  simp [RustSem.isSomeAnd]
  layer_close
#print axioms move_score_pv

theorem move_score_killer (m : Gen.Fns.Move) (pv : Option Gen.Fns.Move) (hist : Array UInt16) (h : pv ≠ some m) :
    Gen.Fns.move_score m pv (some m) hist = 1 := by
  have a : ∀ x, pv = some x → m ≠ x := fun x e hx => h (by rw [e, hx])
  cases pv <;> (unfold Gen.Fns.move_score; simp_all [RustSem.isSomeAnd]) <;> layer_close
#print axioms move_score_killer

theorem move_score_rest (m : Gen.Fns.Move) (pv killer : Option Gen.Fns.Move) (hist : Array UInt16)
    (h1 : pv ≠ some m) (h2 : killer ≠ some m) :
    Gen.Fns.move_score m pv killer hist = Gen.Fns.move_score m none none hist := by
  -- both orientations of the inequalities, for either spelling of the tests in the Rust text
  have a : ∀ x, pv = some x → m ≠ x := fun x e hx => h1 (by rw [e, hx])
  have b : ∀ x, killer = some x → m ≠ x := fun x e hx => h2 (by rw [e, hx])
  cases pv <;> cases killer <;> (unfold Gen.Fns.move_score; simp_all [RustSem.isSomeAnd])
#print axioms move_score_rest

theorem cast_u16_u32_toNat (x : UInt16) : (RustSem.cast x : UInt32).toNat = x.toNat := by
  have := x.toNat_lt
  simp only [RustSem.cast, RustSem.RInt.ofInt, RustSem.RInt.toInt, UInt32.ofInt]
  rw [UInt32.toNat_ofNat']
  omega
#print axioms cast_u16_u32_toNat

theorem order_closed_capture : ∀ (t : Gen.Fns.PieceType) (o : Gen.Fns.Player) (t' : Gen.Fns.PieceType) (o' : Gen.Fns.Player),
    (Gen.Fns.move_score (.Normal ⟨t, o⟩ ⟨0, 0⟩ ⟨0, 0⟩ (some ⟨t', o'⟩)) none none #[]).toNat
      = Uci.orderKey (toMove (.Normal ⟨t, o⟩ ⟨0, 0⟩ ⟨0, 0⟩ (some ⟨t', o'⟩))) (fun _ => 0) := by
  intro t o t' o'
  cases t <;> cases o <;> cases t' <;> cases o' <;> decide +kernel
#print axioms order_closed_capture

theorem order_closed_promotion : ∀ (t : Gen.Fns.PieceType), t ≠ .King → ∀ (o : Gen.Fns.Player),
    (Gen.Fns.move_score (.Promotion o t ⟨0, 0⟩ ⟨0, 0⟩ none) none none #[]).toNat
      = Uci.orderKey (toMove (.Promotion o t ⟨0, 0⟩ ⟨0, 0⟩ none)) (fun _ => 0) := by
  intro t ht o
  cases t <;> cases o <;> first | (exact absurd rfl ht) | decide +kernel
#print axioms order_closed_promotion

/-- The quiet-move arm: whatever `u16` the history slot holds, `10000000 - h as u32` does not wrap. -/
theorem quiet_arith (h : UInt16) : ((10000000 : UInt32) - (RustSem.cast h : UInt32)).toNat = 10000000 - h.toNat := by
  have := h.toNat_lt
  rw [UInt32.toNat_sub_of_le, cast_u16_u32_toNat]
  · rfl
  · rw [UInt32.le_iff_toNat_le, cast_u16_u32_toNat]
    show h.toNat ≤ 10000000
    omega
#print axioms quiet_arith

theorem getD_map_toNat (hist : Array UInt16) (i : Nat) :
    (hist.map UInt16.toNat).getD i 0 = (RustSem.index hist i).toNat := by
  unfold RustSem.index
  by_cases h : i < hist.size
  · simp [Array.getD, h]
  · simp [Array.getD, h]
    rfl
#print axioms getD_map_toNat

/-- `move_score` below the table-move and killer tests is the model's `Uci.orderKey`, for a move with
valid squares that is not a promotion to a king. The `u32` differences do not wrap there
(`9 - value` needs `value ≤ 9`; `1000 + a - b`; `10000000 - h` with `h : u16`). The `unwrap()` is
reached only for a quiet `Normal` move, where `index_history` is `Some`. -/
theorem move_score_order (m : Gen.Fns.Move) (hist : Array UInt16) (hm : MoveValid m) (hk : PromoOk m) :
    (Gen.Fns.move_score m none none hist).toNat
      = Uci.orderKey (toMove m) (fun i => (hist.map UInt16.toNat).getD i 0) := by
  cases m with
  | Promotion o t s e cap => exact order_closed_promotion t hk o
  | CastlingShort o => rfl
  | CastlingLong o => rfl
  | EnPassant o a b => rfl
  | Normal pc s e cap =>
    cases cap with
    | some c =>
      obtain ⟨t, o⟩ := pc
      obtain ⟨t', o'⟩ := c
      exact order_closed_capture t o t' o'
    | none =>
      have hi := Move_index_history_eq (.Normal pc s e none) hm
      have hq : Gen.Fns.move_score (.Normal pc s e none) none none hist
          = (10000000 : UInt32) - (RustSem.cast (RustSem.index hist
              (RustSem.unwrap (Gen.Fns.Move.index_history (.Normal pc s e none)))) : UInt32) := rfl
      rw [hq, quiet_arith, hi]
      simp only [Uci.orderKey, toMove, Option.map, getD_map_toNat]
      rfl
#print axioms move_score_order

theorem move_score_eq (m : Gen.Fns.Move) (pv killer : Option Gen.Fns.Move) (hist : Array UInt16)
    (hm : MoveValid m) (hk : PromoOk m) :
    (Gen.Fns.move_score m pv killer hist).toNat
      = Search.moveKey Uci.chessOps (pv.map toMove) (killer.map toMove) (hist.map UInt16.toNat) (toMove m) := by
  unfold Search.moveKey
  by_cases h1 : pv = some m
  · rw [if_pos ((some_toMove_eq_iff pv m).2 h1), h1, move_score_pv]; rfl
  · rw [if_neg (fun h => h1 ((some_toMove_eq_iff pv m).1 h))]
    by_cases h2 : killer = some m
    · rw [if_pos ((some_toMove_eq_iff killer m).2 h2), h2, move_score_killer m pv hist h1]; rfl
    · rw [if_neg (fun h => h2 ((some_toMove_eq_iff killer m).1 h)), move_score_rest m pv killer hist h1 h2]
      exact move_score_order m hist hm hk
#print axioms move_score_eq

/-- `index_history` of a `Normal` move without capture is `Some`. In the Rust text of `move_score`
the `unwrap()` stands in that arm only (read off `src/search.rs`, not part of the statement). -/
theorem move_score_unwrap_safe (pc : Gen.Fns.Piece) (s e : Gen.Fns.Position) :
    (Gen.Fns.Move.index_history (.Normal pc s e none)).isSome = true := by
  rfl
#print axioms move_score_unwrap_safe

end Chess.FnsEquiv
