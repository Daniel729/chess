import Chess.Lemmas.PushPop
import Chess.Lemmas.Attack

/-!
# Generated moves fit the game they were generated in; the move query changes nothing (C03)

`get_pawn_moves` and `get_king_moves` are described once, by the membership lemmas `pawnMoves_spec`
and `kingMoves_spec`; knight and sliders are described by `pieceMoves_simple_iff`. What a generated
move carries (`Fits`, `MoverOk`) is read off these descriptions.
-/
namespace Chess

theorem Pos.add_spec {p q : Pos} {d : Int × Int} (h : p.add d = some q) :
    q.Valid ∧ q.row = p.row + d.1 ∧ q.col = p.col + d.2 := by
  obtain ⟨rfl, hb⟩ := (Pos.add_eq_some_iff p q d).1 h
  exact ⟨Pos.valid_mk hb, rfl, rfl⟩

theorem Pos.add_eq_some_of_valid {p : Pos} {d : Int × Int} (h : (p.addUnsafe d).Valid) :
    p.add d = some (p.addUnsafe d) :=
  (Pos.add_eq_some_iff p _ d).2 ⟨rfl, (Pos.valid_iff_onBoard _).1 h⟩

theorem Pos.add_ne_self {p q : Pos} {d : Int × Int} (hd : d ≠ (0, 0)) (h : p.add d = some q) : q ≠ p := by
  obtain ⟨_, hr, hc⟩ := Pos.add_spec h
  rintro rfl
  exact hd (Prod.ext (by show d.1 = 0; omega) (by show d.2 = 0; omega))

/-- the side to move's right to castle short / long -/
def Spec.sideK (a : Spec.APos) : Bool := match a.side with | .white => a.wk | .black => a.bk
def Spec.sideQ (a : Spec.APos) : Bool := match a.side with | .white => a.wq | .black => a.bq

namespace GState
/-- the right of `pl` to castle on the king's (`true`) or queen's (`false`) side -/
def right (s : GState) : Player → Bool → Bool
  | .white, true => s.wk
  | .white, false => s.wq
  | .black, true => s.bk
  | .black, false => s.bq
end GState

namespace Game

theorem allSquares_valid {p : Pos} (h : p ∈ allSquares) : p.Valid := by
  unfold allSquares at h
  simp only [List.mem_map, List.mem_range] at h
  obtain ⟨i, hi, rfl⟩ := h
  exact Pos.ofIdx_valid hi

theorem mem_allSquares {p : Pos} (h : p.Valid) : p ∈ allSquares := by
  unfold allSquares
  simp only [List.mem_map, List.mem_range]
  exact ⟨p.idx, Pos.idx_lt h, Pos.ofIdx_idx h⟩

theorem side_consts (pl : Player) :
    (Spec.forward pl = 1 ∧ Spec.pawnStartRow pl = 1 ∧ Spec.lastRow pl = 7 ∧ Spec.epFromRow pl = 4)
    ∨ (Spec.forward pl = -1 ∧ Spec.pawnStartRow pl = 6 ∧ Spec.lastRow pl = 0 ∧ Spec.epFromRow pl = 3) := by
  cases pl
  · exact .inl ⟨rfl, rfl, rfl, rfl⟩
  · exact .inr ⟨rfl, rfl, rfl, rfl⟩

theorem owner_other {a b : Player} (h : a ≠ b) : a = b.other := (Player.ne_iff_eq_other a b).1 h

theorem piece_eq {pc : Piece} {t : PieceType} {o : Player} (ht : pc.pieceType = t) (ho : pc.owner = o) :
    pc = ⟨t, o⟩ := by
  cases pc; simp only at ht ho; subst ht; subst ho; rfl

theorem mem_ite_singleton {α : Type} {c : Prop} [Decidable c] {x m : α} :
    m ∈ (if c then [x] else []) ↔ c ∧ m = x := by
  split <;> simp [*]

/-! ## `get_pawn_moves`, described -/

/-- the four parts of `get_pawn_moves`, with the constants as parameters -/
def pawnDbl (g : Game) (pc : Piece) (p : Pos) (firstRow : Int) (nd fd : Int × Int) : List Move :=
  if p.row = firstRow && (g.get (p.addUnsafe nd)).isNone && (g.get (p.addUnsafe fd)).isNone then
    [Move.normal pc p (p.addUnsafe fd) none]
  else []

def pawnFwd (g : Game) (pc : Piece) (p : Pos) (lastRow : Int) (nd : Int × Int) : List Move :=
  match p.add nd with
  | none => []
  | some q =>
    if (g.get q).isNone then
      if lastRow = q.row then promoPieces.map (fun t => Move.promotion g.player t p q none)
      else [Move.normal pc p q none]
    else []

def pawnCap (g : Game) (pc : Piece) (p : Pos) (lastRow : Int) (d : Int × Int) : List Move :=
  match p.add d with
  | none => []
  | some q =>
    match g.get q with
    | some other =>
      if other.owner ≠ pc.owner then
        if lastRow = q.row then promoPieces.map (fun t => Move.promotion g.player t p q (some other))
        else [Move.normal pc p q (some other)]
      else []
    | none => []

def pawnEp (g : Game) (p : Pos) (epRow : Int) : List Move :=
  if p.row = epRow && g.top.enPassant < 8 && (g.top.enPassant - p.col).natAbs = 1 then
    [Move.enPassant g.player p.col g.top.enPassant]
  else []

/-- `get_pawn_moves` with the generated constants replaced by the rules' (a wrong constant in the
source breaks this `rfl`) -/
theorem pawnMoves_eq (g : Game) (pc : Piece) (p : Pos) :
    g.pawnMoves pc p =
      pawnDbl g pc p (Spec.pawnStartRow pc.owner) (Spec.forward pc.owner, 0) (2 * Spec.forward pc.owner, 0)
      ++ pawnFwd g pc p (Spec.lastRow pc.owner) (Spec.forward pc.owner, 0)
      ++ [(Spec.forward pc.owner, (1 : Int)), (Spec.forward pc.owner, -1)].flatMap
          (pawnCap g pc p (Spec.lastRow pc.owner))
      ++ pawnEp g p (Spec.epFromRow pc.owner) := by
  obtain ⟨ty, o⟩ := pc
  cases o <;> rfl

/-- what arrives on `q`: the four promotions on the last row, the pawn itself elsewhere -/
def PawnArrive (g : Game) (pc : Piece) (p q : Pos) (cap : Option Piece) (lr : Int) (m : Move) : Prop :=
  if lr = q.row then ∃ t ∈ promoPieces, m = .promotion g.player t p q cap
  else m = .normal pc p q cap

theorem mem_arrive (g : Game) (pc : Piece) (p q : Pos) (cap : Option Piece) (lr : Int) (m : Move) :
    m ∈ (if lr = q.row then promoPieces.map (fun t => Move.promotion g.player t p q cap)
      else [Move.normal pc p q cap]) ↔ PawnArrive g pc p q cap lr m := by
  unfold PawnArrive
  split
  · simp only [List.mem_map, eq_comm]
  · simp only [List.mem_singleton]

theorem mem_pawnDbl (g : Game) (pc : Piece) (p : Pos) (fr : Int) (nd fd : Int × Int) (m : Move) :
    m ∈ pawnDbl g pc p fr nd fd ↔
      p.row = fr ∧ g.get (p.addUnsafe nd) = none ∧ g.get (p.addUnsafe fd) = none
        ∧ m = .normal pc p (p.addUnsafe fd) none := by
  simp only [pawnDbl, mem_ite_singleton, Bool.and_eq_true, decide_eq_true_eq,
    Option.isNone_iff_eq_none, and_assoc]

theorem mem_pawnFwd (g : Game) (pc : Piece) (p : Pos) (lr : Int) (nd : Int × Int) (m : Move) :
    m ∈ pawnFwd g pc p lr nd ↔
      ∃ q, p.add nd = some q ∧ g.get q = none ∧ PawnArrive g pc p q none lr m := by
  unfold pawnFwd
  cases hq : p.add nd with
  | none => simp
  | some q =>
    simp only [Option.some.injEq, exists_eq_left']
    cases hg : g.get q with
    | none => simp only [Option.isNone_none, if_true, true_and]; exact mem_arrive ..
    | some o => simp

theorem mem_pawnCap (g : Game) (pc : Piece) (p : Pos) (lr : Int) (d : Int × Int) (m : Move) :
    m ∈ pawnCap g pc p lr d ↔
      ∃ q other, p.add d = some q ∧ g.get q = some other ∧ other.owner ≠ pc.owner
        ∧ PawnArrive g pc p q (some other) lr m := by
  unfold pawnCap
  cases hq : p.add d with
  | none => simp
  | some q =>
    cases hg : g.get q with
    | none => simp [hg]
    | some o => by_cases ho : o.owner = pc.owner <;> simp [hg, ho, mem_arrive]

theorem mem_pawnEp (g : Game) (p : Pos) (er : Int) (m : Move) :
    m ∈ pawnEp g p er ↔
      p.row = er ∧ g.top.enPassant < 8 ∧ (g.top.enPassant - p.col).natAbs = 1
        ∧ m = .enPassant g.player p.col g.top.enPassant := by
  simp only [pawnEp, mem_ite_singleton, Bool.and_eq_true, decide_eq_true_eq, and_assoc]

/-- **`get_pawn_moves`, described**: double step, single step, captures, en passant -/
theorem pawnMoves_spec (g : Game) (pc : Piece) (p : Pos) (m : Move) :
    m ∈ g.pawnMoves pc p ↔
      (p.row = Spec.pawnStartRow pc.owner ∧ g.get ⟨p.row + Spec.forward pc.owner, p.col + 0⟩ = none
        ∧ g.get ⟨p.row + 2 * Spec.forward pc.owner, p.col + 0⟩ = none
        ∧ m = .normal pc p ⟨p.row + 2 * Spec.forward pc.owner, p.col + 0⟩ none)
      ∨ (∃ q, p.add (Spec.forward pc.owner, 0) = some q ∧ g.get q = none
          ∧ PawnArrive g pc p q none (Spec.lastRow pc.owner) m)
      ∨ (∃ d ∈ [(Spec.forward pc.owner, (1 : Int)), (Spec.forward pc.owner, -1)], ∃ q other,
          p.add d = some q ∧ g.get q = some other ∧ other.owner ≠ pc.owner
            ∧ PawnArrive g pc p q (some other) (Spec.lastRow pc.owner) m)
      ∨ (p.row = Spec.epFromRow pc.owner ∧ g.top.enPassant < 8 ∧ (g.top.enPassant - p.col).natAbs = 1
          ∧ m = .enPassant g.player p.col g.top.enPassant) := by
  rw [pawnMoves_eq]
  simp only [List.mem_append, or_assoc, List.mem_flatMap, mem_pawnDbl, mem_pawnFwd, mem_pawnCap,
    mem_pawnEp]
  rfl

/-! ## `get_king_moves`, described -/

/-- within one step of the enemy king's cached square: the engine's extra filter -/
def NearEnemyKing (g : Game) (q : Pos) : Prop :=
  (q.row - (g.kingPos g.player.other).row).natAbs ≤ 1 ∧
  (q.col - (g.kingPos g.player.other).col).natAbs ≤ 1

instance (g : Game) (q : Pos) : Decidable (g.NearEnemyKing q) := by
  unfold NearEnemyKing; infer_instance

def kingStep (g : Game) (pc : Piece) (p : Pos) : Int × Int → List Move :=
  g.stepMove pc p fun q =>
    (q.row - (g.kingPos g.player.other).row).natAbs ≤ 1
      && (q.col - (g.kingPos g.player.other).col).natAbs ≤ 1

def castleShort (g : Game) (ks : Bool) : List Move :=
  if ks && (g.get ⟨homeRow g.player, 5⟩).isNone && (g.get ⟨homeRow g.player, 6⟩).isNone
      && !g.isTargeted ⟨homeRow g.player, 4⟩ g.player && !g.isTargeted ⟨homeRow g.player, 5⟩ g.player
      && !g.isTargeted ⟨homeRow g.player, 6⟩ g.player then
    [Move.castlingShort g.player]
  else []

def castleLong (g : Game) (qs : Bool) : List Move :=
  if qs && (g.get ⟨homeRow g.player, 1⟩).isNone && (g.get ⟨homeRow g.player, 2⟩).isNone
      && (g.get ⟨homeRow g.player, 3⟩).isNone
      && !g.isTargeted ⟨homeRow g.player, 4⟩ g.player && !g.isTargeted ⟨homeRow g.player, 2⟩ g.player
      && !g.isTargeted ⟨homeRow g.player, 3⟩ g.player then
    [Move.castlingLong g.player]
  else []

/-- `get_king_moves` in three parts, the castling rights being those of the side to move -/
theorem kingMoves_eq (g : Game) (pc : Piece) (p : Pos) :
    g.kingMoves pc p =
      Gen.kingDeltas.flatMap (kingStep g pc p) ++ castleShort g (Spec.sideK g.abs)
        ++ castleLong g (Spec.sideQ g.abs) := by
  rcases g with ⟨score, player, ms, eg, hash, board, ps, ph, wking, bking, state⟩
  cases player <;> rfl

theorem mem_kingStep (g : Game) (pc : Piece) (p : Pos) (d : Int × Int) (m : Move) :
    m ∈ kingStep g pc p d ↔
      ∃ q, p.add d = some q ∧ NotOwn g q ∧ ¬ g.NearEnemyKing q ∧ m = .normal pc p q (g.get q) := by
  simp [kingStep, mem_stepMove, NearEnemyKing]

theorem mem_castleShort (g : Game) (ks : Bool) (m : Move) :
    m ∈ castleShort g ks ↔
      (ks = true ∧ g.get ⟨homeRow g.player, 5⟩ = none ∧ g.get ⟨homeRow g.player, 6⟩ = none
        ∧ g.isTargeted ⟨homeRow g.player, 4⟩ g.player = false
        ∧ g.isTargeted ⟨homeRow g.player, 5⟩ g.player = false
        ∧ g.isTargeted ⟨homeRow g.player, 6⟩ g.player = false) ∧ m = .castlingShort g.player := by
  simp only [castleShort, mem_ite_singleton, Bool.and_eq_true, Option.isNone_iff_eq_none,
    Bool.not_eq_true', and_assoc]

theorem mem_castleLong (g : Game) (qs : Bool) (m : Move) :
    m ∈ castleLong g qs ↔
      (qs = true ∧ g.get ⟨homeRow g.player, 1⟩ = none ∧ g.get ⟨homeRow g.player, 2⟩ = none
        ∧ g.get ⟨homeRow g.player, 3⟩ = none
        ∧ g.isTargeted ⟨homeRow g.player, 4⟩ g.player = false
        ∧ g.isTargeted ⟨homeRow g.player, 2⟩ g.player = false
        ∧ g.isTargeted ⟨homeRow g.player, 3⟩ g.player = false) ∧ m = .castlingLong g.player := by
  simp only [castleLong, mem_ite_singleton, Bool.and_eq_true, Option.isNone_iff_eq_none,
    Bool.not_eq_true', and_assoc]

/-- **`get_king_moves`, described**: the steps not onto an own piece and not next to the enemy
king's cached square; the two castlings -/
theorem kingMoves_spec (g : Game) (pc : Piece) (p : Pos) (m : Move) :
    m ∈ g.kingMoves pc p ↔
      (∃ d ∈ Gen.kingDeltas, m ∈ kingStep g pc p d)
      ∨ m ∈ castleShort g (Spec.sideK g.abs) ∨ m ∈ castleLong g (Spec.sideQ g.abs) := by
  rw [kingMoves_eq]
  simp only [List.mem_append, List.mem_flatMap, or_assoc]

/-- `Piece::get_moves` by kind: pawn, king, or one of the four described by `pieceMoves_simple_iff` -/
theorem pieceMoves_cases (g : Game) (pc : Piece) (p : Pos) :
    (pc.pieceType = .pawn ∧ g.pieceMoves pc p = g.pawnMoves pc p)
    ∨ (pc.pieceType = .king ∧ g.pieceMoves pc p = g.kingMoves pc p)
    ∨ (pc.pieceType ≠ .pawn ∧ pc.pieceType ≠ .king) := by
  unfold pieceMoves
  cases pc.pieceType <;> simp

theorem pieceMoves_pawn (g : Game) {pc : Piece} (p : Pos) (h : pc.pieceType = .pawn) :
    g.pieceMoves pc p = g.pawnMoves pc p := by
  unfold pieceMoves; rw [h]

/-! ## What every generator establishes -/

/-- a generated move fits, and the mover is the right one -/
def Good (g : Game) (m : Move) : Prop := g.Fits m ∧ g.MoverOk m

theorem normal_good {g : Game} {pc : Piece} {p q : Pos} (hp : p.Valid) (hq : q.Valid) (hne : q ≠ p)
    (hg : g.get p = some pc) (ho : pc.owner = g.player) (hk : pc.pieceType ≠ .king) :
    g.Good (.normal pc p q (g.get q)) := by
  refine ⟨⟨hp, hq, fun e => hne e.symm, hg, rfl, fun e => absurd e hk⟩, ho, fun e => absurd e hk⟩

theorem attacksFrom_self (a : Spec.APos) (pc : Piece) (s : Spec.Sq) :
    Spec.attacksFrom a pc s s = false := by
  unfold Spec.attacksFrom
  cases pc.pieceType <;> simp

theorem simpleMoves_fits {g : Game} {pc : Piece} {p : Pos} (hp : p.Valid) (hg : g.get p = some pc)
    (ho : pc.owner = g.player) (hnp : pc.pieceType ≠ .pawn) (hnk : pc.pieceType ≠ .king) :
    ∀ m ∈ pieceMoves g pc p, g.Good m := by
  intro m hm
  obtain ⟨q, hq, hatt, _, rfl⟩ := (g.pieceMoves_simple_iff hp hnp hnk m).1 hm
  refine normal_good hp hq ?_ hg ho hnk
  rintro rfl
  rw [attacksFrom_self] at hatt
  cases hatt

/-! ### kings -/

theorem kingDeltas_ne : ∀ d ∈ Gen.kingDeltas, d ≠ (0, 0) := by decide

theorem kingStep_good {g : Game} {pc : Piece} {p q : Pos} (hki : g.KingInv)
    (hp : p.Valid) (hq : q.Valid) (hne : q ≠ p) (hg : g.get p = some pc) (ho : pc.owner = g.player)
    (hk : pc.pieceType = .king) (hown : NotOwn g q) (hadj : ¬ g.NearEnemyKing q) :
    g.Good (.normal pc p q (g.get q)) := by
  refine ⟨⟨hp, hq, fun e => hne e.symm, hg, rfl, fun _ => ?_⟩, ho, fun _ c hc hck => hadj ?_⟩
  · exact hki.unique p g.player hp (piece_eq hk ho ▸ hg)
  · -- a captured king is the enemy king, and stands on its cached square
    have hc' := piece_eq hck (owner_other (hown c hc))
    rw [NearEnemyKing, hki.unique q g.player.other hq (hc' ▸ hc)]
    simp

/-- the rook's home square of a right -/
def rookHome (pl : Player) (ks : Bool) : Pos := ⟨homeRow pl, if ks then 7 else 0⟩
/-- the king's home square -/
def kingHome (pl : Player) : Pos := ⟨homeRow pl, 4⟩

/-- a castling right puts the rook and the cached king square at home, and the king if there is one -/
theorem rightsInv_right {g : Game} (h : g.RightsInv) {pl : Player} {ks : Bool}
    (hr : g.top.right pl ks = true) :
    g.get (rookHome pl ks) = some ⟨.rook, pl⟩ ∧ g.kingPos pl = kingHome pl
      ∧ (g.kingExists pl = true → g.get (kingHome pl) = some ⟨.king, pl⟩) := by
  cases pl <;> cases ks
  · exact h.wq hr
  · exact h.wk hr
  · exact h.bq hr
  · exact h.bk hr

theorem sideK_eq (g : Game) : Spec.sideK g.abs = g.top.right g.player true := by
  show (match g.player with | .white => g.top.wk | .black => g.top.bk) = _
  cases g.player <;> rfl

theorem sideQ_eq (g : Game) : Spec.sideQ g.abs = g.top.right g.player false := by
  show (match g.player with | .white => g.top.wq | .black => g.top.bq) = _
  cases g.player <;> rfl

theorem kingMoves_fits {g : Game} {pc : Piece} {p : Pos} (hw : g.WF) (hke : g.kingExists g.player = true)
    (hp : p.Valid) (hg : g.get p = some pc) (ho : pc.owner = g.player) (hk : pc.pieceType = .king) :
    ∀ m ∈ kingMoves g pc p, g.Good m := by
  intro m hm
  rcases (kingMoves_spec ..).1 hm with ⟨d, hd, hm⟩ | hm | hm
  · obtain ⟨q, hq, hown, hadj, rfl⟩ := (mem_kingStep ..).1 hm
    exact kingStep_good hw.kings hp (Pos.add_valid hq) (Pos.add_ne_self (kingDeltas_ne d hd) hq) hg ho hk
      hown hadj
  · obtain ⟨⟨hk, h5, h6, _⟩, rfl⟩ := (mem_castleShort ..).1 hm
    obtain ⟨a, b, c⟩ := rightsInv_right hw.rights (sideK_eq g ▸ hk)
    exact ⟨⟨rfl, b, c hke, a, h5, h6⟩, trivial⟩
  · obtain ⟨⟨hk, _, h2, h3, _⟩, rfl⟩ := (mem_castleLong ..).1 hm
    obtain ⟨a, b, c⟩ := rightsInv_right hw.rights (sideQ_eq g ▸ hk)
    exact ⟨⟨rfl, b, c hke, a, h3, h2⟩, trivial⟩

/-! ### pawns -/

theorem promoPieces_eq : promoPieces = [.queen, .rook, .bishop, .knight] := by decide

theorem arrive_good {g : Game} {pc : Piece} {p q : Pos} {lr : Int} {m : Move}
    (hp : p.Valid) (hq : q.Valid) (hne : q ≠ p) (hg : g.get p = some pc) (ho : pc.owner = g.player)
    (hk : pc.pieceType = .pawn) (h : PawnArrive g pc p q (g.get q) lr m) : g.Good m := by
  unfold PawnArrive at h
  split at h
  · obtain ⟨t, ht, rfl⟩ := h
    refine ⟨⟨hp, hq, fun e => hne e.symm, piece_eq hk ho ▸ hg, rfl⟩, rfl, ?_⟩
    rw [promoPieces_eq] at ht
    simpa using ht
  · subst h
    exact normal_good hp hq hne hg ho (by rw [hk]; decide)

theorem forward_ne (o : Player) (c : Int) : (Spec.forward o, c) ≠ (0, 0) :=
  fun h => by cases o <;> exact absurd (Prod.mk.inj h).1 (by decide)

theorem epInv_uniform {g : Game} (h : g.EpInv) (h8 : g.top.enPassant < 8) :
    g.get ⟨Spec.epFromRow g.player, g.top.enPassant⟩ = some ⟨.pawn, g.player.other⟩
      ∧ g.get ⟨Spec.epFromRow g.player + Spec.forward g.player, g.top.enPassant⟩ = none := by
  have := h h8
  cases hpl : g.player <;> rw [hpl] at this <;> exact this

theorem epSquares_eq (o : Player) (sc ec : Int) :
    epSquares o sc ec = (⟨Spec.epFromRow o, sc⟩, ⟨Spec.epFromRow o + Spec.forward o, ec⟩,
      ⟨Spec.epFromRow o, ec⟩) := by
  cases o <;> rfl

theorem pawnMoves_fits {g : Game} {pc : Piece} {p : Pos} (hw : g.WF)
    (hp : p.Valid) (hg : g.get p = some pc) (ho : pc.owner = g.player) (hk : pc.pieceType = .pawn) :
    ∀ m ∈ pawnMoves g pc p, g.Good m := by
  intro m hm
  have hpv := hp
  unfold Pos.Valid at hpv
  have hsc := side_consts pc.owner
  rcases (pawnMoves_spec ..).1 hm with ⟨hr, _, hn, rfl⟩ | ⟨q, hq, hn, harr⟩
      | ⟨d, hd, q, o, hq, hgo, _, harr⟩ | ⟨hr, h8, habs, rfl⟩
  · rw [← hn]
    refine normal_good hp ?_ (fun e => ?_) hg ho (by rw [hk]; decide)
    · unfold Pos.Valid
      simp only; omega
    · have := congrArg Pos.row e
      simp only at this; omega
  · rw [← hn] at harr
    exact arrive_good hp (Pos.add_valid hq) (Pos.add_ne_self (forward_ne _ _) hq) hg ho hk harr
  · rw [← hgo] at harr
    simp only [List.mem_cons, List.not_mem_nil, or_false] at hd
    refine arrive_good hp (Pos.add_valid hq) (Pos.add_ne_self ?_ hq) hg ho hk harr
    rcases hd with rfl | rfl <;> exact forward_ne _ _
  · -- en passant: `EpInv` backs the recorded file by the enemy pawn and the empty square behind it
    obtain ⟨hb, he⟩ := epInv_uniform hw.epInv h8
    have h0 := hw.ep.1
    rw [ho] at hr
    refine ⟨?_, rfl, rfl⟩
    simp only [Fits, epSquares_eq, ← hr]
    exact ⟨hpv.2.2.1, hpv.2.2.2, h0, h8, by omega, piece_eq hk ho ▸ hg, hr ▸ he, hr ▸ hb⟩

/-! ### all pieces, all squares -/

theorem pieceMoves_fits {g : Game} {pc : Piece} {p : Pos} (hw : g.WF) (hke : g.kingExists g.player = true)
    (hp : p.Valid) (hg : g.get p = some pc) (ho : pc.owner = g.player) :
    ∀ m ∈ pieceMoves g pc p, g.Good m := by
  rcases pieceMoves_cases g pc p with ⟨hk, e⟩ | ⟨hk, e⟩ | ⟨hnp, hnk⟩
  · rw [e]; exact pawnMoves_fits hw hp hg ho hk
  · rw [e]; exact kingMoves_fits hw hke hp hg ho hk
  · exact simpleMoves_fits hp hg ho hnp hnk

theorem mem_pseudoMoves {g : Game} {m : Move} :
    m ∈ g.pseudoMoves ↔ g.kingExists g.player = true ∧
      ∃ p pc, p.Valid ∧ g.get p = some pc ∧ pc.owner = g.player ∧ m ∈ pieceMoves g pc p := by
  unfold pseudoMoves
  cases hke : g.kingExists g.player
  · simp
  · simp only [Bool.not_true, Bool.false_eq_true, if_false, List.mem_flatMap, true_and]
    constructor
    · rintro ⟨p, hp, hm⟩
      split at hm
      · rename_i pc hg
        split at hm
        · rename_i ho; exact ⟨p, pc, allSquares_valid hp, hg, ho, hm⟩
        · simp at hm
      · simp at hm
    · rintro ⟨p, pc, hp, hg, ho, hm⟩
      refine ⟨p, mem_allSquares hp, ?_⟩
      rw [hg]
      simp only [ho, if_true]
      exact hm

/-- **every generated move fits the game it was generated in, and the mover is right** -/
theorem generated_fits {g : Game} (hw : g.WF) {m : Move} (hm : m ∈ g.pseudoMoves) :
    g.Fits m ∧ g.MoverOk m := by
  obtain ⟨hke, p, pc, hp, hg, ho, hm⟩ := mem_pseudoMoves.1 hm
  exact pieceMoves_fits hw hke hp hg ho m hm


/-! ### the legality filter is pure -/

/-- the test the filter applies to one candidate, in the game `g` -/
def keeps (pl : Player) (kp : Pos) (kt : Bool) (g : Game) (m : Move) : Bool :=
  (!kt && skipsCheck kp m) || !(g.push m).isTargeted ((g.push m).kingPos pl) pl

theorem filterMoves_nil (pl : Player) (kp : Pos) (kt : Bool) (g : Game) :
    filterMoves pl kp kt g [] = ([], g) := rfl

theorem filterMoves_cons (pl : Player) (kp : Pos) (kt : Bool) (g : Game) (m : Move) (ms : List Move) :
    filterMoves pl kp kt g (m :: ms) =
      if (!kt && skipsCheck kp m) = true then
        (m :: (filterMoves pl kp kt g ms).1, (filterMoves pl kp kt g ms).2)
      else
        (if (!(g.push m).isTargeted ((g.push m).kingPos pl) pl) = true
          then m :: (filterMoves pl kp kt ((g.push m).pop m) ms).1
          else (filterMoves pl kp kt ((g.push m).pop m) ms).1,
         (filterMoves pl kp kt ((g.push m).pop m) ms).2) := by
  rw [filterMoves]

/-- the filter only drops candidates, whatever the game it is run in -/
theorem filterMoves_sublist_any (pl : Player) (kp : Pos) (kt : Bool) (ms : List Move) :
    ∀ g : Game, (filterMoves pl kp kt g ms).1.Sublist ms := by
  induction ms with
  | nil => exact fun _ => .slnil
  | cons a ms ih =>
    intro g
    rw [filterMoves_cons]
    split
    · exact (ih _).cons_cons a
    · split
      · exact (ih _).cons_cons a
      · exact (ih _).cons a

/-- on candidates that fit, the filter is `List.filter` and hands the game back unchanged -/
theorem filterMoves_eq (pl : Player) (kp : Pos) (kt : Bool) (g : Game) (hc : g.CacheInv) :
    ∀ ms : List Move, (∀ m ∈ ms, g.Fits m) →
      filterMoves pl kp kt g ms = (ms.filter (keeps pl kp kt g), g) := by
  intro ms
  induction ms with
  | nil => intro _; rfl
  | cons m ms ih =>
    intro hf
    have hm : g.Fits m := hf m (List.mem_cons_self ..)
    have ih' := ih (fun x hx => hf x (List.mem_cons_of_mem _ hx))
    rw [filterMoves_cons, pop_push g m hm hc, ih']
    simp only [List.filter_cons, keeps]
    by_cases h1 : (!kt && skipsCheck kp m) = true
    · simp only [h1, if_true, Bool.true_or]
    · rw [Bool.not_eq_true] at h1
      simp only [h1, Bool.false_or, Bool.false_eq_true, if_false]

theorem filterMoves_pure (pl : Player) (kp : Pos) (kt : Bool) (g : Game) (hc : g.CacheInv)
    (ms : List Move) (hf : ∀ m ∈ ms, g.Fits m) : (filterMoves pl kp kt g ms).2 = g := by
  rw [filterMoves_eq pl kp kt g hc ms hf]

theorem filterMoves_sublist (pl : Player) (kp : Pos) (kt : Bool) (g : Game) (hc : g.CacheInv)
    (ms : List Move) (hf : ∀ m ∈ ms, g.Fits m) : (filterMoves pl kp kt g ms).1.Sublist ms :=
  filterMoves_sublist_any pl kp kt ms g

/-! ### `get_moves` -/

theorem getMoves_false (g : Game) : g.getMoves false = (g.pseudoMoves, g) := by
  simp [getMoves]

theorem getMoves_true {g : Game} (hw : g.WF) :
    g.getMoves true =
      (g.pseudoMoves.filter
        (keeps g.player (g.kingPos g.player) (g.isTargeted (g.kingPos g.player) g.player) g), g) := by
  unfold getMoves
  simp only [if_true]
  exact filterMoves_eq _ _ _ g hw.cache _ (fun m hm => (generated_fits hw hm).1)

/-- **the move query changes nothing** -/
theorem getMoves_pure {g : Game} (hw : g.WF) (b : Bool) : (g.getMoves b).2 = g := by
  cases b
  · rw [getMoves_false]
  · rw [getMoves_true hw]

/-- **every checked move is an unchecked move** -/
theorem checked_sublist_unchecked {g : Game} (hw : g.WF) :
    (g.getMoves true).1.Sublist (g.getMoves false).1 := by
  rw [getMoves_true hw, getMoves_false]
  exact List.filter_sublist

theorem getMoves_subset_any (g : Game) (v : Bool) : ∀ m ∈ (g.getMoves v).1, m ∈ g.pseudoMoves := by
  intro m hm
  unfold getMoves at hm
  simp only at hm
  split at hm
  · exact (filterMoves_sublist_any _ _ _ _ _).subset hm
  · exact hm

theorem getMoves_subset {g : Game} (_hw : g.WF) (b : Bool) {m : Move} (hm : m ∈ (g.getMoves b).1) :
    m ∈ g.pseudoMoves :=
  getMoves_subset_any g b m hm

theorem getMoves_fits {g : Game} (hw : g.WF) (b : Bool) {m : Move} (hm : m ∈ (g.getMoves b).1) :
    g.Fits m ∧ g.MoverOk m :=
  generated_fits hw (getMoves_subset hw b hm)

/-- **which candidates survive the filter** -/
theorem mem_checked_iff {g : Game} (hw : g.WF) (m : Move) :
    m ∈ (g.getMoves true).1 ↔
      m ∈ g.pseudoMoves ∧
        ((!g.isTargeted (g.kingPos g.player) g.player && skipsCheck (g.kingPos g.player) m) = true
          ∨ ¬ (g.push m).isTargeted ((g.push m).kingPos g.player) g.player = true) := by
  rw [getMoves_true hw]
  simp only [List.mem_filter, keeps, Bool.or_eq_true, Bool.not_eq_true', Bool.not_eq_true]

end Game
end Chess

#print axioms Chess.Game.generated_fits
#print axioms Chess.Game.getMoves_pure
#print axioms Chess.Game.checked_sublist_unchecked
#print axioms Chess.Game.mem_checked_iff
