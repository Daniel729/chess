import Chess.Model.Go
import Chess.Lemmas.Budget

/-!
# The argument loop of `command_go`: whatever words follow `go`, the parsed values are `u64`s
(`u8` for the depth) and the allotment obeys the bounds of `Budget.lean`.
-/
namespace Chess.Uci

theorem parseUnsigned_le {max : Nat} {s : List Char} {v : Nat} (h : parseUnsigned max s = some v) :
    v ≤ max := by
  unfold parseUnsigned at h
  simp only at h
  generalize stripPlus s = ds at h
  split at h
  · cases h
  · split at h
    · split at h
      · cases h; assumption
      · cases h
    · cases h

/-- every field holds a value of its Rust type -/
def GoArgs.Fit (a : GoArgs) : Prop :=
  (∀ w, a.wtime = some w → w ≤ u64Max) ∧ (∀ w, a.btime = some w → w ≤ u64Max) ∧
  (∀ w, a.winc = some w → w ≤ u64Max) ∧ (∀ w, a.binc = some w → w ≤ u64Max) ∧
  (∀ w, a.depth = some w → w ≤ 255) ∧ (∀ w, a.movetime = some w → w ≤ u64Max)

theorem bind_parse_le {max : Nat} {v : Option (List Char)} {w : Nat}
    (h : v.bind (parseUnsigned max) = some w) : w ≤ max := by
  cases v with
  | none => cases h
  | some s => exact parseUnsigned_le h

theorem GoArgs.set_fit {a : GoArgs} (h : a.Fit) (k : GoKey) (v : Option (List Char)) : (a.set k v).Fit := by
  obtain ⟨h1, h2, h3, h4, h5, h6⟩ := h
  -- every field is either untouched or freshly parsed
  cases k <;> simp only [GoArgs.set, GoArgs.Fit] <;> refine ⟨?_, ?_, ?_, ?_, ?_, ?_⟩ <;>
    first | assumption | exact fun w hw => bind_parse_le hw

theorem goStep_fit {s : GoArgs × Option GoKey} (h : s.1.Fit) (t : List Char) : (goStep s t).1.Fit := by
  unfold goStep
  split
  · exact GoArgs.set_fit h _ _
  · split
    · exact GoArgs.set_fit h _ _
    · split
      · exact h
      · exact h

theorem foldl_goStep_fit (ts : List (List Char)) (s : GoArgs × Option GoKey) (h : s.1.Fit) :
    (ts.foldl goStep s).1.Fit := by
  induction ts generalizing s with
  | nil => exact h
  | cons t ts ih => exact ih _ (goStep_fit h t)

/-- **for every word list** the parsed arguments are values of their Rust types -/
theorem goArgs_fit (ts : List (List Char)) : (goArgs ts).Fit :=
  foldl_goStep_fit ts _ ⟨nofun, nofun, nofun, nofun, nofun, nofun⟩

/-- **C13 over the raw command**: whatever follows `go`, an armed timer is armed for at most the
fixed move time if one was understood, else for at most the mover's own clock (which then was
understood together with the other three clock parameters), and the value is a `u64`. -/
theorem goBudget_bounded (ts : List (List Char)) (side : Player) (share : Nat → Nat) {t : Nat}
    (h : goBudget ts side share = some t) :
    (∀ mt, (goArgs ts).movetime = some mt → t ≤ mt) ∧
    ((goArgs ts).movetime = none → ∃ wt bt, (goArgs ts).wtime = some wt ∧ (goArgs ts).btime = some bt ∧
        t ≤ ownClock side wt bt - Gen.latencyMs - Gen.sleepCutMs) ∧
    t ≤ u64Max ∧ (goArgs ts).infinite = false := by
  unfold goBudget at h
  simp only at h
  have hfit := goArgs_fit ts
  generalize goArgs ts = a at h hfit
  obtain ⟨f1, f2, _, _, _, f6⟩ := hfit
  refine ⟨?_, ?_, budget_result_fits_u64 f1 f2 f6 h, ?_⟩
  · intro mt hm; rw [hm] at h; exact budget_le_movetime h
  · intro hm
    rw [hm] at h
    cases hw : a.wtime <;> cases hb : a.btime <;> cases hwi : a.winc <;> cases hbi : a.binc <;>
      rw [hw, hb, hwi, hbi] at h <;> try (simp [budget] at h; done)
    exact ⟨_, _, rfl, rfl, budget_le_clock_sub h⟩
  · cases hi : a.infinite
    · rfl
    · rw [hi] at h
      have := (budget_none_iff a.wtime a.btime a.winc a.binc a.movetime true side share).2 (Or.inl rfl)
      rw [this] at h; cases h

/-- no timer is armed exactly when `infinite` was seen or neither a move time nor a complete
clock was understood -/
theorem goBudget_none_iff (ts : List (List Char)) (side : Player) (share : Nat → Nat) :
    goBudget ts side share = none ↔
      (goArgs ts).infinite = true ∨ ((goArgs ts).movetime = none ∧
        ((goArgs ts).wtime = none ∨ (goArgs ts).btime = none ∨ (goArgs ts).winc = none ∨ (goArgs ts).binc = none)) :=
  budget_none_iff _ _ _ _ _ _ _ _

/-- the depth limit handed to the search is between 1 and the engine's maximum, for every word list -/
theorem goLimit_range (ts : List (List Char)) : 1 ≤ goLimit ts ∧ goLimit ts ≤ Search.maxDepth := by
  unfold goLimit
  have : 1 ≤ Search.maxDepth := by decide
  omega

-- the loop on concrete commands (tests): last occurrence wins, a bad value resets, a trailing keyword resets
example : goArgs (splitWs "wtime 100 btime 200 winc 1 binc 2".toList)
    = { wtime := some 100, btime := some 200, winc := some 1, binc := some 2 } := by decide
example : (goArgs (splitWs "wtime 100 wtime x".toList)).wtime = none := by decide
example : (goArgs (splitWs "movetime 50 movetime".toList)).movetime = none := by decide
example : (goArgs (splitWs "depth 256".toList)).depth = none := by decide
example : (goArgs (splitWs "depth +7 infinite junk".toList)) = { depth := some 7, infinite := true } := by decide
example : (goArgs (splitWs "wtime -5".toList)).wtime = none := by decide
example : (goArgs (splitWs "wtime 18446744073709551616".toList)).wtime = none := by decide
example : (goArgs (splitWs "wtime 18446744073709551615".toList)).wtime = some 18446744073709551615 := by decide
example : (goArgs (splitWs "wtime infinite btime 5".toList)) = { btime := some 5 } := by decide

end Chess.Uci
