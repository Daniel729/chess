import Chess.Lemmas.Generated
import Chess.Lemmas.RefineBits

/-!
# The representation invariant `WF` is preserved by playing a move

The induction step of "for all reachable games": `push_wf`, `updatePhase_wf`, `pushHistory_wf`.
`push` is read as a list of board writes (`Bounds.writes`) inside a wrapper that flips the side and
pushes the new state byte; each part of `WF` is argued over that list.

Two hypotheses beyond `Fits`/`MoverOk` are needed, both facts about every generated move
(`getMoves_extraOk`):

* `PawnDoubleOk g m` — a two-row pawn step is the double push from the first row, straight ahead, over
  an empty square (needed by `push_epInv`);
* `KingStepOk g m` — a king step does not land on the cached square of the other king (needed by
  `push_rightsInv`; `MoverOk`'s "a king never captures a king" does not cover the case where the other
  king has already been captured on an unchecked line and its cached home square is empty).
-/
namespace Chess
namespace Game

/-! ### the two extra hypotheses -/

/-- what the generator guarantees about a two-row pawn step: it is the double push from the
first row, straight ahead, over an empty square (`get_pawn_moves` produces a two-row step only
that way).  Not implied by `Fits`/`MoverOk`. -/
def PawnDoubleOk (g : Game) : Move → Prop
  | .normal pc start stop _ =>
    pc.pieceType = .pawn → (stop.row - start.row).natAbs = 2 →
      stop.col = start.col ∧
        match g.player with
        | .white => start.row = 1 ∧ stop.row = 3 ∧ g.get ⟨2, start.col⟩ = none
        | .black => start.row = 6 ∧ stop.row = 4 ∧ g.get ⟨5, start.col⟩ = none
  | _ => True

/-- a generated king step never lands on the cached square of the other king (`get_king_moves`
skips every square within one step of it).  Not implied by `MoverOk`: see `push_rightsInv`. -/
def KingStepOk (g : Game) : Move → Prop
  | .normal pc _ stop _ => pc.pieceType = .king → stop ≠ g.kingPos g.player.other
  | _ => True

/-- both extra hypotheses at once -/
def ExtraOk (g : Game) (m : Move) : Prop := PawnDoubleOk g m ∧ g.KingStepOk m

/-! ### `wrapPush` touches only side, hash and state stack -/

section wrap
variable (g1 : Game) (s : GState)
@[simp] theorem wrapPush_player : (wrapPush g1 s).player = g1.player.other := rfl
@[simp] theorem wrapPush_state : (wrapPush g1 s).state = s :: g1.state := rfl
@[simp] theorem wrapPush_top : (wrapPush g1 s).top = s := rfl
@[simp] theorem wrapPush_board : (wrapPush g1 s).board = g1.board := rfl
@[simp] theorem wrapPush_pastHashes : (wrapPush g1 s).pastHashes = g1.pastHashes := rfl
@[simp] theorem wrapPush_pastScores : (wrapPush g1 s).pastScores = g1.pastScores := rfl
@[simp] theorem wrapPush_endgame : (wrapPush g1 s).endgame = g1.endgame := rfl
@[simp] theorem wrapPush_moveStack : (wrapPush g1 s).moveStack = g1.moveStack := rfl
@[simp] theorem wrapPush_wking : (wrapPush g1 s).wking = g1.wking := rfl
@[simp] theorem wrapPush_bking : (wrapPush g1 s).bking = g1.bking := rfl
@[simp] theorem wrapPush_score : (wrapPush g1 s).score = g1.score := rfl
@[simp] theorem wrapPush_get (q : Pos) : (wrapPush g1 s).get q = g1.get q := rfl
@[simp] theorem wrapPush_kingPos (pl : Player) : (wrapPush g1 s).kingPos pl = g1.kingPos pl := by
  cases pl <;> rfl
theorem wrapPush_hash :
    (wrapPush g1 s).hash = g1.hash ^^^ Gen.blackToMove ^^^ g1.top.hash ^^^ s.hash := rfl
end wrap

/-- the new state byte computed by `push` -/
def pushState (g : Game) (m : Move) : GState := (applyMove g m (g.top.setEnPassant 8)).2

theorem push_eq (g : Game) (m : Move) : g.push m = wrapPush (applyMoveG g m) (pushState g m) := by
  rw [push_eq_wrap, applyMove_fst]; rfl

@[simp] theorem push_top (g : Game) (m : Move) : (g.push m).top = pushState g m := by
  rw [push_eq]; rfl
@[simp] theorem push_player' (g : Game) (m : Move) : (g.push m).player = (applyMoveG g m).player.other := by
  rw [push_eq]; rfl
theorem push_get (g : Game) (m : Move) (q : Pos) : (g.push m).get q = (applyMoveG g m).get q := by
  rw [push_eq]; rfl
theorem push_kingPos (g : Game) (m : Move) (pl : Player) :
    (g.push m).kingPos pl = (applyMoveG g m).kingPos pl := by
  rw [push_eq]; simp

/-! ### the board part of `push`: fields it does not touch -/

@[simp] theorem applyMoveG_player (g : Game) (m : Move) : (applyMoveG g m).player = g.player := by
  cases m <;> simp only [applyMoveG] <;> (try split) <;> simp
@[simp] theorem applyMoveG_state (g : Game) (m : Move) : (applyMoveG g m).state = g.state := by
  cases m <;> simp only [applyMoveG] <;> (try split) <;> simp
@[simp] theorem applyMoveG_endgame (g : Game) (m : Move) : (applyMoveG g m).endgame = g.endgame := by
  cases m <;> simp only [applyMoveG] <;> (try split) <;> simp
@[simp] theorem applyMoveG_moveStack (g : Game) (m : Move) : (applyMoveG g m).moveStack = g.moveStack := by
  cases m <;> simp only [applyMoveG] <;> (try split) <;> simp
@[simp] theorem applyMoveG_top (g : Game) (m : Move) : (applyMoveG g m).top = g.top := by
  simp [top]

@[simp] theorem push_player (g : Game) (m : Move) : (g.push m).player = g.player.other := by simp
@[simp] theorem push_state (g : Game) (m : Move) : (g.push m).state = pushState g m :: g.state := by
  rw [push_eq]; simp
@[simp] theorem push_endgame (g : Game) (m : Move) : (g.push m).endgame = g.endgame := by
  rw [push_eq]; simp
@[simp] theorem push_moveStack (g : Game) (m : Move) : (g.push m).moveStack = g.moveStack := by
  rw [push_eq]; simp

/-! ### the caches stay consistent; the residues (what of `hash` / `score` is not placement) -/

theorem push_cacheInv {g : Game} {m : Move} (hc : g.CacheInv) (hf : g.Fits m) : (g.push m).CacheInv := by
  rw [push_eq, applyMoveG_eq]
  exact cacheInv_congr (by simp) (by simp) (by simp) (by simp) (setMany_cacheInv g _ (Bounds.writes_valid hf) hc)

/-- the score stays the sum of the cached contributions -/
theorem push_resScore {g : Game} {m : Move} (hf : g.Fits m) : (g.push m).resScore = g.resScore := by
  rw [push_eq, applyMoveG_eq]
  exact (setKingPos_resScore ..).trans (setMany_frame g _ (Bounds.writes_valid hf)).2.1

theorem push_resHash {g : Game} {m : Move} (hf : g.Fits m) :
    (g.push m).resHash = g.resHash ^^^ Gen.blackToMove ^^^ g.top.hash ^^^ (g.push m).top.hash := by
  have h : (applyMoveG g m).resHash = g.resHash := by
    rw [applyMoveG_eq, setKingPos_resHash]
    exact (setMany_frame g _ (Bounds.writes_valid hf)).1
  rw [← h, push_top, push_eq]
  unfold resHash
  rw [wrapPush_hash, wrapPush_pastHashes, applyMoveG_top]
  generalize Gen.blackToMove = c
  generalize (applyMoveG g m).hash = a
  generalize xorAll (applyMoveG g m).pastHashes = b
  generalize g.top.hash = d
  generalize (pushState g m).hash = e
  ac_rfl

theorem push_hash_inv {g : Game} {m : Move} (hw : g.WF) (hf : g.Fits m) :
    (g.push m).resHash = (if (g.push m).player = .black then Gen.blackToMove else 0) ^^^ (g.push m).top.hash := by
  rw [push_resHash hf, hw.resHash, push_player]
  generalize (g.push m).top.hash = a
  generalize g.top.hash = b
  generalize Gen.blackToMove = c
  cases g.player <;> simp only [Player.other, if_true, reduceCtorEq, if_false]
  · rw [UInt64.zero_xor, UInt64.xor_comm b c, UInt64.xor_assoc c b b, UInt64.xor_self, UInt64.xor_zero]
  · rw [UInt64.xor_assoc (c ^^^ b) c b, UInt64.xor_self]

/-! ### score and hash of a well-formed game, from the residues -/

theorem wf_score_sum {g : Game} (hw : g.WF) : g.score = sumAll g.pastScores := by
  have := hw.resScore
  unfold resScore at this
  omega

theorem wf_hash_sum {g : Game} (hw : g.WF) :
    g.hash = xorAll g.pastHashes ^^^ (if g.player = .black then Gen.blackToMove else 0) ^^^ g.top.hash := by
  have h := hw.resHash
  unfold resHash at h
  rw [UInt64.xor_assoc, ← h, UInt64.xor_comm g.hash, ← UInt64.xor_assoc, UInt64.xor_self, UInt64.zero_xor]

end Game

/-! ### the state byte -/

theorem GState.enPassant_nonneg (s : GState) : 0 ≤ s.enPassant := by
  unfold GState.enPassant; omega

section
open GState

/-- the four castling rights, so that the invariant can be argued once -/
inductive CR where
  | wk | wq | bk | bq
  deriving DecidableEq

namespace CR
def has (r : CR) (s : GState) : Bool :=
  match r with
  | wk => s.wk | wq => s.wq | bk => s.bk | bq => s.bq
def owner : CR → Player
  | wk => .white | wq => .white | bk => .black | bq => .black
def rookSq : CR → Pos
  | wk => ⟨0, 7⟩ | wq => ⟨0, 0⟩ | bk => ⟨7, 7⟩ | bq => ⟨7, 0⟩
/-- the byte without the right -/
def clear : CR → GState → GState
  | wk => clearWk | wq => clearWq | bk => clearBk | bq => clearBq

theorem rookSq_valid (r : CR) : r.rookSq.Valid := by cases r <;> decide
theorem rookSq_col (r : CR) : r.rookSq.col = 0 ∨ r.rookSq.col = 7 := by cases r <;> simp [rookSq]

theorem has_clear (r r' : CR) (s : GState) : r.has (r'.clear s) = (r.has s && decide (r ≠ r')) := by
  cases r <;> cases r' <;> simp [has, clear]

@[simp] theorem clear_enPassant (r : CR) (s : GState) : (r.clear s).enPassant = s.enPassant := by
  cases r <;> simp [clear]

theorem rookSq_inj {r r' : CR} (h : r.rookSq = r'.rookSq) : r = r' := by
  cases r <;> cases r' <;> first | rfl | exact absurd h (by decide)

theorem has_setEnPassant (r : CR) (s : GState) (v : Int) (h0 : 0 ≤ v) (h8 : v ≤ 8) :
    r.has (s.setEnPassant v) = r.has s := by
  obtain ⟨h1, h2, h3, h4, -⟩ := setEnPassant_spec s v h0 h8
  cases r <;> simp only [has] <;> assumption

end CR

namespace Game

@[simp] theorem clearBoth_enPassant (s : GState) (pl : Player) : (clearBoth s pl).enPassant = s.enPassant := by
  cases pl <;> simp [clearBoth]

theorem has_clearBoth (r : CR) (s : GState) (pl : Player) :
    r.has (clearBoth s pl) = (r.has s && decide (r.owner ≠ pl)) := by
  cases r <;> cases pl <;> simp [CR.has, CR.owner, clearBoth]

/-- a rook leaving a home square costs the right of that square, and nothing else -/
theorem clearRookFrom_cases (s : GState) (p : Pos) :
    (∃ r : CR, p = r.rookSq ∧ clearRookFrom s p = r.clear s) ∨ ((∀ r : CR, p ≠ r.rookSq) ∧ clearRookFrom s p = s) := by
  unfold clearRookFrom
  by_cases h1 : p = pos Gen.whiteQueenRook
  · exact .inl ⟨.wq, h1, if_pos h1⟩
  rw [if_neg h1]
  by_cases h2 : p = pos Gen.whiteKingRook
  · exact .inl ⟨.wk, h2, if_pos h2⟩
  rw [if_neg h2]
  by_cases h3 : p = pos Gen.blackQueenRook
  · exact .inl ⟨.bq, h3, if_pos h3⟩
  rw [if_neg h3]
  by_cases h4 : p = pos Gen.blackKingRook
  · exact .inl ⟨.bk, h4, if_pos h4⟩
  · exact .inr ⟨fun r => by cases r <;> assumption, if_neg h4⟩

theorem clearCaptured_cases (s : GState) (cap : Option Piece) (p : Pos) :
    (∃ r : CR, cap = some ⟨.rook, r.owner⟩ ∧ p = r.rookSq ∧ clearCaptured s cap p = r.clear s)
      ∨ ((∀ r : CR, ¬(cap = some ⟨.rook, r.owner⟩ ∧ p = r.rookSq)) ∧ clearCaptured s cap p = s) := by
  unfold clearCaptured
  by_cases hw : cap = some ⟨.rook, .white⟩
  · rw [if_pos hw, if_neg (by rw [hw]; decide)]
    by_cases h1 : p = pos Gen.whiteQueenRook
    · exact .inl ⟨.wq, hw, h1, if_pos h1⟩
    rw [if_neg h1]
    by_cases h2 : p = pos Gen.whiteKingRook
    · exact .inl ⟨.wk, hw, h2, if_pos h2⟩
    · exact .inr ⟨fun r h => by cases r <;> first | exact absurd h.2 ‹_› | exact absurd (hw ▸ h.1) (by decide),
        if_neg h2⟩
  rw [if_neg hw]
  by_cases hb : cap = some ⟨.rook, .black⟩
  · rw [if_pos hb]
    by_cases h1 : p = pos Gen.blackQueenRook
    · exact .inl ⟨.bq, hb, h1, if_pos h1⟩
    rw [if_neg h1]
    by_cases h2 : p = pos Gen.blackKingRook
    · exact .inl ⟨.bk, hb, h2, if_pos h2⟩
    · exact .inr ⟨fun r h => by cases r <;> first | exact absurd h.2 ‹_› | exact absurd (hb ▸ h.1) (by decide),
        if_neg h2⟩
  · exact .inr ⟨fun r h => by cases r <;> first | exact hw h.1 | exact hb h.1, if_neg hb⟩

/-- in terms of the rooks' home squares, as the engine tests them -/
theorem has_clear_eq (r r' : CR) (s : GState) :
    r.has (r'.clear s) = (r.has s && !decide (r'.rookSq = r.rookSq)) := by
  rw [CR.has_clear]
  by_cases hr : r = r'
  · simp [hr]
  · have : r'.rookSq ≠ r.rookSq := fun h => hr (CR.rookSq_inj h).symm
    simp [hr, this]

theorem has_clearRookFrom_eq (r : CR) (s : GState) (p : Pos) :
    r.has (clearRookFrom s p) = (r.has s && !decide (p = r.rookSq)) := by
  rcases clearRookFrom_cases s p with ⟨r', rfl, e⟩ | ⟨h, e⟩ <;> rw [e]
  · exact has_clear_eq r r' s
  · simp [h r]

theorem has_clearCaptured_eq (r : CR) (s : GState) (cap : Option Piece) (p : Pos) :
    r.has (clearCaptured s cap p)
      = (r.has s && !(decide (cap = some ⟨.rook, r.owner⟩) && decide (p = r.rookSq))) := by
  rcases clearCaptured_cases s cap p with ⟨r', rfl, rfl, e⟩ | ⟨h, e⟩ <;> rw [e]
  · rw [has_clear_eq]
    by_cases hr : r'.rookSq = r.rookSq
    · simp [CR.rookSq_inj hr]
    · simp [hr]
  · have := not_and.1 (h r)
    by_cases hc : cap = some ⟨.rook, r.owner⟩
    · simp [hc, this hc]
    · simp [hc]

@[simp] theorem clearRookFrom_enPassant (s : GState) (p : Pos) : (clearRookFrom s p).enPassant = s.enPassant := by
  rcases clearRookFrom_cases s p with ⟨r, -, h⟩ | ⟨-, h⟩ <;> rw [h]
  exact r.clear_enPassant s

@[simp] theorem clearCaptured_enPassant (s : GState) (c : Option Piece) (p : Pos) :
    (clearCaptured s c p).enPassant = s.enPassant := by
  rcases clearCaptured_cases s c p with ⟨r, -, -, h⟩ | ⟨-, h⟩ <;> rw [h]
  exact r.clear_enPassant s

/-- the byte before the double-step test -/
def midState (g : Game) (pc : Piece) (start stop : Pos) (cap : Option Piece) : GState :=
  clearCaptured
    (if pc.pieceType = .king then clearBoth (g.top.setEnPassant 8) g.player
     else if pc.pieceType = .rook then clearRookFrom (g.top.setEnPassant 8) start
     else g.top.setEnPassant 8) cap stop

theorem pushState_normal (g : Game) (pc : Piece) (start stop : Pos) (cap : Option Piece) :
    pushState g (.normal pc start stop cap) = midState g pc start stop cap
    ∨ (pc.pieceType = .pawn ∧ (stop.row - start.row).natAbs = 2
        ∧ pushState g (.normal pc start stop cap) = (midState g pc start stop cap).setEnPassant start.col) := by
  unfold pushState applyMove midState
  by_cases hk : pc.pieceType = .king
  · simp only [hk, if_true, reduceCtorEq, Bool.false_and, decide_false, Bool.false_eq_true, if_false,
      setPosition_player, true_or]
  by_cases hr : pc.pieceType = .rook
  · simp only [hr, if_true, reduceCtorEq, Bool.false_and, decide_false, Bool.false_eq_true, if_false, true_or]
  simp only [hk, hr, if_false]
  split
  · rename_i h
    simp only [Bool.and_eq_true, decide_eq_true_eq] at h
    generalize (_ || _ : Bool) = b
    cases b
    · exact Or.inl rfl
    · exact Or.inr ⟨h.1, h.2, rfl⟩
  · exact Or.inl rfl

/-! ### the state byte after each kind of move -/

theorem pushState_promotion (g : Game) (o : Player) (t : PieceType) (start stop : Pos) (cap : Option Piece) :
    pushState g (.promotion o t start stop cap) = clearCaptured (g.top.setEnPassant 8) cap stop := rfl

theorem pushState_enPassant (g : Game) (o : Player) (sc ec : Int) :
    pushState g (.enPassant o sc ec) = g.top.setEnPassant 8 := by
  cases o <;> rfl

theorem pushState_castlingShort (g : Game) (o : Player) :
    pushState g (.castlingShort o) = clearBoth (g.top.setEnPassant 8) g.player := by
  simp only [pushState, applyMove, setPosition_player]

theorem pushState_castlingLong (g : Game) (o : Player) :
    pushState g (.castlingLong o) = clearBoth (g.top.setEnPassant 8) g.player := by
  simp only [pushState, applyMove, setPosition_player]

theorem midState_enPassant (g : Game) (pc : Piece) (start stop : Pos) (cap : Option Piece) :
    (midState g pc start stop cap).enPassant = 8 := by
  have h8 := (GState.setEnPassant_spec g.top 8 (by omega) (by omega)).2.2.2.2
  unfold midState
  rw [clearCaptured_enPassant]
  split
  · rw [clearBoth_enPassant, h8]
  · split
    · rw [clearRookFrom_enPassant, h8]
    · exact h8

theorem pushState_enPassant_cases {g : Game} {m : Move} (hf : g.Fits m) :
    (pushState g m).enPassant = 8 ∨
      ∃ pc start stop cap, m = .normal pc start stop cap ∧ pc.pieceType = .pawn
        ∧ (stop.row - start.row).natAbs = 2 ∧ (pushState g m).enPassant = start.col := by
  cases m with
  | normal pc start stop cap =>
    obtain ⟨hs, -⟩ := hf
    rcases pushState_normal g pc start stop cap with h | ⟨h1, h2, h3⟩
    · left; rw [h, midState_enPassant]
    · right
      refine ⟨pc, start, stop, cap, rfl, h1, h2, ?_⟩
      rw [h3]
      exact (GState.setEnPassant_spec _ _ hs.2.2.1 (by have := hs.2.2.2; omega)).2.2.2.2
  | _ =>
    have h8 := (GState.setEnPassant_spec g.top 8 (by omega) (by omega)).2.2.2.2
    exact .inl (by simp [pushState_promotion, pushState_enPassant, pushState_castlingShort, pushState_castlingLong, h8])

theorem push_top_ep {g : Game} {m : Move} (hf : g.Fits m) :
    0 ≤ (g.push m).top.enPassant ∧ (g.push m).top.enPassant ≤ 8 := by
  rw [push_top]
  refine ⟨GState.enPassant_nonneg _, ?_⟩
  rcases pushState_enPassant_cases hf with h | ⟨pc, start, stop, cap, rfl, -, -, h⟩
  · omega
  · have := hf.1.2.2.2
    omega

/-! ### rights after each kind of move -/

theorem has_s0 (r : CR) (g : Game) : r.has (g.top.setEnPassant 8) = r.has g.top :=
  CR.has_setEnPassant r _ 8 (by omega) (by omega)

/-- the rights left after a move of `pc` from `start` to `stop` holding `cap`: the engine goes
by the kind of piece that moves and by the piece captured -/
theorem has_midState_eq (r : CR) (g : Game) (pc : Piece) (start stop : Pos) (cap : Option Piece) :
    r.has (midState g pc start stop cap) =
      (r.has g.top
        && !((if pc.pieceType = .king then decide (g.player = r.owner)
              else if pc.pieceType = .rook then decide (start = r.rookSq) else false)
             || (decide (cap = some ⟨.rook, r.owner⟩) && decide (stop = r.rookSq)))) := by
  unfold midState
  rw [has_clearCaptured_eq, Bool.not_or, ← Bool.and_assoc]
  congr 1
  split
  · rw [has_clearBoth, has_s0]
    simp [eq_comm]
  · split
    · rw [has_clearRookFrom_eq, has_s0]
    · rw [has_s0, Bool.not_false, Bool.and_true]

end Game
end

/-- only a king is scored differently in the two phases -/
theorem placeScore_phase (p : Pos) (x : Option Piece) (hx : ∀ pl, x ≠ some ⟨.king, pl⟩) (e e' : Bool) :
    placeScore p e x = placeScore p e' x := by
  cases x with
  | none => rfl
  | some pc =>
    obtain ⟨t, o⟩ := pc
    cases t <;> first | rfl | exact absurd rfl (hx o)

namespace Game

/-! ### what depends only on board, king squares, state stack and side -/

theorem get_congr {g g' : Game} (hb : g'.board = g.board) (q : Pos) : g'.get q = g.get q := by
  unfold get; rw [hb]

theorem top_congr {g g' : Game} (hs : g'.state = g.state) : g'.top = g.top := by unfold top; rw [hs]
theorem kingPos_congr {g g' : Game} (hw : g'.wking = g.wking) (hk : g'.bking = g.bking) (pl : Player) :
    g'.kingPos pl = g.kingPos pl := by
  cases pl <;> simp only [kingPos, hw, hk]
theorem kingExists_congr {g g' : Game} (hb : g'.board = g.board) (hw : g'.wking = g.wking)
    (hk : g'.bking = g.bking) (pl : Player) : g'.kingExists pl = g.kingExists pl := by
  unfold kingExists
  rw [kingPos_congr hw hk, get_congr hb]

theorem kingInv_congr {g g' : Game} (hb : g'.board = g.board) (hw : g'.wking = g.wking)
    (hk : g'.bking = g.bking) (h : g.KingInv) : g'.KingInv := by
  refine ⟨hw ▸ h.wvalid, hk ▸ h.bvalid, ?_⟩
  intro p pl hv hg
  rw [kingPos_congr hw hk]
  rw [get_congr hb] at hg
  exact h.unique p pl hv hg

theorem rightsInv_congr {g g' : Game} (hb : g'.board = g.board) (hw : g'.wking = g.wking)
    (hk : g'.bking = g.bking) (hs : g'.state = g.state) (h : g.RightsInv) : g'.RightsInv := by
  have ht := top_congr hs
  have hx := kingExists_congr hb hw hk
  constructor <;> simp only [ht, hx, get_congr hb, hw, hk]
  · exact h.wk
  · exact h.wq
  · exact h.bk
  · exact h.bq

theorem epInv_congr {g g' : Game} (hb : g'.board = g.board) (hs : g'.state = g.state)
    (hp : g'.player = g.player) (h : g.EpInv) : g'.EpInv := by
  have ht := top_congr hs
  unfold EpInv
  simp only [ht, hp, get_congr hb]
  exact h

theorem fits_congr {g g' : Game} (hb : g'.board = g.board) (hw : g'.wking = g.wking)
    (hk : g'.bking = g.bking) (hp : g'.player = g.player) (m : Move) : g'.Fits m ↔ g.Fits m := by
  have hkp := kingPos_congr hw hk
  cases m <;> simp only [Fits, get_congr hb, hkp, hp]

theorem moverOk_congr {g g' : Game} (hs : g'.state = g.state) (hp : g'.player = g.player) (m : Move) :
    g'.MoverOk m ↔ g.MoverOk m := by
  have ht := top_congr hs
  cases m <;> simp only [MoverOk, hp, ht]

/-! ### the phase flip -/

theorem setPosition_self_board (g : Game) (p : Pos) (h : p.Valid) :
    (g.setPosition p (g.get p)).board = g.board := by
  apply board_ext
  intro q hq
  rw [get_setPosition g p _ h q hq]
  split
  · rename_i e; rw [e]
  · rfl

/-- the game after the two re-scorings of `update_phase` -/
def phaseFlip (g : Game) : Game :=
  let g0 := { g with endgame := true }
  let g1 := g0.setPosition g0.wking (g0.get g0.wking)
  g1.setPosition g1.bking (g1.get g1.bking)

theorem updatePhase_eq (g : Game) : g.updatePhase = if g.isEndgame then g.phaseFlip else g := rfl

section flip
variable {g : Game}

theorem phaseFlip_board (hk : g.KingInv) : g.phaseFlip.board = g.board := by
  unfold phaseFlip
  simp only [setPosition_bking]
  rw [setPosition_self_board _ _ hk.bvalid, setPosition_self_board _ _ hk.wvalid]
@[simp] theorem phaseFlip_wking : g.phaseFlip.wking = g.wking := by simp [phaseFlip]
@[simp] theorem phaseFlip_bking : g.phaseFlip.bking = g.bking := by simp [phaseFlip]
@[simp] theorem phaseFlip_state : g.phaseFlip.state = g.state := by simp [phaseFlip]
@[simp] theorem phaseFlip_player : g.phaseFlip.player = g.player := by simp [phaseFlip]
@[simp] theorem phaseFlip_moveStack : g.phaseFlip.moveStack = g.moveStack := by simp [phaseFlip]
@[simp] theorem phaseFlip_endgame : g.phaseFlip.endgame = true := by simp [phaseFlip]

theorem phaseFlip_res (hk : g.KingInv) : g.phaseFlip.resHash = g.resHash ∧ g.phaseFlip.resScore = g.resScore := by
  unfold phaseFlip
  simp only [setPosition_bking]
  rw [setPosition_resHash _ _ _ hk.bvalid, setPosition_resHash _ _ _ hk.wvalid,
    setPosition_resScore _ _ _ hk.bvalid, setPosition_resScore _ _ _ hk.wvalid]
  exact ⟨rfl, rfl⟩

/-- only a king changes value with the phase (`placeScore_phase`), and the squares of both kings are
re-scored -/
theorem phaseFlip_cacheInv (hc : g.CacheInv) (hk : g.KingInv) : g.phaseFlip.CacheInv := by
  rw [cacheInv_iff]
  intro i hi
  unfold phaseFlip
  simp only [setPosition_bking]
  refine setPosition_cacheAt _ _ _ hk.bvalid i hi fun hb =>
    setPosition_cacheAt _ _ _ hk.wvalid i hi fun hw => ⟨hc.hashes i hi, ?_⟩
  show g.pastScores[i] = placeScore (Pos.ofIdx i) true g.board[i]
  rw [hc.scores i hi]
  apply placeScore_phase
  intro pl e
  have hu := hk.unique (Pos.ofIdx i) pl (Pos.ofIdx_valid hi) (by rw [get_ofIdx g hi, e])
  cases pl
  · apply hw; show g.wking.idx = i; rw [show g.wking = Pos.ofIdx i from hu, Pos.idx_ofIdx hi]
  · apply hb; show g.bking.idx = i; rw [show g.bking = Pos.ofIdx i from hu, Pos.idx_ofIdx hi]

theorem phaseFlip_wf (hw : g.WF) : g.phaseFlip.WF := by
  have hb := phaseFlip_board hw.kings
  have ht : g.phaseFlip.top = g.top := top_congr (by simp)
  refine ⟨phaseFlip_cacheInv hw.cache hw.kings, kingInv_congr hb (by simp) (by simp) hw.kings,
    rightsInv_congr hb (by simp) (by simp) (by simp) hw.rights, epInv_congr hb (by simp) (by simp) hw.epInv,
    ?_, ?_, ?_, ?_⟩
  · rw [(phaseFlip_res hw.kings).1, hw.resHash, phaseFlip_player, ht]
  · rw [(phaseFlip_res hw.kings).2, hw.resScore]
  · rw [phaseFlip_state]; exact hw.nonempty
  · rw [ht]; exact hw.ep

theorem updatePhase_wf (hw : g.WF) : g.updatePhase.WF := by
  rw [updatePhase_eq]
  split
  · exact phaseFlip_wf hw
  · exact hw

theorem updatePhase_board (hk : g.KingInv) : g.updatePhase.board = g.board := by
  rw [updatePhase_eq]; split
  · exact phaseFlip_board hk
  · rfl
@[simp] theorem updatePhase_wking : g.updatePhase.wking = g.wking := by
  rw [updatePhase_eq]; split <;> simp
@[simp] theorem updatePhase_bking : g.updatePhase.bking = g.bking := by
  rw [updatePhase_eq]; split <;> simp
@[simp] theorem updatePhase_state : g.updatePhase.state = g.state := by
  rw [updatePhase_eq]; split <;> simp
@[simp] theorem updatePhase_player : g.updatePhase.player = g.player := by
  rw [updatePhase_eq]; split <;> simp
@[simp] theorem updatePhase_moveStack : g.updatePhase.moveStack = g.moveStack := by
  rw [updatePhase_eq]; split <;> simp

end flip

/-- recording the move in `move_stack` changes nothing the invariant looks at -/
theorem recordMove_wf {g : Game} (m : Move) (hw : g.WF) : WF { g with moveStack := m :: g.moveStack } :=
  ⟨cacheInv_congr (g := g) rfl rfl rfl rfl hw.cache, kingInv_congr (g := g) rfl rfl rfl hw.kings,
    rightsInv_congr (g := g) rfl rfl rfl rfl hw.rights, epInv_congr (g := g) rfl rfl rfl hw.epInv,
    hw.resHash, hw.resScore, hw.nonempty, hw.ep⟩

/-! ### what stands where after the move, and where the kings are cached -/

/-- the board after the move: on every square the last of `push`'s writes to it -/
theorem push_get_writes (g : Game) (m : Move) (hv : ∀ e ∈ Bounds.writes m, e.1.Valid) (q : Pos) (hq : q.Valid) :
    (g.push m).get q = lookupLast q (Bounds.writes m) (g.get q) := by
  rw [push_get, applyMoveG_eq, setKingPos_get, get_setMany g _ hv q hq]

theorem push_get_normal (g : Game) (pc : Piece) (start stop : Pos) (cap : Option Piece)
    (hs : start.Valid) (he : stop.Valid) (q : Pos) (hq : q.Valid) :
    (g.push (.normal pc start stop cap)).get q
      = if q = stop then some pc else if q = start then none else g.get q :=
  push_get_writes g _ (by simp [Bounds.writes, hs, he]) q hq

theorem push_kingPos_normal (g : Game) (pc : Piece) (start stop : Pos) (cap : Option Piece) (pl : Player) :
    (g.push (.normal pc start stop cap)).kingPos pl
      = if pc.pieceType = .king ∧ pl = g.player then stop else g.kingPos pl := by
  rw [push_kingPos]
  simp only [applyMoveG]
  split
  · rename_i h
    simp only [setKingPos_kingPos, setPosition_player, setPosition_kingPos, h, true_and]
  · rename_i h
    simp only [setPosition_kingPos, h, false_and, if_false]

theorem push_get_promotion (g : Game) (o : Player) (t : PieceType) (start stop : Pos) (cap : Option Piece)
    (hs : start.Valid) (he : stop.Valid) (q : Pos) (hq : q.Valid) :
    (g.push (.promotion o t start stop cap)).get q
      = if q = stop then some ⟨t, o⟩ else if q = start then none else g.get q :=
  push_get_writes g _ (by simp [Bounds.writes, hs, he]) q hq

theorem push_kingPos_promotion (g : Game) (o : Player) (t : PieceType) (start stop : Pos) (cap : Option Piece)
    (pl : Player) : (g.push (.promotion o t start stop cap)).kingPos pl = g.kingPos pl := by
  rw [push_kingPos]
  simp only [applyMoveG, setPosition_kingPos]

theorem push_get_enPassant (g : Game) (o : Player) (sc ec : Int)
    (h1 : 0 ≤ sc) (h2 : sc < 8) (h3 : 0 ≤ ec) (h4 : ec < 8) (q : Pos) (hq : q.Valid) :
    (g.push (.enPassant o sc ec)).get q
      = if q = (epSquares o sc ec).2.1 then some ⟨.pawn, o⟩
        else if q = (epSquares o sc ec).1 then none
        else if q = (epSquares o sc ec).2.2 then none else g.get q :=
  push_get_writes g _ (by simp [Bounds.writes, epSquares_valid o sc ec h1 h2 h3 h4]) q hq

theorem push_kingPos_enPassant (g : Game) (o : Player) (sc ec : Int) (pl : Player) :
    (g.push (.enPassant o sc ec)).kingPos pl = g.kingPos pl := by
  rw [push_kingPos]
  simp only [applyMoveG, setPosition_kingPos]

theorem push_get_castlingShort (g : Game) (o : Player) (q : Pos) (hq : q.Valid) :
    (g.push (.castlingShort o)).get q
      = if q = ⟨homeRow o, 6⟩ then some ⟨.king, o⟩ else if q = ⟨homeRow o, 5⟩ then some ⟨.rook, o⟩
        else if q = ⟨homeRow o, 4⟩ then none else if q = ⟨homeRow o, 7⟩ then none else g.get q :=
  push_get_writes g _ (by simp [Bounds.writes, homeRow_valid]) q hq

theorem push_kingPos_castlingShort (g : Game) (o : Player) (pl : Player) :
    (g.push (.castlingShort o)).kingPos pl = if pl = g.player then ⟨homeRow o, 6⟩ else g.kingPos pl := by
  rw [push_kingPos]
  simp only [applyMoveG, setKingPos_kingPos, setPosition_player, setPosition_kingPos]

theorem push_get_castlingLong (g : Game) (o : Player) (q : Pos) (hq : q.Valid) :
    (g.push (.castlingLong o)).get q
      = if q = ⟨homeRow o, 2⟩ then some ⟨.king, o⟩ else if q = ⟨homeRow o, 3⟩ then some ⟨.rook, o⟩
        else if q = ⟨homeRow o, 4⟩ then none else if q = ⟨homeRow o, 0⟩ then none else g.get q :=
  push_get_writes g _ (by simp [Bounds.writes, homeRow_valid]) q hq

theorem push_kingPos_castlingLong (g : Game) (o : Player) (pl : Player) :
    (g.push (.castlingLong o)).kingPos pl = if pl = g.player then ⟨homeRow o, 2⟩ else g.kingPos pl := by
  rw [push_kingPos]
  simp only [applyMoveG, setKingPos_kingPos, setPosition_player, setPosition_kingPos]

/-! ### the cached king squares -/

theorem _root_.Chess.Bounds.promo_kind {g : Game} {o : Player} {t : PieceType} {s e : Pos} {cap : Option Piece}
    (h : g.MoverOk (.promotion o t s e cap)) : t ≠ .pawn ∧ t ≠ .king := by
  obtain ⟨-, h | h | h | h⟩ := h <;> simp [h]

/-- every king that `push` puts on the board stands on the square cached for its colour afterwards -/
theorem writes_king {g : Game} {m : Move} (hf : g.Fits m) (hm : g.MoverOk m) (e : Pos × Option Piece)
    (he : e ∈ Bounds.writes m) (pl : Player) (h : e.2 = some ⟨.king, pl⟩) : (g.push m).kingPos pl = e.1 := by
  cases m <;> simp only [Bounds.writes, List.mem_cons, List.mem_nil_iff, or_false] at he
  case normal pc start stop cap =>
    rcases he with rfl | rfl <;> cases h
    rw [push_kingPos_normal, if_pos ⟨rfl, hm.1⟩]
  case promotion o t start stop cap =>
    rcases he with rfl | rfl <;> cases h
    exact absurd rfl (Bounds.promo_kind hm).2
  case enPassant o sc ec => rcases he with rfl | rfl | rfl <;> cases h
  case castlingShort o =>
    rcases he with rfl | rfl | rfl | rfl <;> cases h
    rw [push_kingPos_castlingShort, if_pos hf.1]
  case castlingLong o =>
    rcases he with rfl | rfl | rfl | rfl <;> cases h
    rw [push_kingPos_castlingLong, if_pos hf.1]

/-- the king cache is left alone, or moves from a square that `push` empties to one where it puts a
king of that colour -/
theorem push_kingPos_cases {g : Game} {m : Move} (hf : g.Fits m) (hm : g.MoverOk m) (pl : Player) :
    (g.push m).kingPos pl = g.kingPos pl
      ∨ (g.kingPos pl, none) ∈ Bounds.writes m ∧ ((g.push m).kingPos pl, some ⟨.king, pl⟩) ∈ Bounds.writes m := by
  cases m with
  | normal pc start stop cap =>
    rw [push_kingPos_normal]
    split
    · rename_i h
      rw [h.2, hf.2.2.2.2.2 h.1, ← piece_eq h.1 hm.1]
      exact .inr (by simp [Bounds.writes])
    · exact .inl rfl
  | promotion o t start stop cap => exact .inl (push_kingPos_promotion ..)
  | enPassant o sc ec => exact .inl (push_kingPos_enPassant ..)
  | castlingShort o =>
    rw [push_kingPos_castlingShort]
    split
    · rename_i h
      rw [h, ← hf.1, hf.2.1]
      exact .inr (by simp [Bounds.writes])
    · exact .inl rfl
  | castlingLong o =>
    rw [push_kingPos_castlingLong]
    split
    · rename_i h
      rw [h, ← hf.1, hf.2.1]
      exact .inr (by simp [Bounds.writes])
    · exact .inl rfl

theorem push_kingInv {g : Game} {m : Move} (hk : g.KingInv) (hf : g.Fits m) (hm : g.MoverOk m) :
    (g.push m).KingInv := by
  have hv := Bounds.writes_valid hf
  have hkv : ∀ pl, ((g.push m).kingPos pl).Valid := by
    intro pl
    rcases push_kingPos_cases hf hm pl with h | ⟨-, h⟩
    · rw [h]; exact hk.kvalid pl
    · exact hv _ h
  refine ⟨hkv .white, hkv .black, fun p pl hp hg => ?_⟩
  rw [push_get_writes g m hv p hp] at hg
  rcases lookupLast_cases p (Bounds.writes m) (g.get p) with ⟨e, he, rfl, h⟩ | ⟨hn, h⟩ <;> rw [h] at hg
  · exact writes_king hf hm e he pl hg
  · rcases push_kingPos_cases hf hm pl with h' | ⟨h', -⟩
    · rw [h']; exact hk.unique p pl hp hg
    · exact absurd (hk.unique p pl hp hg) (hn _ h')

/-! ### castling rights -/

/-- what a castling right promises -/
def RightOk (g : Game) (r : CR) : Prop :=
  g.get r.rookSq = some ⟨.rook, r.owner⟩ ∧ g.kingPos r.owner = ⟨homeRow r.owner, 4⟩
    ∧ (g.kingExists r.owner = true → g.get ⟨homeRow r.owner, 4⟩ = some ⟨.king, r.owner⟩)

theorem rightsInv_iff (g : Game) : g.RightsInv ↔ ∀ r : CR, r.has g.top = true → g.RightOk r := by
  constructor
  · intro h r hr
    cases r
    · exact h.wk hr
    · exact h.wq hr
    · exact h.bk hr
    · exact h.bq hr
  · intro h
    exact ⟨h .wk, h .wq, h .bk, h .bq⟩

theorem rightOk_intro {g : Game} {r : CR} (h1 : g.get r.rookSq = some ⟨.rook, r.owner⟩)
    (h2 : g.kingPos r.owner = ⟨homeRow r.owner, 4⟩)
    (h3 : ∀ pc, g.get ⟨homeRow r.owner, 4⟩ = some pc → pc.pieceType = .king → pc.owner = r.owner) :
    g.RightOk r := by
  refine ⟨h1, h2, ?_⟩
  intro hx
  unfold kingExists at hx
  rw [h2] at hx
  cases hg : g.get ⟨homeRow r.owner, 4⟩ with
  | none => rw [hg] at hx; cases hx
  | some pc =>
    rw [hg] at hx
    simp only [decide_eq_true_eq] at hx
    rw [piece_eq hx (h3 pc hg hx)]

theorem RightOk.kingOwner {g : Game} {r : CR} (h : g.RightOk r) (pc : Piece)
    (hg : g.get ⟨homeRow r.owner, 4⟩ = some pc) (hk : pc.pieceType = .king) : pc.owner = r.owner := by
  have hx : g.kingExists r.owner = true := by
    unfold kingExists
    rw [h.2.1, hg]
    simp only [hk, decide_true]
  have := h.2.2 hx
  rw [hg] at this
  simp only [Option.some.injEq] at this
  rw [this]

/-- a right that survives the move was there before; its rook is neither moved nor taken on its
home square, and no king of its colour moves -/
theorem has_pushState {g : Game} {m : Move} {r : CR} (hf : g.Fits m) (hm : g.MoverOk m)
    (hh : r.has (pushState g m) = true) :
    r.has g.top = true ∧ (r.rookSq, some ⟨.rook, r.owner⟩) ∉ Bounds.unwrites m
      ∧ ∀ p, (p, some ⟨.king, r.owner⟩) ∉ Bounds.writes m := by
  cases m <;>
    simp only [Bounds.unwrites, Bounds.writes, List.mem_cons, List.not_mem_nil, or_false, Prod.mk.injEq]
  case normal pc start stop cap =>
    have hmid : r.has (midState g pc start stop cap) = true := by
      rcases pushState_normal g pc start stop cap with e | ⟨-, -, e⟩ <;> rw [e] at hh
      · exact hh
      · rwa [CR.has_setEnPassant r _ _ hf.1.2.2.1 (by have := hf.1.2.2.2; omega)] at hh
    rw [has_midState_eq, Bool.and_eq_true, Bool.not_eq_true', Bool.or_eq_false_iff] at hmid
    obtain ⟨h1, h2, h3⟩ := hmid
    refine ⟨h1, ?_, fun p => ?_⟩
    · rintro (⟨rfl, h⟩ | ⟨rfl, rfl⟩)
      · cases h; simp at h2
      · simp at h3
    · rintro (⟨-, h⟩ | ⟨-, h⟩) <;> cases h
      simp only [if_true, decide_eq_false_iff_not] at h2
      exact h2 hm.1.symm
  case promotion o t start stop cap =>
    rw [pushState_promotion, has_clearCaptured_eq, has_s0, Bool.and_eq_true, Bool.not_eq_true',
      Bool.and_eq_false_imp, decide_eq_true_eq, decide_eq_false_iff_not] at hh
    refine ⟨hh.1, ?_, fun p => ?_⟩
    · rintro (⟨-, h⟩ | ⟨e, h⟩)
      · cases h
      · exact hh.2 h.symm e.symm
    · rintro (⟨-, h⟩ | ⟨-, h⟩) <;> cases h
      exact absurd rfl (Bounds.promo_kind hm).2
  case enPassant o sc ec =>
    rw [pushState_enPassant, has_s0] at hh
    simpa using hh
  case castlingShort o =>
    rw [pushState_castlingShort, has_clearBoth, has_s0, ← hf.1, Bool.and_eq_true, decide_eq_true_eq] at hh
    refine ⟨hh.1, ?_, fun p => ?_⟩ <;> rintro (⟨-, h⟩ | ⟨-, h⟩ | ⟨-, h⟩ | ⟨-, h⟩) <;> cases h <;> exact hh.2 rfl
  case castlingLong o =>
    rw [pushState_castlingLong, has_clearBoth, has_s0, ← hf.1, Bool.and_eq_true, decide_eq_true_eq] at hh
    refine ⟨hh.1, ?_, fun p => ?_⟩ <;> rintro (⟨-, h⟩ | ⟨-, h⟩ | ⟨-, h⟩ | ⟨-, h⟩) <;> cases h <;> exact hh.2 rfl

/-- a king that `push` puts on the home square of the king of a right is of that colour: a king
step never lands on the cached square of the other king, castling never on the king's file -/
theorem writes_kingHome {g : Game} {m : Move} {r : CR} (hm : g.MoverOk m) (hks : g.KingStepOk m)
    (hr : g.RightOk r) (e : Pos × Option Piece) (he : e ∈ Bounds.writes m)
    (h4 : e.1 = ⟨homeRow r.owner, 4⟩) (pc : Piece) (h : e.2 = some pc) (hk : pc.pieceType = .king) :
    pc.owner = r.owner := by
  cases m <;> simp only [Bounds.writes, List.mem_cons, List.mem_nil_iff, or_false] at he
  case normal pc' start stop cap =>
    rcases he with rfl | rfl <;> cases h
    by_cases e3 : r.owner = g.player
    · exact hm.1.trans e3.symm
    · exact absurd (h4.trans hr.2.1.symm) (owner_other e3 ▸ hks hk)
  case promotion o t start stop cap =>
    rcases he with rfl | rfl <;> cases h
    exact absurd hk (Bounds.promo_kind hm).2
  case enPassant o sc ec => rcases he with rfl | rfl | rfl <;> cases h <;> cases hk
  case castlingShort o =>
    rcases he with rfl | rfl | rfl | rfl <;> cases h <;> cases hk
    exact absurd (congrArg Pos.col h4) (by simp)
  case castlingLong o =>
    rcases he with rfl | rfl | rfl | rfl <;> cases h <;> cases hk
    exact absurd (congrArg Pos.col h4) (by simp)

/-- `Fits` says what the squares written held; so the rook square of a surviving right, which holds
that rook, is not written, and the king square keeps its king or stays without one -/
theorem push_rightOk {g : Game} {m : Move} {r : CR} (hf : g.Fits m) (hm : g.MoverOk m)
    (hks : g.KingStepOk m) (hh : r.has (pushState g m) = true) (hr : g.RightOk r) : (g.push m).RightOk r := by
  obtain ⟨-, hrook, hking⟩ := has_pushState hf hm hh
  have hv := Bounds.writes_valid hf
  apply rightOk_intro
  · rw [push_get_writes g m hv _ r.rookSq_valid]
    rcases lookupLast_cases r.rookSq (Bounds.writes m) (g.get r.rookSq) with ⟨e, he, hq, -⟩ | ⟨-, h⟩
    · obtain ⟨e', he', h'⟩ := Bounds.writes_sub m e he
      have hg := (Bounds.fits_unwrites hf e' he').2
      rw [h'.trans hq, hr.1] at hg
      have : e' = (r.rookSq, some ⟨.rook, r.owner⟩) := Prod.ext (h'.trans hq) hg.symm
      exact absurd (this ▸ he') hrook
    · rw [h]; exact hr.1
  · rcases push_kingPos_cases hf hm r.owner with h | ⟨-, h⟩
    · rw [h]; exact hr.2.1
    · exact absurd h (hking _)
  · intro pc hg hk
    rw [push_get_writes g m hv _ (homeRow_valid r.owner 4 (by omega) (by omega))] at hg
    rcases lookupLast_cases ⟨homeRow r.owner, 4⟩ (Bounds.writes m) (g.get ⟨homeRow r.owner, 4⟩) with
      ⟨e, he, hq, h⟩ | ⟨-, h⟩ <;> rw [h] at hg
    · exact writes_kingHome hm hks hr e he hq pc hg hk
    · exact hr.kingOwner pc hg hk

/-- **castling rights stay backed by rook and king at home.**  `KingStepOk` is needed: with the
white king captured on e1 on an unchecked line (right `K` still set, `kingExists white = false`), a
black king stepping onto e1 would make `kingExists white` true again with a black king there. -/
theorem push_rightsInv {g : Game} {m : Move} (hr : g.RightsInv) (hf : g.Fits m) (hm : g.MoverOk m)
    (hks : g.KingStepOk m) : (g.push m).RightsInv := by
  rw [rightsInv_iff] at hr ⊢
  intro r hh
  rw [push_top] at hh
  exact push_rightOk hf hm hks hh (hr r (has_pushState hf hm hh).1)

/-! ### the en-passant file -/

theorem push_epInv {g : Game} {m : Move} (hf : g.Fits m) (hm : g.MoverOk m) (hpd : PawnDoubleOk g m) :
    (g.push m).EpInv := by
  unfold EpInv
  rw [push_top, push_player]
  intro hlt
  rcases pushState_enPassant_cases hf with h8 | ⟨pc, start, stop, cap, rfl, hpawn, habs, hcol⟩
  · omega
  · obtain ⟨hs, he, hne, hgs, hge, -⟩ := hf
    obtain ⟨hown, -⟩ := hm
    obtain ⟨hc, hrows⟩ := hpd hpawn habs
    rw [hcol]
    have hpc : pc = ⟨.pawn, g.player⟩ := by
      obtain ⟨t, o⟩ := pc
      simp only at hpawn hown
      rw [hpawn, hown]
    obtain ⟨sr, sc⟩ := start
    obtain ⟨er, ec⟩ := stop
    simp only at hc hrows
    subst hc
    have hget := fun q hq => push_get_normal g pc ⟨sr, ec⟩ ⟨er, ec⟩ cap hs he q hq
    cases hp : g.player <;> rw [hp] at hrows hpc <;> obtain ⟨h1, h3, hmid⟩ := hrows <;> subst h1 h3 <;>
      simp only [Player.other]
    all_goals
      refine ⟨by rw [hget _ he, if_pos rfl, hpc], ?_⟩
      rw [hget _ (by simp only [Pos.Valid] at he ⊢; omega), if_neg (by simp), if_neg (by simp)]
      exact hmid

/-! ### the induction step -/

theorem push_wf {g : Game} {m : Move} (hw : g.WF) (hf : g.Fits m) (hm : g.MoverOk m)
    (hpd : PawnDoubleOk g m) (hks : g.KingStepOk m) : (g.push m).WF where
  cache := push_cacheInv hw.cache hf
  kings := push_kingInv hw.kings hf hm
  rights := push_rightsInv hw.rights hf hm hks
  epInv := push_epInv hf hm hpd
  resHash := push_hash_inv hw hf
  resScore := by rw [push_resScore hf, hw.resScore]
  nonempty := by rw [push_state]; exact List.cons_ne_nil _ _
  ep := push_top_ep hf

theorem pawnDoubleOk_congr {g g' : Game} (hb : g'.board = g.board) (hp : g'.player = g.player) (m : Move) :
    PawnDoubleOk g' m ↔ PawnDoubleOk g m := by
  cases m <;> simp only [PawnDoubleOk, get_congr hb, hp]

theorem kingStepOk_congr {g g' : Game} (hw : g'.wking = g.wking) (hk : g'.bking = g.bking)
    (hp : g'.player = g.player) (m : Move) : g'.KingStepOk m ↔ g.KingStepOk m := by
  cases m <;> simp only [KingStepOk, kingPos_congr hw hk, hp]

theorem pushHistory_wf {g : Game} {m : Move} (hw : g.WF) (hf : g.Fits m) (hm : g.MoverOk m)
    (hpd : PawnDoubleOk g m) (hks : g.KingStepOk m) : (g.pushHistory m).WF := by
  have hw1 : WF { g with moveStack := m :: g.moveStack } := recordMove_wf m hw
  have hb : ({ g with moveStack := m :: g.moveStack } : Game).updatePhase.board = g.board :=
    updatePhase_board hw1.kings
  unfold pushHistory
  apply push_wf (updatePhase_wf hw1)
  · exact (fits_congr hb (by simp) (by simp) (by simp) m).2 hf
  · exact (moverOk_congr (by simp) (by simp) m).2 hm
  · exact (pawnDoubleOk_congr hb (by simp) m).2 hpd
  · exact (kingStepOk_congr (by simp) (by simp) (by simp) m).2 hks

/-! ### the two extra hypotheses are facts about every generated move -/

/-- a pawn's single step or capture, or its promotion: nothing to check -/
theorem arrive_extraOk {g : Game} {pc : Piece} {p q : Pos} {cap : Option Piece} {lr : Int} {m : Move}
    (hpawn : pc.pieceType = .pawn) (hr : q.row = p.row + Spec.forward pc.owner)
    (hm : PawnArrive g pc p q cap lr m) : g.ExtraOk m := by
  unfold PawnArrive at hm
  split at hm
  · obtain ⟨t, -, rfl⟩ := hm
    exact ⟨trivial, trivial⟩
  · subst hm
    refine ⟨fun _ h2 => absurd h2 ?_, fun h => (by rw [hpawn] at h; cases h)⟩
    rcases side_consts pc.owner with h | h <;> rw [hr, h.1] <;> omega

theorem pawnMoves_extraOk (g : Game) (pc : Piece) (p : Pos) (hown : pc.owner = g.player)
    (hpawn : pc.pieceType = .pawn) : ∀ m ∈ pawnMoves g pc p, g.ExtraOk m := by
  intro m hm
  rw [pawnMoves_spec, hown] at hm
  rcases hm with ⟨hrow, h1, h2, rfl⟩ | ⟨q, hq, -, hm⟩ | ⟨d, hd, q, other, hq, -, -, hm⟩ | ⟨-, -, -, rfl⟩
  · refine ⟨fun _ _ => ⟨Int.add_zero _, ?_⟩, fun h => (by rw [hpawn] at h; cases h)⟩
    cases hp : g.player <;> rw [hp] at hrow h1 <;> simp only [Spec.forward, Spec.pawnStartRow] at hrow h1 ⊢
    all_goals
      rw [hrow] at h1 ⊢
      exact ⟨rfl, rfl, by simpa using h1⟩
  · exact arrive_extraOk hpawn (hown ▸ (Pos.add_spec hq).2.1) hm
  · refine arrive_extraOk hpawn ?_ hm
    simp only [List.mem_cons, List.mem_nil_iff, or_false] at hd
    rcases hd with rfl | rfl <;> exact hown ▸ (Pos.add_spec hq).2.1
  · exact ⟨trivial, trivial⟩

theorem kingMoves_extraOk (g : Game) (pc : Piece) (p : Pos) (hk : pc.pieceType = .king) :
    ∀ m ∈ kingMoves g pc p, g.ExtraOk m := by
  intro m hm
  rw [kingMoves_spec] at hm
  rcases hm with ⟨d, -, hm⟩ | hm | hm
  · obtain ⟨q, -, -, hfar, rfl⟩ := (mem_kingStep ..).1 hm
    refine ⟨fun h => (by rw [hk] at h; cases h), fun _ e => hfar ?_⟩
    rw [e]
    simp [NearEnemyKing]
  · rw [((mem_castleShort ..).1 hm).2]; exact ⟨trivial, trivial⟩
  · rw [((mem_castleLong ..).1 hm).2]; exact ⟨trivial, trivial⟩

theorem pieceMoves_extraOk (g : Game) (pc : Piece) (p : Pos) (hp : p.Valid) (hown : pc.owner = g.player) :
    ∀ m ∈ pieceMoves g pc p, g.ExtraOk m := by
  intro m hm
  rcases pieceMoves_cases g pc p with ⟨hk, e⟩ | ⟨hk, e⟩ | ⟨hnp, hnk⟩
  · exact pawnMoves_extraOk g pc p hown hk m (e ▸ hm)
  · exact kingMoves_extraOk g pc p hk m (e ▸ hm)
  · obtain ⟨q, -, -, -, rfl⟩ := (g.pieceMoves_simple_iff hp hnp hnk m).1 hm
    exact ⟨fun h => absurd h hnp, fun h => absurd h hnk⟩

/-- **every move the generator produces satisfies the two extra hypotheses of `push_wf`** -/
theorem pseudoMoves_extraOk (g : Game) : ∀ m ∈ g.pseudoMoves, PawnDoubleOk g m ∧ g.KingStepOk m := by
  intro m hm
  obtain ⟨-, p, pc, hp, -, hown, hm⟩ := mem_pseudoMoves.1 hm
  exact pieceMoves_extraOk g pc p hp hown m hm

theorem getMoves_extraOk (g : Game) (v : Bool) :
    ∀ m ∈ (g.getMoves v).1, PawnDoubleOk g m ∧ g.KingStepOk m :=
  fun m hm => pseudoMoves_extraOk g m (getMoves_subset_any g v m hm)

theorem push_wf_of_mem {g : Game} (hw : g.WF) {b : Bool} {m : Move} (hm : m ∈ (g.getMoves b).1) :
    (g.push m).WF :=
  have hf := getMoves_fits hw b hm
  have hx := getMoves_extraOk g b m hm
  push_wf hw hf.1 hf.2 hx.1 hx.2

end Game
end Chess

#print axioms Chess.Game.getMoves_extraOk
#print axioms Chess.Game.push_wf
#print axioms Chess.Game.updatePhase_wf
#print axioms Chess.Game.pushHistory_wf
