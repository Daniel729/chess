import Chess.Gen.Zobrist

/-!
# Kernel-decided facts about the generated Zobrist keys (C05)

Every theorem here is re-decided by the kernel on `Chess/Gen/Zobrist.lean`, which is generated from
the engine's key file: a regenerated file with a collision makes this file fail to compile.
-/
namespace Chess

def pairwiseDistinct : List UInt64 → Bool
  | [] => true
  | x :: xs => xs.all (fun y => y != x) && pairwiseDistinct xs

theorem nodup_of_pairwiseDistinct : ∀ {l : List UInt64}, pairwiseDistinct l = true → l.Nodup
  | [], _ => List.nodup_nil
  | x :: xs, h => by
    simp only [pairwiseDistinct, Bool.and_eq_true, List.all_eq_true, bne_iff_ne] at h
    exact List.nodup_cons.2 ⟨fun hx => h.1 x hx rfl, nodup_of_pairwiseDistinct h.2⟩

theorem pairwiseDistinct_inj {l : List UInt64} (h : pairwiseDistinct l = true)
    {i j : Nat} (hi : i < l.length) (hj : j < l.length) (e : l[i] = l[j]) : i = j :=
  (List.getElem_inj (nodup_of_pairwiseDistinct h)).1 e

/-- the 13 keys that can be XOR-ed in for square `i`: empty, then the 12 pieces -/
def squareKeys (i : Nat) : List UInt64 :=
  Gen.emptyPlace :: (List.range 12).map (fun k => Gen.pieceKeys.getD (i * 12 + k) 0)

theorem stateKeys_size : Gen.stateKeys.size = 256 := by decide +kernel
theorem pieceKeys_size : Gen.pieceKeys.size = 768 := by decide +kernel

/-- `pairwiseDistinct` on the values as natural numbers, which the kernel compares as binary numbers
(a comparison of two `UInt64` goes through `BitVec` and `Fin` every time) -/
def distinctNat : List Nat → Bool
  | [] => true
  | x :: xs => xs.all (fun y => !Nat.beq y x) && distinctNat xs

theorem pairwiseDistinct_eq_distinctNat (l : List UInt64) :
    pairwiseDistinct l = distinctNat (l.map UInt64.toNat) := by
  induction l with
  | nil => rfl
  | cons x xs ih =>
    have h : ∀ y : UInt64, (y != x) = !Nat.beq y.toNat x.toNat := fun y => by
      rw [Bool.eq_iff_iff, bne_iff_ne, Bool.not_eq_true', ← Bool.not_eq_true, Nat.beq_eq, UInt64.toNat_inj]
    simp only [pairwiseDistinct, distinctNat, List.map_cons, List.all_map, Function.comp_def, ih, h]

theorem state_keys_distinct : pairwiseDistinct Gen.stateKeys.toList = true := by
  rw [pairwiseDistinct_eq_distinctNat]; decide +kernel

/-- `n` consecutive entries of a table from `s` on, all inside it, are a segment of its list -/
theorem map_getD_eq_take_drop {α : Type} (a : Array α) (s n : Nat) (d : α) (h : s + n ≤ a.size) :
    (List.range n).map (fun k => a.getD (s + k) d) = (a.toList.drop s).take n := by
  apply List.ext_getElem
  · simp; omega
  · intro k h1 h2
    simp at h1
    simp [Array.getD, show s + k < a.size by omega]

/-- on each of the 64 squares, the empty key and the 12 piece keys are pairwise distinct -/
theorem square_keys_distinct :
    (List.range 64).all (fun i => pairwiseDistinct (squareKeys i)) = true := by
  -- the table is walked as a list, twelve entries at a time, not indexed 768 times
  have h : (List.range 64).all (fun i => distinctNat
      ((Gen.emptyPlace :: (Gen.pieceKeys.toList.drop (i * 12)).take 12).map UInt64.toNat)) = true := by
    decide +kernel
  rw [List.all_eq_true] at h ⊢
  intro i hi
  have hi' := List.mem_range.1 hi
  rw [squareKeys, map_getD_eq_take_drop _ _ _ _ (by rw [pieceKeys_size]; omega), pairwiseDistinct_eq_distinctNat]
  exact h i hi

theorem side_key_nonzero : Gen.blackToMove ≠ 0 := by decide +kernel

end Chess
