import Chess.Lemmas.LegalAux
import Chess.Lemmas.Reach
import Chess.Lemmas.StartHash

/-!
# C01 — the checked move list is exactly the set of legal moves

"In every position reachable by legal play from a sane starting position, the checked move list is
exactly the set of legal moves (none missing, none extra, none repeated); the unchecked list is a
superset of it, and each additional move is a geometrically valid piece move whose only fault is
that it leaves the mover's own king attacked."

The quantifier is `SaneG` (representation invariant, both kings on their cached squares, the side
not to move not in check); it follows from `WF` and the rules' `Spec.sane`, and every checked move
keeps it.  The test of the engine's filter is the rules' "own king attacked after the move"
(`filter_test_eq_inCheck`), and the filter's shortcut never lets an illegal move through
(`shortcut_sound`).
-/
namespace Chess.Legal
open Chess Chess.Spec Chess.Game

/-! ## 1. The quantifier -/

/-- what the proofs need of "sane position": the representation invariant, both kings on their
cached squares, the side **not** to move not in check -/
structure SaneG (g : Game) : Prop where
  wf : g.WF
  kings : ∀ pl : Player, g.get (g.kingPos pl) = some ⟨.king, pl⟩
  safe : Spec.inCheck g.abs g.player.other = false

theorem SaneG.kingExists {g : Game} (hs : SaneG g) (pl : Player) : g.kingExists pl = true := by
  unfold Game.kingExists
  rw [hs.kings pl]
  rfl

/-- with the king of `pl` on its cached square, the engine's test of that square is the rules'
"`pl` is in check" -/
theorem test_eq_inCheck {g : Game} (hk : g.KingInv) {pl : Player}
    (h : g.get (g.kingPos pl) = some ⟨.king, pl⟩) :
    g.isTargeted (g.kingPos pl) pl = Spec.inCheck g.abs pl :=
  Bool.not_inj (Game.kingSafe_iff' g pl (hk.kvalid pl) (Game.kingSq_eq_kingPos g pl hk h))

theorem SaneG.other_safe {g : Game} (hs : SaneG g) :
    g.isTargeted (g.kingPos g.player.other) g.player.other = false :=
  (test_eq_inCheck hs.wf.kings (hs.kings _)).trans hs.safe

/-- exactly one king of `pl` on the board puts it on the cached square -/
theorem king_of_material {g : Game} (hw : g.WF) (pl : Player)
    (h : Spec.materialOk g.abs pl = true) : g.get (g.kingPos pl) = some ⟨.king, pl⟩ := by
  simp only [Spec.materialOk, Bool.and_eq_true, decide_eq_true_eq] at h
  have h1 := h.1
  unfold Spec.count at h1
  have hex : ∃ s, s ∈ allSqs.filter (fun s => decide (g.abs.at s = some ⟨.king, pl⟩)) := by
    apply List.exists_mem_of_length_pos
    omega
  obtain ⟨s, hs⟩ := hex
  rw [List.mem_filter] at hs
  have hat : g.abs.at s = some ⟨.king, pl⟩ := by simpa using hs.2
  have hv : (Pos.mk s.1 s.2).Valid := Pos.valid_mk (APos.onBoard_of_at hat)
  have hg : g.get ⟨s.1, s.2⟩ = some ⟨.king, pl⟩ := by rw [g.get_eq_at _ hv]; exact hat
  rw [hw.kings.unique _ pl hv hg]
  exact hg

theorem saneG_of_sane {g : Game} (hw : g.WF) (h : Spec.sane g.abs = true) : SaneG g := by
  simp only [Spec.sane, Bool.and_eq_true, Bool.not_eq_true'] at h
  obtain ⟨⟨⟨⟨⟨⟨⟨⟨hmw, hmb⟩, -⟩, hnc⟩, -⟩, -⟩, -⟩, -⟩, -⟩ := h
  refine ⟨hw, fun pl => ?_, hnc⟩
  cases pl
  · exact king_of_material hw .white hmw
  · exact king_of_material hw .black hmb

/-! ### a sane imported position is well formed

The FEN reader checks that castling rights and the en-passant file are backed by the board
(`ofFen_rightsInv`, `ofFen_epInv`), so every imported game is well formed (`ofFen_wf`). The rules'
`Spec.sane` contains both conditions too: `rightsInv_of_sane` and `epInv_of_sane` extract them for
any game with `KingInv`, imported or not. -/

theorem right_aux {g : Game} (hk : g.KingInv) (pl : Player) (r c : Int) (hr : 0 ≤ r ∧ r < 8)
    (hc : 0 ≤ c ∧ c < 8) {x : Bool}
    (h : x = false ∨ g.abs.at (r, 4) = some ⟨.king, pl⟩ ∧ g.abs.at (r, c) = some ⟨.rook, pl⟩)
    (hx : x = true) :
    g.get ⟨r, c⟩ = some ⟨.rook, pl⟩ ∧ g.kingPos pl = ⟨r, 4⟩
      ∧ (g.kingExists pl = true → g.get ⟨r, 4⟩ = some ⟨.king, pl⟩) := by
  rcases h with e | ⟨h1, h2⟩
  · rw [hx] at e; cases e
  have v4 : (Pos.mk r 4).Valid := ⟨hr.1, hr.2, by show (0 : Int) ≤ 4; omega, by show (4 : Int) < 8; omega⟩
  have g4 : g.get ⟨r, 4⟩ = some ⟨.king, pl⟩ := by rw [g.get_eq_at _ v4]; exact h1
  have gc : g.get ⟨r, c⟩ = some ⟨.rook, pl⟩ := by rw [g.get_eq_at _ ⟨hr.1, hr.2, hc.1, hc.2⟩]; exact h2
  exact ⟨gc, hk.unique _ pl v4 g4, fun _ => g4⟩

/-- the rules' "castling rights agree with king and rook homes" is the engine's `RightsInv` -/
theorem rightsInv_of_sane {g : Game} (hk : g.KingInv) (h : Spec.sane g.abs = true) :
    g.RightsInv := by
  simp only [Spec.sane, Bool.and_eq_true, Bool.or_eq_true, Bool.not_eq_true',
    decide_eq_true_eq] at h
  obtain ⟨⟨⟨⟨⟨-, hwk⟩, hwq⟩, hbk⟩, hbq⟩, -⟩ := h
  exact ⟨right_aux hk .white 0 7 (by omega) (by omega) hwk,
    right_aux hk .white 0 0 (by omega) (by omega) hwq,
    right_aux hk .black 7 7 (by omega) (by omega) hbk,
    right_aux hk .black 7 0 (by omega) (by omega) hbq⟩

/-- the rules' "the en-passant file is backed by a pawn that has just made its double step" is
the engine's `EpInv` -/
theorem epInv_of_sane {g : Game} (h : Spec.sane g.abs = true) : g.EpInv := by
  simp only [Spec.sane, Bool.and_eq_true] at h
  obtain ⟨-, hep⟩ := h
  intro h8
  have h0 := GState.enPassant_nonneg g.top
  rw [abs_ep_rf, Game.epOf, if_pos h8] at hep
  simp only [Bool.and_eq_true, decide_eq_true_eq, Option.isNone_iff_eq_none,
    Int.toNat_of_nonneg h0] at hep
  obtain ⟨⟨⟨-, h1⟩, h2⟩, -⟩ := hep
  rw [abs_side] at h1 h2
  have hb : ∀ r : Int, 0 ≤ r → r < 8 → g.get ⟨r, g.top.enPassant⟩ = g.abs.at (r, g.top.enPassant) :=
    fun r a b => g.get_mk ((Spec.onBoard_iff _).2 ⟨a, b, h0, h8⟩)
  cases hpl : g.player <;> rw [hpl] at h1 h2 <;> simp only [epFromRow, forward] at h1 h2 <;>
    simp only
  · exact ⟨(hb 4 (by omega) (by omega)).trans h1, (hb 5 (by omega) (by omega)).trans h2⟩
  · exact ⟨(hb 3 (by omega) (by omega)).trans h1, (hb 2 (by omega) (by omega)).trans h2⟩

theorem saneG_of_fen {s : List Char} {g : Game} (hok : Game.ofFen s = .ok g)
    (h : Spec.sane g.abs = true) : SaneG g :=
  saneG_of_sane (ofFen_wf hok) h

/-! ## 2. The king after the move; the filter's test in the rules' words -/

theorem push_abs_eq {g : Game} (hs : SaneG g) {m : Move} (hm : m ∈ g.pseudoMoves) :
    (g.push m).abs = Spec.play g.abs m.toSpec :=
  push_abs_of_notInCheck hs.wf (hs.kings _) hs.safe hm

theorem push_kings {g : Game} (hs : SaneG g) {m : Move} (hm : m ∈ g.pseudoMoves) (pl : Player) :
    (g.push m).get ((g.push m).kingPos pl) = some ⟨.king, pl⟩ := by
  have hf := (generated_fits hs.wf hm).1
  refine king_after hs.wf hm (hs.kings pl) (fun e => ?_)
  have hc : m.cap = some ⟨.king, pl⟩ := by rw [← hf.step.get_stop, ← e]; exact hs.kings pl
  rcases player_eq_or g pl with rfl | rfl
  · exact (generated_shape' hm).cap _ hc rfl
  · exact noKingCapture_of_safe hs.wf hm hs.other_safe _ ((abs_at_dst hf).trans hc) rfl

/-- **the test of the filter is "the mover's king is attacked in the position the rules
prescribe"** -/
theorem filter_test_eq_inCheck {g : Game} (hs : SaneG g) {m : Move} (hm : m ∈ g.pseudoMoves) :
    (g.push m).isTargeted ((g.push m).kingPos g.player) g.player
      = Spec.inCheck (Spec.play g.abs m.toSpec) g.player := by
  obtain ⟨hf, hmo⟩ := generated_fits hs.wf hm
  rw [← push_abs_eq hs hm]
  exact test_eq_inCheck (push_kingInv hs.wf.kings hf hmo) (push_kings hs hm _)

/-! ## 3. The shortcut -/

/-- **The shortcut lemma.** If the mover's king is not attacked and a generated `Normal` move
starts on a square that shares no rank, file or diagonal with the king square, the king is not
attacked after the move: the filter may keep the move without testing it. -/
theorem shortcut_sound {g : Game} (hs : SaneG g) {pc : Piece} {start stop : Pos}
    {cap : Option Piece} (hm : Move.normal pc start stop cap ∈ g.pseudoMoves)
    (hsafe : g.isTargeted (g.kingPos g.player) g.player = false)
    (hskip : skipsCheck (g.kingPos g.player) (.normal pc start stop cap) = true) :
    Spec.inCheck (Spec.play g.abs (Move.normal pc start stop cap).toSpec) g.player = false := by
  rw [← filter_test_eq_inCheck hs hm]
  exact shortcut_engine hs.wf hm hsafe hskip

/-- the shortcut lemma with its hypotheses in the rules' words -/
theorem shortcut_sound_spec {g : Game} (hs : SaneG g) {pc : Piece} {start stop : Pos}
    {cap : Option Piece} (hm : Move.normal pc start stop cap ∈ g.pseudoMoves)
    (hsafe : Spec.inCheck g.abs g.player = false)
    (hun : Unaligned (start.row, start.col) ((g.kingPos g.player).row, (g.kingPos g.player).col)) :
    Spec.inCheck (Spec.play g.abs (Move.normal pc start stop cap).toSpec) g.player = false := by
  apply shortcut_sound hs hm
  · rw [test_eq_inCheck hs.wf.kings (hs.kings _)]; exact hsafe
  · obtain ⟨h1, h2, h3⟩ := hun
    simp only at h1 h2 h3
    simp only [skipsCheck, Bool.and_eq_true, decide_eq_true_eq, ne_eq]
    exact ⟨⟨h1, h2⟩, h3⟩

/-! ## 4. Checked = legal -/

theorem legal_iff (a : APos) (u : UciMove) :
    legal a u = true ↔ pseudo a u = true ∧ inCheck (play a u) a.side = false := by
  simp [legal]

/-- **none extra, none missing (move by move)**: a move is in the checked list iff it is generated
and legal by the rules -/
theorem checked_iff_legal {g : Game} (hs : SaneG g) (m : Move) :
    m ∈ (g.getMoves true).1 ↔ m ∈ g.pseudoMoves ∧ Spec.legal g.abs m.toSpec = true := by
  rw [mem_checked_iff hs.wf, legal_iff]
  constructor
  · rintro ⟨hm, h⟩
    refine ⟨hm, unchecked_subset_pseudo hs.wf hm, ?_⟩
    show inCheck (play g.abs m.toSpec) g.player = false
    rcases h with h | h
    · simp only [Bool.and_eq_true, Bool.not_eq_true'] at h
      cases m with
      | normal pc start stop cap => exact shortcut_sound hs hm h.1 h.2
      | _ => cases h.2
    · rw [← filter_test_eq_inCheck hs hm]
      simpa using h
  · rintro ⟨hm, -, hl⟩
    refine ⟨hm, .inr ?_⟩
    rw [filter_test_eq_inCheck hs hm, show inCheck _ g.player = false from hl]
    exact Bool.false_ne_true

/-! ## 5. None missing, none extra, none repeated -/

theorem allSqs_nodup : allSqs.Nodup := by
  unfold allSqs
  refine nodup_map_inj _ ?_ List.nodup_range
  intro a b e
  simp only [Prod.mk.injEq] at e
  omega

theorem candidates_nodup : candidates.Nodup := by
  unfold candidates
  refine nodup_flatMap_key _ _ (fun u => u.src) (fun s => s) allSqs_nodup ?_ ?_
    (fun _ _ _ _ h => h)
  · intro s _
    refine nodup_flatMap_key _ _ (fun u => u.dst) (fun t => t) allSqs_nodup ?_ ?_
      (fun _ _ _ _ h => h)
    · intro t _
      simp [List.Nodup]
    · intro t _ u hu
      simp only [List.mem_cons, List.not_mem_nil, or_false] at hu
      rcases hu with rfl | rfl | rfl | rfl | rfl <;> rfl
  · intro s _ u hu
    simp only [List.mem_flatMap, List.mem_cons, List.not_mem_nil, or_false] at hu
    obtain ⟨t, -, hu⟩ := hu
    rcases hu with rfl | rfl | rfl | rfl | rfl <;> rfl

theorem mem_legalList (a : APos) (u : UciMove) : u ∈ legalList a ↔ legal a u = true := by
  unfold legalList
  rw [List.mem_filter, Spec.mem_candidates]
  constructor
  · exact fun h => h.2
  · intro h
    have hp := ((legal_iff a u).1 h).1
    exact ⟨⟨(pseudo_onBoard hp).1, (pseudo_onBoard hp).2, pseudo_promo hp⟩, h⟩

theorem legalList_nodup (a : APos) : (legalList a).Nodup :=
  List.Nodup.sublist List.filter_sublist candidates_nodup

theorem legal_generated {g : Game} (hs : SaneG g) {u : UciMove} (hl : legal g.abs u = true) :
    ∃ m ∈ g.pseudoMoves, m.toSpec = u := by
  have hps := ((legal_iff _ _).1 hl).1
  rcases pseudo_subset_unchecked hs.wf (hs.kingExists _) hps with h | ⟨hg, hnear⟩
  · exact h
  · exfalso
    rcases near_king_step_illegal g hs.wf hg hps hnear (hs.kings _) with h | h
    · rw [hl] at h; cases h
    · rw [hs.safe] at h; cases h

/-- **none missing, none extra**: the text-level image of the checked list and the rules' list
of legal moves have the same members -/
theorem checked_mem_legalList {g : Game} (hs : SaneG g) (u : UciMove) :
    u ∈ (g.getMoves true).1.map Move.toSpec ↔ u ∈ Spec.legalList g.abs := by
  rw [mem_legalList, List.mem_map]
  constructor
  · rintro ⟨m, hm, rfl⟩
    exact ((checked_iff_legal hs m).1 hm).2
  · intro hl
    obtain ⟨m, hm, rfl⟩ := legal_generated hs hl
    exact ⟨m, (checked_iff_legal hs m).2 ⟨hm, hl⟩, rfl⟩

/-- **none repeated**: the checked list has no duplicates, even at text level -/
theorem checked_toSpec_nodup {g : Game} (hs : SaneG g) :
    ((g.getMoves true).1.map Move.toSpec).Nodup := by
  have h := (checked_sublist_unchecked hs.wf).map Move.toSpec
  rw [getMoves_false] at h
  exact List.Nodup.sublist h (pseudoMoves_toSpec_nodup hs.wf)

theorem checked_nodup {g : Game} (hs : SaneG g) : (g.getMoves true).1.Nodup := by
  have h := checked_sublist_unchecked hs.wf
  rw [getMoves_false] at h
  exact List.Nodup.sublist h (pseudoMoves_nodup hs.wf)

/-- **C01, the checked list**: as lists of text-level moves, the checked list is a permutation
of the rules' list of legal moves — none missing, none extra, none repeated -/
theorem checked_perm_legalList {g : Game} (hs : SaneG g) :
    ((g.getMoves true).1.map Move.toSpec).Perm (Spec.legalList g.abs) :=
  (List.perm_ext_iff_of_nodup (checked_toSpec_nodup hs) (legalList_nodup _)).2
    (checked_mem_legalList hs)

/-- `checked_perm_legalList` again: a permutation, not an equality of lists -/
theorem checked_eq_legalList {g : Game} (hs : SaneG g) :
    ((g.getMoves true).1.map Move.toSpec).Perm (Spec.legalList g.abs) :=
  checked_perm_legalList hs

/-- the same for the UCI texts the engine prints -/
theorem checked_uci_perm {g : Game} (hs : SaneG g) :
    ((g.getMoves true).1.map Move.uci).Perm ((Spec.legalList g.abs).map UciMove.text) := by
  have h := (checked_perm_legalList hs).map UciMove.text
  rw [List.map_map] at h
  have e : (UciMove.text ∘ Move.toSpec) = Move.uci := funext (fun m => toSpec_uci m)
  rw [e] at h
  exact h

theorem checked_uci_mem {g : Game} (hs : SaneG g) (t : List Char) :
    t ∈ (g.getMoves true).1.map Move.uci ↔ t ∈ (Spec.legalList g.abs).map UciMove.text :=
  (checked_uci_perm hs).mem_iff

/-! ## 6. The unchecked list -/

/-- **C01, the unchecked list**: every unchecked move is a geometrically valid piece move
(`pseudo`), and an unchecked move that is not in the checked list leaves the mover's own king
attacked -/
theorem unchecked_extra_moves {g : Game} (hs : SaneG g) {m : Move}
    (hm : m ∈ (g.getMoves false).1) :
    Spec.pseudo g.abs m.toSpec = true ∧
      (m ∉ (g.getMoves true).1 → Spec.inCheck (Spec.play g.abs m.toSpec) g.player = true) := by
  rw [getMoves_false] at hm
  have hps := unchecked_subset_pseudo hs.wf hm
  refine ⟨hps, fun hn => ?_⟩
  cases hc : Spec.inCheck (Spec.play g.abs m.toSpec) g.player with
  | true => rfl
  | false => exact absurd ((checked_iff_legal hs m).2 ⟨hm, (legal_iff _ _).2 ⟨hps, hc⟩⟩) hn

theorem checked_iff_unchecked_safe {g : Game} (hs : SaneG g) (m : Move) :
    m ∈ (g.getMoves true).1 ↔
      m ∈ (g.getMoves false).1 ∧ Spec.inCheck (Spec.play g.abs m.toSpec) g.player = false := by
  rw [checked_iff_legal hs, getMoves_false, legal_iff]
  constructor
  · exact fun h => ⟨h.1, h.2.2⟩
  · exact fun h => ⟨h.1, unchecked_subset_pseudo hs.wf h.1, h.2⟩

/-! ## 7. After every sequence of legal moves -/

theorem saneG_step {g : Game} (hs : SaneG g) {m : Move} (hm : m ∈ (g.getMoves true).1) :
    SaneG (g.push m) := by
  obtain ⟨hmp, hl⟩ := (checked_iff_legal hs m).1 hm
  refine ⟨push_wf_of_mem hs.wf hm, push_kings hs hmp, ?_⟩
  rw [push_abs_eq hs hmp, push_player, Player.other_other]
  exact ((legal_iff _ _).1 hl).2

/-- the checked list in the rules' words: a successor by a checked move is the successor the rules
prescribe for a legal move -/
theorem checked_push_abs {g : Game} (hs : SaneG g) {m : Move} (hm : m ∈ (g.getMoves true).1) :
    (g.push m).abs = Spec.play g.abs m.toSpec ∧ Spec.legal g.abs m.toSpec = true :=
  ⟨push_abs_eq hs ((checked_iff_legal hs m).1 hm).1, ((checked_iff_legal hs m).1 hm).2⟩

/-- `g'` differs from `g` at most in hash, score, their caches, the phase and the move record:
all that `abs`, `SaneG` and the move lists look at is the same -/
structure SameAs (g' g : Game) : Prop where
  board : g'.board = g.board
  wking : g'.wking = g.wking
  bking : g'.bking = g.bking
  player : g'.player = g.player
  state : g'.state = g.state

theorem abs_congr {g g' : Game} (h : SameAs g' g) : g'.abs = g.abs := by
  unfold Game.abs
  rw [h.board, h.player, top_congr h.state]

theorem saneG_congr {g g' : Game} (hs : SaneG g) (hw' : g'.WF) (h : SameAs g' g) : SaneG g' := by
  refine ⟨hw', fun pl => ?_, ?_⟩
  · rw [kingPos_congr h.wking h.bking, get_congr h.board]; exact hs.kings pl
  · rw [abs_congr h, h.player]; exact hs.safe

theorem checked_congr {g g' : Game} (hs : SaneG g) (hs' : SaneG g') (h : SameAs g' g) {m : Move}
    (hm : m ∈ (g.getMoves true).1) : m ∈ (g'.getMoves true).1 := by
  obtain ⟨hmp, hl⟩ := (checked_iff_legal hs m).1 hm
  have hl' : legal g'.abs m.toSpec = true := by rw [abs_congr h]; exact hl
  obtain ⟨m', hm', e⟩ := legal_generated hs' hl'
  obtain rfl : m' = m :=
    toSpec_inj_of_fits g' m' m (generated_fits hs'.wf hm').1
      ((fits_congr h.board h.wking h.bking h.player m).2 (generated_fits hs.wf hmp).1)
      (generated_shape hm') (generated_shape hmp) e
  exact (checked_iff_legal hs' m').2 ⟨hm', hl'⟩

/-- what `push_history` does before it plays the move: record it, refresh the phase -/
def prep (g : Game) (m : Move) : Game :=
  ({ g with moveStack := m :: g.moveStack } : Game).updatePhase

theorem pushHistory_eq (g : Game) (m : Move) : g.pushHistory m = (prep g m).push m := rfl

theorem prep_sameAs (g : Game) (m : Move) : SameAs (prep g m) g :=
  let ⟨hb, hp, hs, hw, hk⟩ := updatePhase_fields { g with moveStack := m :: g.moveStack }
  ⟨hb, hw, hk, hp, hs⟩

theorem saneG_prep {g : Game} (hs : SaneG g) (m : Move) : SaneG (prep g m) :=
  saneG_congr hs (updatePhase_wf (recordMove_wf m hs.wf)) (prep_sameAs g m)

theorem saneG_step_history {g : Game} (hs : SaneG g) {m : Move} (hm : m ∈ (g.getMoves true).1) :
    SaneG (g.pushHistory m) := by
  rw [pushHistory_eq]
  exact saneG_step (saneG_prep hs m) (checked_congr hs (saneG_prep hs m) (prep_sameAs g m) hm)

theorem pushHistory_abs {g : Game} (hs : SaneG g) {m : Move} (hm : m ∈ (g.getMoves true).1) :
    (g.pushHistory m).abs = Spec.play g.abs m.toSpec := by
  rw [pushHistory_eq, (checked_push_abs (saneG_prep hs m)
    (checked_congr hs (saneG_prep hs m) (prep_sameAs g m) hm)).1, abs_congr (prep_sameAs g m)]

/-- a line of moves, each taken from the checked list of the game reached so far -/
def pushAllChecked : Game → List Move → Prop
  | _, [] => True
  | g, m :: ms => m ∈ (g.getMoves true).1 ∧ pushAllChecked (g.push m) ms

/-- the same for `push_history` -/
def pushAllHistory : Game → List Move → Prop
  | _, [] => True
  | g, m :: ms => m ∈ (g.getMoves true).1 ∧ pushAllHistory (g.pushHistory m) ms

/-- **after every sequence of legal moves** (search-style play) -/
theorem legal_sequence_sane : ∀ (ms : List Move) (g : Game), SaneG g → pushAllChecked g ms →
    SaneG (pushAll g ms)
  | [], _, hs, _ => hs
  | m :: ms, g, hs, ⟨hm, hrest⟩ => legal_sequence_sane ms (g.push m) (saneG_step hs hm) hrest

/-- **after every sequence of legal moves** (moves played into the record) -/
theorem legal_history_sane : ∀ (ms : List Move) (g : Game), SaneG g → pushAllHistory g ms →
    SaneG (ms.foldl Game.pushHistory g)
  | [], _, hs, _ => hs
  | m :: ms, g, hs, ⟨hm, hrest⟩ =>
    legal_history_sane ms (g.pushHistory m) (saneG_step_history hs hm) hrest

/-- along a line of checked moves the engine follows the rules, and every move is legal there -/
theorem legal_sequence_abs : ∀ (ms : List Move) (g : Game), SaneG g → pushAllChecked g ms →
    (pushAll g ms).abs = Spec.playAll g.abs (ms.map Move.toSpec)
  | [], _, _, _ => rfl
  | m :: ms, g, hs, ⟨hm, hrest⟩ => by
    show (pushAll (g.push m) ms).abs = Spec.playAll (Spec.play g.abs m.toSpec) (ms.map Move.toSpec)
    rw [legal_sequence_abs ms (g.push m) (saneG_step hs hm) hrest, (checked_push_abs hs hm).1]

/-- games reachable from `g0` by legal play: checked moves, played into the record or tried by the
search -/
inductive LegalReach (g0 : Game) : Game → Prop
  | start : LegalReach g0 g0
  | played (g : Game) (m : Move) : LegalReach g0 g → m ∈ (g.getMoves true).1 →
      LegalReach g0 (g.pushHistory m)
  | searched (g : Game) (m : Move) : LegalReach g0 g → m ∈ (g.getMoves true).1 →
      LegalReach g0 (g.push m)

theorem legalReach_sane {g0 g : Game} (h0 : SaneG g0) (h : LegalReach g0 g) : SaneG g := by
  induction h with
  | start => exact h0
  | played g m _ hm ih => exact saneG_step_history ih hm
  | searched g m _ hm ih => exact saneG_step ih hm

/-- **C01.** In every position reachable by legal play from a sane starting position: the checked
list is (as text-level moves) a permutation of the rules' list of legal moves — none missing, none
extra, none repeated —, it is a sub-list of the unchecked list, every unchecked move is a
geometrically valid piece move, and an unchecked move outside the checked list leaves the mover's
own king attacked. -/
theorem C01 {g0 g : Game} (hw : g0.WF) (h0 : Spec.sane g0.abs = true) (h : LegalReach g0 g) :
    ((g.getMoves true).1.map Move.toSpec).Perm (Spec.legalList g.abs)
    ∧ (g.getMoves true).1.Nodup
    ∧ (g.getMoves true).1.Sublist (g.getMoves false).1
    ∧ ∀ m ∈ (g.getMoves false).1, Spec.pseudo g.abs m.toSpec = true ∧
        (m ∉ (g.getMoves true).1 → Spec.inCheck (Spec.play g.abs m.toSpec) g.player = true) := by
  have hs := legalReach_sane (saneG_of_sane hw h0) h
  exact ⟨checked_perm_legalList hs, checked_nodup hs, checked_sublist_unchecked hs.wf,
    fun m hm => unchecked_extra_moves hs hm⟩

/-- **C01 for a position imported from a FEN text** that is sane by the rules: no further
hypothesis -/
theorem C01_imported {s : List Char} {g0 g : Game} (hok : Game.ofFen s = .ok g0)
    (h0 : Spec.sane g0.abs = true) (h : LegalReach g0 g) :
    ((g.getMoves true).1.map Move.toSpec).Perm (Spec.legalList g.abs)
    ∧ (g.getMoves true).1.Nodup
    ∧ (g.getMoves true).1.Sublist (g.getMoves false).1
    ∧ ∀ m ∈ (g.getMoves false).1, Spec.pseudo g.abs m.toSpec = true ∧
        (m ∉ (g.getMoves true).1 → Spec.inCheck (Spec.play g.abs m.toSpec) g.player = true) :=
  C01 (saneG_of_fen hok h0).wf h0 h

theorem legalReach_reach {g0 g : Game} (h0 : Reach g0) (h : LegalReach g0 g) : Reach g := by
  induction h with
  | start => exact h0
  | played g m _ hm ih => exact .played g m ih hm
  | searched g m _ hm ih => exact .searched g m true ih hm

/-! ### the hypotheses are satisfiable: the standard start position -/

theorem startPos_sane : Spec.sane startPos = true := by decide +kernel

theorem startPos_material : MaterialOKBoard startPos.board := materialOKBoard_of_sane startPos_sane

/-- the reader accepts the standard start text, and the game it builds is `SaneG`: C01 holds for
every game reachable from it by legal play -/
theorem start_saneG : ∃ g, Game.ofFen startFen = .ok g ∧ g.abs = startPos ∧ SaneG g := by
  obtain ⟨g, hok, habs⟩ := ofFen_complete_of_sane startPos_eq_fen startPos_sane
  exact ⟨g, hok, habs, saneG_of_fen hok (by rw [habs]; exact startPos_sane)⟩

end Chess.Legal

#print axioms Chess.Legal.shortcut_sound
#print axioms Chess.Legal.shortcut_engine
#print axioms Chess.Legal.filter_test_eq_inCheck
#print axioms Chess.Legal.checked_iff_legal
#print axioms Chess.Legal.checked_perm_legalList
#print axioms Chess.Legal.checked_eq_legalList
#print axioms Chess.Legal.checked_mem_legalList
#print axioms Chess.Legal.checked_toSpec_nodup
#print axioms Chess.Legal.legalList_nodup
#print axioms Chess.Legal.checked_uci_perm
#print axioms Chess.Legal.unchecked_extra_moves
#print axioms Chess.Legal.saneG_step
#print axioms Chess.Legal.saneG_step_history
#print axioms Chess.Legal.saneG_of_sane
#print axioms Chess.Legal.legal_sequence_sane
#print axioms Chess.Legal.C01
#print axioms Chess.Legal.C01_imported
#print axioms Chess.Legal.saneG_of_fen
#print axioms Chess.Legal.start_saneG
