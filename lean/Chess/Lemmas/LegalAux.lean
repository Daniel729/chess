import Chess.Lemmas.Pseudo
import Chess.Lemmas.Refine
import Chess.Lemmas.Invariant

/-!
# Helpers for `Chess/Lemmas/Legal.lean` (property C01)

The geometric core of the engine's filter shortcut, and where a king stands after a generated move.
-/
namespace Chess.Legal
open Chess Chess.Spec Chess.Game

/-! ## The geometric core of the shortcut -/

/-- `s` shares neither rank, file nor diagonal with `k` (the test of `skipsCheck`) -/
def Unaligned (s k : Sq) : Prop :=
  s.2 - k.2 ≠ 0 ∧ s.1 - k.1 ≠ 0 ∧ (s.2 - k.2).natAbs ≠ (s.1 - k.1).natAbs

/-- every square of a ray that starts at `k` is aligned with `k` -/
theorem ray_aligned (k : Sq) {d : Int × Int} (hd : UnitDir d) (j : Nat) :
    ¬ Unaligned (k.1 + j * d.1, k.2 + j * d.2) k := by
  intro ⟨h2, h1, h3⟩
  have e : ∀ x y : Int, x + y - x = y := fun x y => by omega
  simp only [e, Int.natAbs_mul] at h1 h2 h3
  -- a component of the direction that is not 0 is ±1, so both offsets have absolute value `j`
  have one : ∀ x : Int, x = -1 ∨ x = 0 ∨ x = 1 → (j : Int) * x ≠ 0 → x.natAbs = 1 := by
    rintro x (rfl | rfl | rfl) h
    · rfl
    · exact absurd (Int.mul_zero _) h
    · rfl
  exact h3 (by rw [one _ hd.1 h1, one _ hd.2.1 h2])

/-- **The shortcut, in the rules' words.** A piece of `pl` leaves `start` (which shares no line
with `k`) and arrives on `stop`; nothing else changes. If `k` was not attacked by the other side
before, it is not attacked afterwards: the only square that became empty cannot open a line to `k`,
the arrival square now holds a piece of `pl` (it can only block), and what a knight, king or pawn
attacks does not depend on the other squares. -/
theorem attacked_after_unaligned (a a' : APos) (k start stop : Sq) (pl : Player) (pc : Piece)
    (hown : pc.owner = pl)
    (hstop : a'.at stop = some pc) (hstart : a'.at start = none)
    (hrest : ∀ q, q ≠ start → q ≠ stop → a'.at q = a.at q)
    (hun : Unaligned start k)
    (hsafe : attacked a k pl.other = false) : attacked a' k pl.other = false := by
  cases h : attacked a' k pl.other with
  | false => rfl
  | true =>
    exfalso
    rw [Spec.attacked_iff] at h
    obtain ⟨s, q, hq, hqo, hatt⟩ := h
    have hs1 : s ≠ stop := by
      rintro rfl
      rw [hstop] at hq
      cases hq
      rw [hown] at hqo
      exact Player.ne_other pl hqo
    have hs2 : s ≠ start := by
      rintro rfl
      rw [hstart] at hq
      cases hq
    have hq' : a.at s = some q := by rw [← hrest s hs2 hs1]; exact hq
    have key : attacksFrom a q s k = true := by
      by_cases hty : q.pieceType = .rook ∨ q.pieceType = .bishop ∨ q.pieceType = .queen
      · rw [Spec.attacksFrom_slider_iff a' q s k hty] at hatt
        rw [Spec.attacksFrom_slider_iff a q s k hty]
        obtain ⟨d, n, hd, hn, hs, hl, hclear⟩ := hatt
        refine ⟨d, n, hd, hn, hs, hl, fun j hj1 hj2 => ?_⟩
        have hc := hclear j hj1 hj2
        by_cases e1 : ((k.1 + j * d.1, k.2 + j * d.2) : Sq) = start
        · exact absurd (e1 ▸ hun) (ray_aligned k hd j)
        · by_cases e2 : ((k.1 + j * d.1, k.2 + j * d.2) : Sq) = stop
          · rw [e2, hstop] at hc
            cases hc
          · rw [← hrest _ e1 e2]
            exact hc
      · cases hpt : q.pieceType <;> simp only [hpt, reduceCtorEq, or_self, or_false, false_or,
          not_true_eq_false, not_false_eq_true] at hty <;>
          simp only [attacksFrom, hpt] at hatt ⊢ <;> exact hatt
    have : attacked a k pl.other = true := (Spec.attacked_iff a k pl.other).2 ⟨s, q, hq', hqo, key⟩
    rw [hsafe] at this
    cases this

/-! ## The board after a `Normal` move, read by the rules -/

/-- **the engine-side statement of the shortcut**: if the mover's cached king square is not
attacked and a generated `Normal` move starts on a square that shares no line with it, the cached
king square is not attacked after the move (no hypothesis on where the kings stand) -/
theorem shortcut_engine {g : Game} (hw : g.WF) {pc : Piece} {start stop : Pos} {cap : Option Piece}
    (hm : Move.normal pc start stop cap ∈ g.pseudoMoves)
    (hsafe : g.isTargeted (g.kingPos g.player) g.player = false)
    (hskip : skipsCheck (g.kingPos g.player) (.normal pc start stop cap) = true) :
    (g.push (.normal pc start stop cap)).isTargeted
      ((g.push (.normal pc start stop cap)).kingPos g.player) g.player = false := by
  obtain ⟨⟨hs, he, hne, hgs, hge, hkp⟩, hown, -⟩ := generated_fits hw hm
  have hkv : (g.kingPos g.player).Valid := hw.kings.kvalid g.player
  simp only [skipsCheck, Bool.and_eq_true, decide_eq_true_eq, ne_eq] at hskip
  have hnk : pc.pieceType ≠ .king := by
    intro hk
    rw [hkp hk] at hskip
    omega
  rw [push_kingPos_normal, if_neg (fun h => hnk h.1)]
  rw [Game.isTargeted_iff_attacked _ hkv] at hsafe ⊢
  refine attacked_after_unaligned g.abs _ _ (start.row, start.col) (stop.row, stop.col) g.player pc
    hown ?_ ?_ ?_ ⟨hskip.1.1, hskip.1.2, hskip.2⟩ hsafe
  · rw [← Game.get_eq_at _ stop he, push_get_normal g pc start stop cap hs he stop he, if_pos rfl]
  · rw [← Game.get_eq_at _ start hs, push_get_normal g pc start stop cap hs he start hs,
      if_neg hne, if_pos rfl]
  · intro q h1 h2
    cases hb : onBoard q with
    | false => rw [APos.at_offBoard _ _ hb, APos.at_offBoard _ _ hb]
    | true =>
      have hv : (Pos.mk q.1 q.2).Valid := Pos.valid_mk hb
      have e := Game.get_eq_at (g.push (.normal pc start stop cap)) ⟨q.1, q.2⟩ hv
      have e' := Game.get_eq_at g ⟨q.1, q.2⟩ hv
      simp only at e e'
      rw [← e, ← e', push_get_normal g pc start stop cap hs he _ hv,
        if_neg (fun h => h2 (by rw [← h])),
        if_neg (fun h => h1 (by rw [← h]))]

/-! ## Where the kings stand after a generated move -/

/-- a king that the move does not capture is on the board afterwards: where it stood, or on the
arrival square if it is the piece that moves -/
theorem king_survives {g : Game} {m : Move} (hf : g.Fits m) {pl : Player} {q : Pos} (hq : q.Valid)
    (hk : g.get q = some ⟨.king, pl⟩) (hns : q ≠ m.stop) :
    ∃ p, p.Valid ∧ (g.push m).get p = some ⟨.king, pl⟩ := by
  have hst := hf.step
  by_cases hqs : q = m.start
  · subst hqs
    have hp : some m.piece = some ⟨.king, pl⟩ := hst.get_start.symm.trans hk
    refine ⟨m.stop, hst.vstop, ?_⟩
    -- `push_get_writes` reads a square off the writes, the last one first; the last one puts the
    -- moving piece on `m.stop` (a pawn that promotes is no king)
    rw [push_get_writes g m (Bounds.writes_valid hf) _ hst.vstop]
    cases m with
    | promotion o t s e c | enPassant o sc ec => cases hp
    | _ => exact (if_pos rfl).trans hp
  · refine ⟨q, hq, ?_⟩
    -- `q` is none of the squares written: not start or stop, and the others hold no king
    rw [push_get_writes g m (Bounds.writes_valid hf) q hq]
    have ne : ∀ {p : Pos} {x : Option Piece}, g.get p = x → x ≠ some ⟨.king, pl⟩ → q ≠ p :=
      fun h hx e => hx (h ▸ e ▸ hk)
    cases m with
    | normal pc s e c | promotion o t s e c => exact (if_neg hns).trans ((if_neg hqs).trans hk)
    | enPassant o sc ec =>
      obtain ⟨-, -, -, -, -, -, -, htaken⟩ := hf
      exact (if_neg hns).trans ((if_neg hqs).trans ((if_neg (ne htaken nofun)).trans hk))
    | castlingShort o | castlingLong o =>
      -- the rook's corner and the square it crosses
      obtain ⟨-, -, -, hrook, hmid, -⟩ := hf
      exact (if_neg hns).trans ((if_neg (ne hmid nofun)).trans ((if_neg hqs).trans
        ((if_neg (ne hrook nofun)).trans hk)))

/-- a king on its cached square that a generated move does not capture stands on its cached
square afterwards -/
theorem king_after {g : Game} (hw : g.WF) {m : Move} (hm : m ∈ g.pseudoMoves) {pl : Player}
    (hk : g.get (g.kingPos pl) = some ⟨.king, pl⟩) (hns : g.kingPos pl ≠ m.stop) :
    (g.push m).get ((g.push m).kingPos pl) = some ⟨.king, pl⟩ := by
  obtain ⟨hf, hmo⟩ := generated_fits hw hm
  obtain ⟨p, hp, h⟩ := king_survives hf (hw.kings.kvalid pl) hk hns
  rw [(push_kingInv hw.kings hf hmo).unique p pl hp h]
  exact h

end Chess.Legal
