import Chess.Lemmas.SearchDriver

/-!
# Mate in one, and positions without legal moves (C10)

For every game interface `Ops G M`, from the fresh table: if a move kept by the repetition filter
mates, a search without limit or with a limit of at least 3 answers a mating move and stops by
itself at depth 3 or earlier (`mate_in_one_found`); a root without legal moves reports no move
(`dead_root_reports_none`; false from an arbitrary table: `driver_returns_cached_move`).

The idea. A value that is not an exact mate score obeys `Rng α β r`, that is
`min β (-evalBound) ≤ r ≤ max α evalBound`, for every window, empty and inverted ones too:
`qsearch` and `depth1` do (they are sound against their reference value, which is bounded:
`refQ_bounds`), and so does a table cut-off while every entry is fine (`TTOk`). Hence
iterations 1 and 2 end within `±evalBound`: no early exit through the mate range. At iteration 3 a
mated child of the root returns exactly `scoreMin + 101` (nothing sits under its hash, by `TTOk`
and `HashSep`) and every other child obeys `Rng`, so the best score is `mateScore` and the best
move mates.

The value contract `ValOk`, the loop invariants `NInv`, `RInv` and the loop lemmas have two
thresholds `E ≤ T` as variables; the mate in two (`Mate2*.lean`) rests on them too.

Both hypotheses are needed (section `Example`, by `#guard`): with one evaluation equal to
`±(evalBound + 1)` an early iteration ends in the mate range with a move that does not mate
(`exBig`); if the mated child shares its hash with the root it returns the root's entry and the
mate is never seen (`exCollide`). With a limit of 2 the mate is not seen as a mate (score `30767`)
and the limit ends the search; which move is played then is not covered.
-/
namespace Chess.Search.Mate
open Chess.Search

variable {G M : Type}

def Mated (o : Ops G M) (g : G) : Prop := o.checked g = [] ∧ o.safe g = false

def MatingMove (o : Ops G M) (g : G) (m : M) : Prop := m ∈ o.checked g ∧ Mated o (o.push g m)

/-- the largest static evaluation that is not in the driver's mate range: `31767` -/
def evalBound : Int := scoreMax - Gen.exitHi

/-- the score the root gives to a move that mates: `32667` -/
def mateScore : Int := -(scoreMin + Gen.mateNode + 1)

def Bounded (o : Ops G M) : Prop := ∀ g, -evalBound ≤ o.eval g ∧ o.eval g ≤ evalBound

/-- the window-relative bound obeyed by every value that is not an exact mate score -/
def Rng (α β r : Int) : Prop := min β (-evalBound) ≤ r ∧ r ≤ max α evalBound

theorem evalBound_eq : evalBound = 31767 := rfl

theorem mateScore_eq : mateScore = 32667 := rfl

theorem mateRange_iff {sc : Int} : mateRange sc ↔ evalBound < sc ∨ sc < -evalBound - 1 := by
  simp only [mateRange, evalBound_eq, scoreMax, scoreMin, Gen.exitHi, Gen.exitLo]
  omega

/-- a value tied to a reference value within `±evalBound` obeys `Rng` -/
theorem Rng.of_btwK {α β v r : Int} (h : BtwK (-evalBound) α β v r)
    (hv : -evalBound ≤ v ∧ v ≤ evalBound) : Rng α β r := by
  unfold BtwK at h
  unfold Rng
  omega

theorem foldl_max_bounds {lo hi : Int} (l : List Int) (a : Int) (ha : lo ≤ a ∧ a ≤ hi)
    (hl : ∀ x ∈ l, x ≤ hi) : lo ≤ l.foldl max a ∧ l.foldl max a ≤ hi :=
  ⟨Int.le_trans ha.1 (le_foldl_max l a), (foldl_max_le_iff l a hi).2 ⟨ha.2, hl⟩⟩

/-- On a set `P` of positions closed under the moves quiescence plays, on which the static
evaluation is out of the mate range, the reference value of quiescence is out of the mate range
too, and a quiescence node without moves is harmless for `K = -evalBound`: the soundness of
`qsearch` and `depth1` against the reference (`qsearch_btwK`, `depth1_btwK`) applies.

The caps on `rd` (1000 here, then 800, 700, 600, 500 and `limit ≤ 400` up the callers, `Mate2*`
included) are round numbers, not sharp: a no-move value `scoreMin + mateQ + rd` or
`scoreMin + mateD1 + rd` has to stay within `±evalBound` and a mate score `scoreMin + mateNode + rd`
inside the driver's mate range (`rd ≤ 900`, in `Mate2.ValOk.dead`), each caller leaves room for
`qFuel = 100` or for the plies it adds, and the driver discharges the last cap by
`limitOf md ≤ MAX_DEPTH = 32`. -/
theorem refQ_bounds (o : Ops G M) (P : G → Prop)
    (hstep : ∀ x m, P x → m ∈ o.unchecked x → P (o.push x m))
    (hbound : ∀ x, P x → -evalBound ≤ o.eval x ∧ o.eval x ≤ evalBound) :
    ∀ (fuel : Nat) (g : G) (rd : Int), P g → 0 ≤ rd → rd + fuel ≤ 1000 →
      QTameK (-evalBound) o fuel g rd ∧ -evalBound ≤ refQ o fuel g rd ∧
        refQ o fuel g rd ≤ evalBound := by
  intro fuel
  induction fuel with
  | zero => exact fun g rd hg _ _ => ⟨trivial, hbound g hg⟩
  | succ f ih =>
    intro g rd hg h0 h1
    have he := hbound g hg
    have hd : -evalBound ≤ deadValue o Gen.mateQ g rd ∧ deadValue o Gen.mateQ g rd ≤ evalBound := by
      simp only [deadValue, evalBound_eq, scoreMin, Gen.mateQ]
      split <;> omega
    have hc := fun m (hm : m ∈ o.unchecked g) =>
      ih (o.push g m) (rd + 1) (hstep g m hg hm) (by omega) (by omega)
    refine ⟨⟨fun _ => Or.inr ⟨by omega, by omega⟩, fun m hm _ => (hc m hm).1⟩, ?_⟩
    simp only [refQ]
    split
    · exact hd
    · refine foldl_max_bounds _ _ he fun x hx => ?_
      obtain ⟨m, hm, rfl⟩ := List.mem_map.1 hx
      have := (hc m (List.mem_filter.1 hm).1).2
      omega

theorem qsearch_rng_on (o : Ops G M) (P : G → Prop)
    (hstep : ∀ x m, P x → m ∈ o.unchecked x → P (o.push x m))
    (hbound : ∀ x, P x → -evalBound ≤ o.eval x ∧ o.eval x ≤ evalBound)
    (fuel : Nat) (g : G) (α β rd : Int) (hg : P g) (h0 : 0 ≤ rd) (h1 : rd + fuel ≤ 1000) :
    Rng α β (qsearch o fuel g α β rd) :=
  have h := refQ_bounds o P hstep hbound fuel g rd hg h0 h1
  Rng.of_btwK (qsearch_btwK _ o fuel g α β rd h.1) h.2

theorem qsearch_rng (o : Ops G M) (hb : Bounded o) (fuel : Nat) (g : G) (α β rd : Int) :
    0 ≤ rd → rd + fuel ≤ 1000 → Rng α β (qsearch o fuel g α β rd) :=
  qsearch_rng_on o (fun _ => True) (fun _ _ _ _ => trivial) (fun x _ => hb x) fuel g α β rd trivial

theorem depth1_rng (o : Ops G M) (hb : Bounded o) (g : G) (α β rd : Int) (h0 : 0 ≤ rd)
    (h1 : rd ≤ 800) : Rng α β (depth1 o g α β rd) := by
  have hq := fun m (_ : m ∈ o.unchecked g) => refQ_bounds o (fun _ => True)
    (fun _ _ _ _ => trivial) (fun x _ => hb x) qFuel (o.push g m) (rd + 1) trivial (by omega)
    (by unfold qFuel; omega)
  have hs : ∀ m ∈ o.unchecked g, -evalBound ≤ d1Score o g rd m ∧ d1Score o g rd m ≤ evalBound :=
    fun m hm => by have := (hq m hm).2; unfold d1Score; omega
  refine Rng.of_btwK (depth1_btwK _ o g α β rd fun m hm => (hq m hm).1) ?_
  rw [refD1_eq]
  unfold nodeValue
  cases hms : o.unchecked g with
  | nil =>
    simp only [List.isEmpty_nil, if_true, deadValue, evalBound_eq, scoreMin, Gen.mateD1]
    split <;> omega
  | cons m ms =>
    rw [hms] at hs
    simp only [List.isEmpty_cons, Bool.false_eq_true, if_false, List.map_cons, maxL]
    exact foldl_max_bounds _ _ (hs m List.mem_cons_self) fun x hx => by
      obtain ⟨m', hm', rfl⟩ := List.mem_map.1 hx
      exact (hs m' (List.mem_cons_of_mem _ hm')).2

section Entries
variable {P : UInt64 → Entry M → Prop}

theorem entries_poll {st : St M} (H : ∀ h e, st.tt[h]? = some e → P h e) :
    ∀ h e, (pollSt st).tt[h]? = some e → P h e := by
  simp only [pollSt]
  split
  · exact forall_entries_empty
  · exact H

end Entries

theorem ttCut_some {x : Option (Entry M)} {rem : Nat} {a b v : Int}
    (hv : ttCut x rem a b = some v) :
    ∃ e, x = some e ∧ rem ≤ e.depth ∧ v = e.score ∧ (e.flag ≠ Flag.upper ∨ v ≤ a) ∧
      (e.flag ≠ Flag.lower ∨ b ≤ v) := by
  unfold ttCut at hv
  split at hv
  · next e =>
    split at hv
    · next hd =>
      refine ⟨e, rfl, hd, ?_⟩
      split at hv
      · next hf =>
        cases hv
        exact ⟨rfl, Or.inl (by rw [hf]; decide), Or.inl (by rw [hf]; decide)⟩
      · next hf =>
        split at hv
        · next hge => cases hv; exact ⟨rfl, Or.inl (by rw [hf]; decide), Or.inr hge⟩
        · cases hv
      · next hf =>
        split at hv
        · next hle => cases hv; exact ⟨rfl, Or.inr hle, Or.inl (by rw [hf]; decide)⟩
        · cases hv
    · cases hv
  · cases hv

/-- every entry has depth at most `d`, a score that is not in the mate range on the side on which
its flag makes it usable, and is stored under the hash of a position that has a legal move -/
def TTOk (o : Ops G M) (d : Nat) (tt : Table M) : Prop :=
  ∀ (h : UInt64) (e : Entry M), tt[h]? = some e →
    e.depth ≤ d ∧ (e.flag ≠ Flag.upper → e.score ≤ evalBound) ∧
    (e.flag ≠ Flag.lower → -evalBound ≤ e.score) ∧ ∃ x, o.hash x = h ∧ o.checked x ≠ []

theorem TTOk_empty (o : Ops G M) (d : Nat) : TTOk o d ({} : Table M) := forall_entries_empty

theorem TTOk.mono {o : Ops G M} {d d' : Nat} {tt : Table M} (h : TTOk o d tt) (hd : d ≤ d') :
    TTOk o d' tt := fun k e he => ⟨Nat.le_trans (h k e he).1 hd, (h k e he).2⟩

theorem TTOk.insert {o : Ops G M} {d : Nat} {tt : Table M} (h : TTOk o d tt) (x : G) (e : Entry M)
    (hx : o.checked x ≠ []) (hd : e.depth ≤ d) (h1 : e.flag ≠ Flag.upper → e.score ≤ evalBound)
    (h2 : e.flag ≠ Flag.lower → -evalBound ≤ e.score) : TTOk o d (tt.insert (o.hash x) e) :=
  forall_entries_insert h ⟨hd, h1, h2, x, rfl, hx⟩

theorem TTOk.poll {o : Ops G M} {d : Nat} {st : St M} (h : TTOk o d st.tt) :
    TTOk o d (pollSt st).tt := entries_poll h

theorem ttCut_rng {o : Ops G M} {d : Nat} {tt : Table M} (h : TTOk o d tt) (k : UInt64)
    (rem : Nat) (a b v : Int) (hv : ttCut tt[k]? rem a b = some v) : Rng a b v := by
  obtain ⟨e, he, _, rfl, hu, hl⟩ := ttCut_some hv
  obtain ⟨_, h1, h2, _⟩ := h k e he
  unfold Rng
  constructor
  · rcases hl with f | f
    · have := h2 f; omega
    · omega
  · rcases hu with f | f
    · have := h1 f; omega
    · omega

/-! ## What a returned value says, and the two move loops

`E ≤ T` are two thresholds (in most uses `evalBound` and the largest mate score). -/

/-- the thresholds fit the 16-bit range -/
def Thresholds (E T : Int) : Prop := 0 ≤ E ∧ E ≤ T ∧ T + 1 < -scoreMin

/-- What the value `v` returned for the window `(a, b)` says of the position searched: it lies
within `±T` unless it echoes a window bound; above `max a E` it claims `W` ("won"), below
`min b (-E)` it claims `L` ("lost"); and if the position is known to be won (`CW`) or lost (`CL`)
the value says so as far as the window allows. -/
structure ValOk (E T : Int) (W L CW CL : Prop) (a b v : Int) : Prop where
  lo : min b (-T) ≤ v
  hi : v ≤ max a T
  up : v ≤ max a E ∨ W
  dn : min b (-E) ≤ v ∨ L
  cw : CW → min b (E + 1) ≤ v
  cl : CL → v ≤ max a (-E - 1)

section Loops
variable {E T : Int}

/-- negamax: the child's value for `(-b, -a)`, negated, is a value for `(a, b)` with the roles of
the two sides exchanged -/
theorem ValOk.neg {W L CW CL : Prop} {a b a' b' v : Int} (h : ValOk E T W L CW CL a' b' v)
    (ha : a' = -b) (hb : b' = -a) : ValOk E T L W CL CW a b (-v) := by
  subst ha hb
  exact ⟨by have := h.hi; omega, by have := h.lo; omega, h.dn.imp (fun k => by omega) id,
    h.up.imp (fun k => by omega) id, fun k => by have := h.cl k; omega,
    fun k => by have := h.cw k; omega⟩

/-- a value within `±evalBound` claims nothing -/
theorem ValOk.of_rng {W L CW CL : Prop} {a b v : Int} (hE : evalBound ≤ E) (hT : E ≤ T)
    (h : Rng a b v) (hw : ¬ CW) (hl : ¬ CL) : ValOk E T W L CW CL a b v := by
  unfold Rng at h
  exact ⟨by omega, by omega, Or.inl (by omega), Or.inl (by omega), fun k => absurd k hw,
    fun k => absurd k hl⟩

/-- a null-window probe that fails low is a value for every window above the same `a` -/
theorem ValOk.widen {W L CW CL : Prop} {a b v : Int} (h : ValOk E T W L CW CL a (a + 1) v)
    (hv : v ≤ a) : ValOk E T W L CW CL a b v :=
  ⟨by have := h.lo; omega, h.hi, h.up, h.dn.imp (fun k => by omega) id,
    fun k => by have := h.cw k; omega, h.cl⟩

/-- the value `w` of a re-search with the window `(t, b)`, `t` being the value of a probe with a
window above `a`, is a value for `(a, b)` -/
theorem ValOk.research {W L CW CL : Prop} {a b b' t w : Int} (p : ValOk E T W L CW CL a b' t)
    (r : ValOk E T W L CW CL t b w) : ValOk E T W L CW CL a b w :=
  ⟨r.lo, by have := p.hi; have := r.hi; omega,
    r.up.elim (fun k => p.up.imp (fun k' => by omega) id) Or.inr, r.dn, r.cw,
    fun k => by have := p.cl k; have := r.cl k; omega⟩

/-- The invariant of the move loop of a node called with the window `(a, β)`. `W`, `CW`, `CL` are
what a value says of the node, as in `ValOk`; `PW`: every move tried so far leads to a position won
for the opponent; `pend`: a move into a position known to be lost for the opponent is still to
come; `first`: no move has been tried. `strict`: every move is searched with the full window; then
the best score, which is what the node stores, obeys the lower clauses too (a re-search overwrites
it, whatever its result). -/
structure NInv (E T a β : Int) (strict W CW CL PW pend first : Prop) (alpha bs : Int) : Prop where
  lo : a ≤ alpha
  bsa : bs ≤ max alpha scoreMin
  nU : alpha ≤ max a T
  nL : first ∨ min β (-T) ≤ alpha
  cU : alpha ≤ max a E ∨ W
  cL : PW ∨ min β (-E) ≤ alpha
  cW : CW → pend ∨ E < alpha ∨ β ≤ alpha
  cLo : CL → alpha ≤ max a (-E - 1)
  nLb : first ∨ min β (-T) ≤ bs
  sb : strict → alpha ≤ max a bs
  bL : strict → (PW ∨ min β (-E) ≤ bs) ∧ (CW → pend ∨ E < bs ∨ β ≤ bs)

theorem NInv.imp {a β : Int} {strict W CW CL PW pend first PW' pend' first' : Prop}
    {alpha bs : Int} (h : NInv E T a β strict W CW CL PW pend first alpha bs) (h1 : PW → PW')
    (h2 : pend → pend') (h3 : first → first') :
    NInv E T a β strict W CW CL PW' pend' first' alpha bs :=
  { h with
    nL := h.nL.imp h3 id, cL := h.cL.imp h1 id, cW := fun k => (h.cW k).imp h2 id
    nLb := h.nLb.imp h3 id
    bL := fun k => ⟨(h.bL k).1.imp h1 id, fun w => ((h.bL k).2 w).imp h2 id⟩ }

/-- after a cut-off the clauses about the moves not tried hold for free -/
theorem NInv.of_cut {a β : Int} {strict W CW CL PW pend PW' pend' first' : Prop} {alpha bs : Int}
    (h : NInv E T a β strict W CW CL PW pend False alpha bs) (hc : β ≤ alpha)
    (hab : strict → a < β) : NInv E T a β strict W CW CL PW' pend' first' alpha bs :=
  { h with
    nL := Or.inr (h.nL.resolve_left id)
    cL := Or.inr (by omega)
    cW := fun _ => Or.inr (Or.inr hc)
    nLb := Or.inr (h.nLb.resolve_left id)
    bL := fun k => by
      have := h.sb k
      have := hab k
      exact ⟨Or.inr (by omega), fun _ => Or.inr (Or.inr (by omega))⟩ }

theorem NInv.init {a β : Int} {strict W CW CL pend : Prop} (hp : CW → pend) :
    NInv E T a β strict W CW CL True pend True a scoreMin :=
  ⟨Int.le_refl _, by omega, by omega, Or.inl trivial, Or.inl (by omega), Or.inl trivial,
    fun k => Or.inl (hp k), fun _ => by omega, Or.inl trivial, fun _ => by omega,
    fun _ => ⟨Or.inl trivial, fun k => Or.inl (hp k)⟩⟩

theorem NInv.valOk {a β : Int} {strict W L CW CL PW : Prop} {alpha bs : Int}
    (h : NInv E T a β strict W CW CL PW False False alpha bs) (hL : PW → L) :
    ValOk E T W L CW CL a β alpha :=
  ⟨h.nL.resolve_left id, h.nU, h.cU, h.cL.elim (fun k => Or.inr (hL k)) Or.inl,
    fun k => by rcases h.cW k with k' | k' | k'; exact k'.elim; all_goals omega, h.cLo⟩

/-- a move searched with the full window; `w` is its score -/
theorem NInv.full {a β : Int} {strict W CW CL PW pend pend' first Good Bad CGood CBad : Prop}
    {alpha bs w : Int} (h : NInv E T a β strict W CW CL PW pend first alpha bs)
    (c : ValOk E T Good Bad CGood CBad alpha β w) (hW : Good → W) (hp : pend → CGood ∨ pend')
    (hL : CL → CBad) :
    NInv E T a β strict W CW CL (PW ∧ Bad) pend' False (max alpha w) (max bs w) := by
  have hlo := h.lo
  -- the lower clauses, for `alpha` and for the best score alike
  have low : ∀ z : Int, (PW ∨ min β (-E) ≤ z) → (CW → pend ∨ E < z ∨ β ≤ z) →
      ((PW ∧ Bad) ∨ min β (-E) ≤ max z w) ∧ (CW → pend' ∨ E < max z w ∨ β ≤ max z w) := by
    intro z k1 k2
    refine ⟨?_, fun hw => ?_⟩
    · rcases c.dn with k | k
      · exact Or.inr (by omega)
      · exact k1.imp (fun k' => ⟨k', k⟩) (fun k' => by omega)
    · rcases k2 hw with k | k | k
      · rcases hp k with k' | k'
        · have := c.cw k'
          exact Or.inr (by omega)
        · exact Or.inl k'
      · exact Or.inr (Or.inl (by omega))
      · exact Or.inr (Or.inr (by omega))
  exact
    { lo := by omega
      bsa := by have := h.bsa; omega
      nU := by have := h.nU; have := c.hi; omega
      nL := Or.inr (by have := c.lo; omega)
      cU := by
        rcases h.cU with k | k
        · rcases c.up with k' | k'
          · exact Or.inl (by omega)
          · exact Or.inr (hW k')
        · exact Or.inr k
      cL := (low alpha h.cL h.cW).1
      cW := (low alpha h.cL h.cW).2
      cLo := fun k => by have := h.cLo k; have := c.cl (hL k); omega
      nLb := Or.inr (by have := c.lo; omega)
      sb := fun k => by have := h.sb k; omega
      bL := fun k => low bs (h.bL k).1 (h.bL k).2 }

/-- outside the `strict` mode nothing is claimed of the best score beyond its range -/
theorem NInv.best {a β : Int} {strict W CW CL PW pend first : Prop} {alpha bs bs' : Int}
    (h : NInv E T a β strict W CW CL PW pend first alpha bs) (hns : ¬ strict)
    (h1 : bs' ≤ max alpha scoreMin) (h2 : min β (-T) ≤ bs') :
    NInv E T a β strict W CW CL PW pend first alpha bs' :=
  { h with bsa := h1, nLb := Or.inr h2, sb := fun k => absurd k hns, bL := fun k => absurd k hns }

/-- The contract of a child call: for every window (non-empty, if `strict`), made in a state
satisfying `Q`, it answers, keeps `Q`, and its value is fine. -/
def ChildC (E T : Int) (Q : St M → Prop) (strict : Prop)
    (child : G → Int → Int → Int → St M → Option (Int × St M)) (c : G) (rdc : Int)
    (W L CW CL : Prop) : Prop :=
  ∀ a b st, (strict → a < b) → Q st →
    ∃ v st', child c a b rdc st = some (v, st') ∧ Q st' ∧ ValOk E T W L CW CL a b v

theorem ChildC.strict {Q : St M → Prop} {child : G → Int → Int → Int → St M → Option (Int × St M)}
    {c : G} {rdc : Int} {W L CW CL : Prop} (h : ChildC E T Q False child c rdc W L CW CL) :
    ChildC E T Q True child c rdc W L CW CL :=
  fun a b st _ hQ => h a b st (fun k => k.elim) hQ

/-- one move of the loop; a move of index above `fullWindowMaxIndex` needs children that answer
empty and inverted windows too (`¬ strict`) -/
theorem nodeStep_NInv (o : Ops G M) (child : G → Int → Int → Int → St M → Option (Int × St M))
    (x : G) (rd a β : Int) (hT : Thresholds E T) {Q : St M → Prop} (m : M)
    {strict W CW CL Wc Lc CWc CLc PW pend pend' first : Prop}
    (hc : ChildC E T Q strict child (o.push x m) (rd + 1) Wc Lc CWc CLc) (hW : Lc → W)
    (hp : pend → CLc ∨ pend') (hL : CL → CWc) (index : Nat) (alpha bs : Int) (bm : Option M)
    (st : St M) (hfi : first → index = 0) (hfull : strict → index ≤ Gen.fullWindowMaxIndex)
    (hQ : Q st) (hab : (first ∧ ¬ strict) ∨ alpha < β)
    (hI : NInv E T a β strict W CW CL PW pend first alpha bs) :
    ∃ alpha' bs' bm' st', nodeStep o child x rd β m index alpha bs bm st =
        some (alpha', bs', bm', st') ∧ Q st' ∧
      NInv E T a β strict W CW CL (PW ∧ Wc) pend' False alpha' bs' := by
  unfold nodeStep
  simp only []
  by_cases hidx : index ≤ Gen.fullWindowMaxIndex
  · rw [if_pos hidx]
    obtain ⟨v, st1, he, hQ1, c⟩ := hc (-β) (-alpha) st
      (fun k => by have := hab.resolve_left (fun k' => k'.2 k); omega) hQ
    rw [he]
    simp only []
    have hI' := hI.full (c.neg rfl rfl) hW hp hL
    by_cases hs : -v > bs
    · simp only [hs, if_true]
      refine ⟨_, _, _, _, rfl, hQ1, ?_⟩
      rwa [show max bs (-v) = -v by omega] at hI'
    · simp only [hs, if_false]
      refine ⟨_, _, _, _, rfl, hQ1, ?_⟩
      rwa [show max bs (-v) = bs by omega] at hI'
  · rw [if_neg hidx]
    have hns : ¬ strict := fun k => hidx (hfull k)
    have hnf : ¬ first := fun k => by
      have := hfi k
      simp only [Gen.fullWindowMaxIndex] at hidx
      omega
    have hI0 : NInv E T a β strict W CW CL PW pend False alpha bs := hI.imp id id hnf
    obtain ⟨v, st1, he, hQ1, p⟩ := hc (-alpha - 1) (-alpha) st (fun k => absurd k hns) hQ
    rw [he]
    simp only []
    have p' := p.neg (a := alpha) (b := alpha + 1) (by omega) rfl
    by_cases hs : -v > bs
    · simp only [hs, if_true]
      obtain ⟨v2, st2, he2, hQ2, r⟩ := hc (-β) (- -v) st1 (fun k => absurd k hns) hQ1
      rw [he2]
      simp only []
      have r' := r.neg (a := -v) rfl rfl
      exact ⟨_, _, _, _, rfl, hQ2,
        (hI0.full (p'.research r') hW hp hL).best hns (by omega) r'.lo⟩
    · simp only [hs, if_false]
      refine ⟨_, _, _, _, rfl, hQ1, ?_⟩
      by_cases ht : -v ≤ alpha
      · -- the probe fails low: it counts as a search with the full window
        have hI' := hI0.full (p'.widen ht) hW hp hL
        rwa [show max alpha (-v) = alpha by omega, show max bs (-v) = bs by omega] at hI'
      · -- `alpha < -v ≤ bs`: `alpha` is below the 16-bit range, hence at least `β`
        have := hI0.bsa
        have := hI0.nL.resolve_left id
        have := hT.2.1
        have := hT.2.2
        exact hI0.of_cut (by omega) fun k => absurd k hns

/-- **The move loop of an interior node.** `Q` does not look at the killer and history tables.
Either the children answer every window (`¬ strict`; an empty or inverted window of the node itself
is then cut by the first move), or the windows are non-empty and every move is searched with the
full window. -/
theorem nodeLoop_NInv (o : Ops G M) (child : G → Int → Int → Int → St M → Option (Int × St M))
    (x : G) (remaining : Nat) (rd a β : Int) (hT : Thresholds E T) {Q : St M → Prop}
    (hF : ∀ (st : St M) ks hs, Q st → Q { st with killers := ks, history := hs })
    {strict W CW CL : Prop} {Wc Lc CWc CLc : M → Prop} :
    ∀ (ms : List M), (∀ m ∈ ms, ChildC E T Q strict child (o.push x m) (rd + 1) (Wc m) (Lc m)
        (CWc m) (CLc m) ∧ (Lc m → W) ∧ (CL → CWc m)) →
      ∀ (index : Nat) (alpha bs : Int) (bm : Option M) (st : St M) (PW first : Prop),
        (first → index = 0) → (strict → index + ms.length ≤ Gen.fullWindowMaxIndex + 1) → Q st →
        ((first ∧ ¬ strict) ∨ alpha < β) →
        NInv E T a β strict W CW CL PW (∃ m ∈ ms, CLc m) first alpha bs →
        ∃ out, nodeLoop o child x remaining rd β ms index alpha bs bm st = some out ∧ Q out.st ∧
          NInv E T a β strict W CW CL (PW ∧ ∀ m ∈ ms, Wc m) False (first ∧ ms = []) out.alpha
            out.bestScore := by
  intro ms
  induction ms with
  | nil =>
    intro _ index alpha bs bm st PW first _ _ hQ _ hI
    exact ⟨⟨alpha, bs, bm, st⟩, rfl, hQ, hI.imp (fun k => ⟨k, fun _ h => nomatch h⟩)
      (fun ⟨_, h, _⟩ => nomatch h) (fun k => ⟨k, rfl⟩)⟩
  | cons m ms ih =>
    intro hc index alpha bs bm st PW first hfi hfull hQ hab hI
    obtain ⟨hcm, hW, hL⟩ := hc m List.mem_cons_self
    have hlo := hI.lo
    obtain ⟨alpha', bs', bm', st', hs, hQ', hI'⟩ := nodeStep_NInv o child x rd a β hT m hcm hW
      (pend' := ∃ m' ∈ ms, CLc m')
      (fun ⟨m', hm', k⟩ => (List.mem_cons.1 hm').elim (fun e => Or.inl (e ▸ k))
        (fun hm' => Or.inr ⟨m', hm', k⟩))
      hL index alpha bs bm st hfi
      (fun k => by have := hfull k; simp only [List.length_cons] at this; omega) hQ hab hI
    rw [nodeLoop_cons, hs]
    simp only []
    by_cases hcut : alpha' ≥ β
    · simp only [hcut, if_true]
      refine ⟨_, rfl, ?_, hI'.of_cut hcut
        fun k => by have := hab.resolve_left (fun k' => k'.2 k); omega⟩
      cases o.histIdx m <;> exact hF _ _ _ hQ'
    · simp only [hcut, if_false]
      obtain ⟨out, k1, k2, k3⟩ := ih (fun m' hm' => hc m' (List.mem_cons_of_mem _ hm'))
        (index + 1) alpha' bs' bm' st' (PW ∧ Wc m) False (fun k => k.elim)
        (fun k => by have := hfull k; simp only [List.length_cons] at this; omega) hQ'
        (Or.inr (by omega)) hI'
      exact ⟨out, k1, k2, k3.imp (fun ⟨⟨k4, k5⟩, k6⟩ => ⟨k4, List.forall_mem_cons.2 ⟨k5, k6⟩⟩) id
        (fun k => k.1.elim)⟩

/-- The invariant of the root loop. `Gd m`: the move `m` leads to a position lost for the opponent;
`PW`, `pend`, `first` as in `NInv`; the completeness clause is only claimed under `cr`. -/
structure RInv (E T : Int) (Gd : M → Prop) (cr PW pend first : Prop) (bs : Int) (bm : Option M) :
    Prop where
  lo : scoreMin + 1 ≤ bs
  hi : bs ≤ T
  nL : first ∨ -T ≤ bs
  good : bs ≤ E ∨ ∃ m, bm = some m ∧ Gd m
  low : PW ∨ -E ≤ bs
  cmp : cr → pend ∨ E < bs
  bmS : scoreMin + 1 < bs → bm.isSome

theorem RInv.imp {Gd : M → Prop} {cr PW pend first PW' pend' first' : Prop} {bs : Int}
    {bm : Option M} (h : RInv E T Gd cr PW pend first bs bm) (h1 : PW → PW') (h2 : pend → pend')
    (h3 : first → first') : RInv E T Gd cr PW' pend' first' bs bm :=
  { h with nL := h.nL.imp h3 id, low := h.low.imp h1 id, cmp := fun k => (h.cmp k).imp h2 id }

theorem RInv.init {Gd : M → Prop} {cr pend : Prop} (hT : Thresholds E T) (hp : cr → pend) :
    RInv E T Gd cr True pend True (scoreMin + 1) none := by
  obtain ⟨hE0, hET, hTs⟩ := hT
  exact ⟨Int.le_refl _, by omega, Or.inl trivial, Or.inl (by omega), Or.inl trivial,
    fun k => Or.inl (hp k), fun k => absurd k (Int.lt_irrefl _)⟩

/-- a move searched with the full window `(bs, -(scoreMin + 1))`; `w` is its score -/
theorem RInv.full {Gd : M → Prop} {cr PW pend pend' first Good Bad CGood CBad : Prop} {bs w : Int}
    {bm : Option M} {m : M} (hT : Thresholds E T) (h : RInv E T Gd cr PW pend first bs bm)
    (c : ValOk E T Good Bad CGood CBad bs (-(scoreMin + 1)) w) (hG : Good → Gd m)
    (hp : pend → CGood ∨ pend') :
    RInv E T Gd cr (PW ∧ Bad) pend' False (if w > bs then w else bs)
      (if w > bs then some m else bm) := by
  obtain ⟨hE0, hET, hTs⟩ := hT
  have hlo := h.lo
  have hhi := h.hi
  have hcmp : ∀ bs1 : Int, w ≤ bs1 → bs ≤ bs1 → cr → pend' ∨ E < bs1 := by
    intro bs1 h1 h2 hcr
    rcases h.cmp hcr with k | k
    · rcases hp k with k' | k'
      · have := c.cw k'
        exact Or.inr (by omega)
      · exact Or.inl k'
    · exact Or.inr (by omega)
  have hlow : ∀ bs1 : Int, w ≤ bs1 → bs ≤ bs1 → (PW ∧ Bad) ∨ -E ≤ bs1 := by
    intro bs1 h1 h2
    rcases c.dn with k | k
    · exact Or.inr (by omega)
    · exact h.low.imp (fun k' => ⟨k', k⟩) (fun k' => by omega)
  by_cases hs : w > bs
  · simp only [hs, if_true]
    refine ⟨by omega, by have := c.hi; omega, Or.inr (by have := c.lo; omega), ?_,
      hlow w (by omega) (by omega), hcmp w (by omega) (by omega), fun _ => rfl⟩
    rcases c.up with k | k
    · exact Or.inl (by omega)
    · exact Or.inr ⟨m, rfl, hG k⟩
  · simp only [hs, if_false]
    exact ⟨hlo, hhi, Or.inr (by have := c.lo; omega), h.good, hlow bs (by omega) (by omega),
      hcmp bs (by omega) (by omega), h.bmS⟩

/-- a null-window probe with score `t` followed by the re-search with score `w`: the pair is
overwritten. This needs claims that are also complete: a move into a position won for the opponent
would have failed the probe. -/
theorem RInv.research {Gd : M → Prop} {cr PW pend pend' Good Bad CGood CBad : Prop}
    {bs t w : Int} {bm : Option M} {m : M} (hT : Thresholds E T)
    (h : RInv E T Gd cr PW pend False bs bm) (ht : t > bs)
    (p : ValOk E T Good Bad CGood CBad bs (bs + 1) t)
    (r : ValOk E T Good Bad CGood CBad t (-(scoreMin + 1)) w) (hG : Good → Gd m)
    (hp : pend → CGood ∨ pend') (hBC : Bad → CBad) (hGC : Good → CGood) :
    RInv E T Gd cr (PW ∧ Bad) pend' False w (some m) := by
  obtain ⟨hE0, hET, hTs⟩ := hT
  have hhi := h.hi
  have hgood : E < w → Good := fun hw =>
    r.up.elim (fun k => p.up.elim (fun k' => by omega) id) id
  refine ⟨by have := r.lo; omega, by have := p.hi; have := r.hi; omega,
    Or.inr (by have := r.lo; omega), ?_, ?_, fun hcr => ?_, fun _ => rfl⟩
  · by_cases hw : E < w
    · exact Or.inr ⟨m, rfl, hG (hgood hw)⟩
    · exact Or.inl (by omega)
  · rcases r.dn with k | k
    · exact Or.inr (by omega)
    · rcases h.low with k' | k'
      · exact Or.inl ⟨k', k⟩
      · have := p.cl (hBC k)
        omega
  · have hcw : CGood → E < w := fun k => by have := r.cw k; omega
    rcases h.cmp hcr with k | k
    · exact (hp k).elim (fun k' => Or.inr (hcw k')) Or.inl
    · exact Or.inr (hcw (hGC (p.up.elim (fun k' => by omega) id)))

/-- **The root loop**, null-window re-search included. The re-search needs complete claims
(`RInv.research`), unless every move is searched with the full window. -/
theorem rootLoop_RInv (o : Ops G M) (child : G → Int → Int → Int → St M → Option (Int × St M))
    (g : G) (hT : Thresholds E T) {Q : St M → Prop} {Gd : M → Prop} {cr : Prop}
    {Wc Lc CWc CLc : M → Prop} :
    ∀ (ms : List M), (∀ m ∈ ms, ChildC E T Q True child (o.push g m) 1 (Wc m) (Lc m) (CWc m)
        (CLc m) ∧ (Lc m → Gd m)) →
      ∀ (index : Nat) (bs : Int) (bm : Option M) (st : St M) (PW first : Prop),
        (first → index = 0) →
        (index + ms.length ≤ Gen.fullWindowMaxIndex + 1 ∨
          ∀ m ∈ ms, (Wc m → CWc m) ∧ (Lc m → CLc m)) →
        Q st → RInv E T Gd cr PW (∃ m ∈ ms, CLc m) first bs bm →
        ∃ bs' bm' st', rootLoop o child g ms index bs bm st = some (bs', bm', st') ∧ Q st' ∧
          RInv E T Gd cr (PW ∧ ∀ m ∈ ms, Wc m) False (first ∧ ms = []) bs' bm' := by
  intro ms
  induction ms with
  | nil =>
    intro _ index bs bm st PW first _ _ hQ hI
    exact ⟨bs, bm, st, rfl, hQ, hI.imp (fun k => ⟨k, fun _ h => nomatch h⟩)
      (fun ⟨_, h, _⟩ => nomatch h) (fun k => ⟨k, rfl⟩)⟩
  | cons m ms ih =>
    intro hc index bs bm st PW first hfi hres hQ hI
    obtain ⟨hcm, hG⟩ := hc m List.mem_cons_self
    have hp : (∃ m' ∈ m :: ms, CLc m') → CLc m ∨ ∃ m' ∈ ms, CLc m' := fun ⟨m', hm', k⟩ =>
      (List.mem_cons.1 hm').elim (fun e => Or.inl (e ▸ k)) (fun hm' => Or.inr ⟨m', hm', k⟩)
    have hlo := hI.lo
    have hhi := hI.hi
    have hTs := hT.2.2
    have tail : ∀ (bs1 : Int) (bm1 : Option M) (st1 : St M), Q st1 →
        RInv E T Gd cr (PW ∧ Wc m) (∃ m' ∈ ms, CLc m') False bs1 bm1 →
        ∃ bs' bm' st', rootLoop o child g ms (index + 1) bs1 bm1 st1 = some (bs', bm', st') ∧
          Q st' ∧ RInv E T Gd cr (PW ∧ ∀ m' ∈ m :: ms, Wc m') False (first ∧ m :: ms = []) bs'
            bm' := by
      intro bs1 bm1 st1 hQ1 hI1
      obtain ⟨bs', bm', st', k1, k2, k3⟩ := ih (fun m' hm' => hc m' (List.mem_cons_of_mem _ hm'))
        (index + 1) bs1 bm1 st1 _ False (fun k => k.elim)
        (hres.imp (fun k => by simp only [List.length_cons] at k; omega)
          (fun k m' hm' => k m' (List.mem_cons_of_mem _ hm'))) hQ1 hI1
      exact ⟨bs', bm', st', k1, k2, k3.imp
        (fun ⟨⟨k4, k5⟩, k6⟩ => ⟨k4, List.forall_mem_cons.2 ⟨k5, k6⟩⟩) id (fun k => k.1.elim)⟩
    unfold rootLoop
    simp only []
    by_cases hidx : index ≤ Gen.fullWindowMaxIndex
    · rw [if_pos hidx]
      obtain ⟨v, st1, he, hQ1, c⟩ := hcm (scoreMin + 1) (-bs) st (fun _ => by omega) hQ
      rw [he]
      simp only []
      have hI' := hI.full (m := m) hT (c.neg (by omega) rfl) hG hp
      by_cases hsc : -v > bs
      · simp only [hsc, if_true] at hI' ⊢
        exact tail _ _ _ hQ1 hI'
      · simp only [hsc, if_false] at hI' ⊢
        exact tail _ _ _ hQ1 hI'
    · rw [if_neg hidx]
      have hI0 : RInv E T Gd cr PW (∃ m' ∈ m :: ms, CLc m') False bs bm := hI.imp id id fun k => by
        have := hfi k
        simp only [Gen.fullWindowMaxIndex] at hidx
        omega
      have hcomp := (hres.resolve_left (by simp only [List.length_cons]; omega)) m
        List.mem_cons_self
      obtain ⟨v, st1, he, hQ1, p⟩ := hcm (-bs - 1) (-bs) st (fun _ => by omega) hQ
      rw [he]
      simp only []
      have p' := p.neg (a := bs) (b := bs + 1) (by omega) rfl
      by_cases hsc : -v > bs
      · simp only [hsc, if_true]
        have hv := p'.hi
        obtain ⟨v2, st2, he2, hQ2, r⟩ := hcm (scoreMin + 1) (- -v) st1 (fun _ => by omega) hQ1
        rw [he2]
        simp only []
        exact tail _ _ _ hQ2
          (hI0.research hT hsc p' (r.neg (by omega) rfl) hG hp hcomp.1 hcomp.2)
      · simp only [hsc, if_false]
        have hI' := hI0.full (m := m) hT (p'.widen (by omega)) hG hp
        simp only [hsc, if_false] at hI'
        exact tail _ _ _ hQ1 hI'

end Loops

variable [DecidableEq M]

omit [DecidableEq M] in
theorem sortMoves_eq_nil {key : M → Nat} {ms : List M} (h : sortMoves key ms = []) : ms = [] :=
  List.eq_nil_of_length_eq_zero (by rw [← length_sortMoves key ms, h]; rfl)

/-- the move loop of the interior node `x` from its start, in terms of the legal moves of `x` -/
theorem nodeLoop_start {E T : Int} (o : Ops G M)
    (child : G → Int → Int → Int → St M → Option (Int × St M)) (x : G) (remaining : Nat)
    (rd a β : Int) (hT : Thresholds E T) {Q : St M → Prop}
    (hF : ∀ (st : St M) ks hs, Q st → Q { st with killers := ks, history := hs })
    {strict W CW CL : Prop} {Wc Lc CWc CLc : M → Prop} (st : St M) (hne : o.checked x ≠ [])
    (hc : ∀ m ∈ o.checked x, ChildC E T Q strict child (o.push x m) (rd + 1) (Wc m) (Lc m)
      (CWc m) (CLc m) ∧ (Lc m → W) ∧ (CL → CWc m))
    (hfull : strict → (o.checked x).length ≤ Gen.fullWindowMaxIndex + 1 ∧ a < β) (hQ : Q st)
    (hp : CW → ∃ m ∈ o.checked x, CLc m) :
    ∃ out, nodeLoop o child x remaining rd β (nodeMoves o x rd st) 0 a scoreMin none st =
        some out ∧ Q out.st ∧
      NInv E T a β strict W CW CL (∀ m ∈ o.checked x, Wc m) False False out.alpha
        out.bestScore := by
  have hmem : ∀ m, m ∈ nodeMoves o x rd st ↔ m ∈ o.checked x := fun m => mem_sortMoves _ _ m
  obtain ⟨out, k1, k2, k3⟩ := nodeLoop_NInv o child x remaining rd a β hT hF
    (nodeMoves o x rd st) (fun m hm => hc m ((hmem m).1 hm)) 0 a scoreMin none st True True
    (fun _ => rfl)
    (fun k => by have := (hfull k).1; unfold nodeMoves; rw [length_sortMoves]; omega) hQ
    (by by_cases k : strict
        · exact Or.inr (hfull k).2
        · exact Or.inl ⟨trivial, k⟩)
    (NInv.init fun k => (hp k).imp fun m hm => ⟨(hmem m).2 hm.1, hm.2⟩)
  exact ⟨out, k1, k2, k3.imp (fun k m hm => k.2 m ((hmem m).2 hm)) id
    fun k => hne (sortMoves_eq_nil k.2)⟩

/-- **The root search** to depth `k` in a state whose table holds no entry as deep as `k` under
the hash of the root: the root loop runs from its start over `rootMoves o g`, and its result is
stored. -/
theorem rootSearch_RInv {E T : Int} (o : Ops G M) (runs : Nat → Bool) (g : G) (k : Nat)
    (st : St M) (hT : Thresholds E T) {Q : St M → Prop} {cr : Prop} {Wc Lc CWc CLc : M → Prop}
    (hl : (o.checked g).length ≠ 1) (hmiss : ∀ e, st.tt[o.hash g]? = some e → e.depth < k)
    (hc : ∀ m ∈ rootMoves o g, ChildC E T Q True (node o runs (k - 1)) (o.push g m) 1 (Wc m)
      (Lc m) (CWc m) (CLc m))
    (hres : (rootMoves o g).length ≤ Gen.fullWindowMaxIndex + 1 ∨
      ∀ m ∈ rootMoves o g, (Wc m → CWc m) ∧ (Lc m → CLc m))
    (hQ : Q (rootSt st)) (hp : cr → ∃ m ∈ rootMoves o g, CLc m) :
    ∃ bs bm st', rootSearch o runs g k st =
        some ((bm, bs, false), rootStore (o.hash g) k ⟨bs, bm, k, .exact⟩ st') ∧ Q st' ∧
      RInv E T (fun m => m ∈ rootMoves o g ∧ Lc m) cr (∀ m ∈ rootMoves o g, Wc m) False
        (rootMoves o g = []) bs bm := by
  have hmem : ∀ m, m ∈ rootSorted o g (rootSt st) ↔ m ∈ rootMoves o g :=
    fun m => mem_sortMoves _ _ m
  obtain ⟨bs, bm, st', k1, k2, k3⟩ := rootLoop_RInv o (node o runs (k - 1)) g hT
    (Gd := fun m => m ∈ rootMoves o g ∧ Lc m) (cr := cr) (rootSorted o g (rootSt st))
    (fun m hm => ⟨hc m ((hmem m).1 hm), fun h => ⟨(hmem m).1 hm, h⟩⟩) 0 (scoreMin + 1) none
    (rootSt st) True True (fun _ => rfl)
    (hres.imp (fun h => by unfold rootSorted; rw [length_sortMoves]; omega)
      fun h m hm => h m ((hmem m).1 hm)) hQ
    (RInv.init hT fun h => (hp h).imp fun m hm => ⟨(hmem m).2 hm.1, hm.2⟩)
  refine ⟨bs, bm, st', ?_, k2, k3.imp (fun h m hm => h.2 m ((hmem m).2 hm)) id
    fun h => sortMoves_eq_nil h.2⟩
  rw [rootSearch_eq, if_neg hl,
    rootHit_none_of_miss fun e he h => by have := hmiss e he; omega]
  simp only []
  rw [k1]

/-- the leaves of iterations 1, 2 and 3: a node with `remaining ≤ 1` answers every window, only
polls, and its value, within `±evalBound`, claims nothing -/
theorem node01_child {o : Ops G M} (hb : Bounded o) {runs : Nat → Bool} (hr : ∀ i, runs i = true)
    {d : Nat} {E T : Int} (hE : evalBound ≤ E) (hT : E ≤ T) (r : Nat) (hr1 : r ≤ 1) (c : G)
    (rd : Int) (h0 : 0 ≤ rd) (h1 : rd ≤ 800) {strict W L CW CL : Prop} (hw : ¬ CW) (hl : ¬ CL) :
    ChildC E T (fun s => TTOk o d s.tt) strict (node o runs r) c rd W L CW CL := by
  intro a b st _ hQ
  rw [node_eq_of_runs (hr _)]
  split
  · next v hv =>
    exact ⟨v, _, rfl, hQ.poll, ValOk.of_rng hE hT (ttCut_rng hQ.poll _ _ _ _ _ hv) hw hl⟩
  · match r with
    | 0 =>
      exact ⟨_, _, rfl, hQ.poll, ValOk.of_rng hE hT
        (qsearch_rng o hb qFuel c a b rd h0 (by unfold qFuel; omega)) hw hl⟩
    | 1 => exact ⟨_, _, rfl, hQ.poll, ValOk.of_rng hE hT (depth1_rng o hb c a b rd h0 h1) hw hl⟩
    | r + 2 => omega

omit [DecidableEq M] in
theorem entries_nodeStore {P : UInt64 → Entry M → Prop} {st : St M}
    (H : ∀ h e, st.tt[h]? = some e → P h e) {k : UInt64} (d : Nat) {e0 : Entry M} (h0 : P k e0) :
    ∀ h e, (nodeStore k d e0 st).tt[h]? = some e → P h e :=
  nodeStore_ind (P := fun s => ∀ h e, s.tt[h]? = some e → P h e) H (forall_entries_insert H h0)

omit [DecidableEq M] in
theorem entries_rootStore {P : UInt64 → Entry M → Prop} {st : St M}
    (H : ∀ h e, st.tt[h]? = some e → P h e) {k : UInt64} (d : Nat) {e0 : Entry M} (h0 : P k e0) :
    ∀ h e, (rootStore k d e0 st).tt[h]? = some e → P h e :=
  rootStore_ind (P := fun s => ∀ h e, s.tt[h]? = some e → P h e) H (forall_entries_insert H h0)

omit [DecidableEq M] in
theorem TTOk.rootStore {o : Ops G M} {d : Nat} {st : St M} (h : TTOk o d st.tt) (x : G) (k : Nat)
    (e : Entry M) (hx : o.checked x ≠ []) (hd : e.depth ≤ d)
    (h1 : e.flag ≠ Flag.upper → e.score ≤ evalBound)
    (h2 : e.flag ≠ Flag.lower → -evalBound ≤ e.score) :
    TTOk o d (rootStore (o.hash x) k e st).tt :=
  entries_rootStore h k ⟨hd, h1, h2, x, rfl, hx⟩

omit [DecidableEq M] in
theorem TTOk.nodeStore {o : Ops G M} {d : Nat} {st : St M} (h : TTOk o d st.tt) (x : G) (k : Nat)
    (e : Entry M) (hx : o.checked x ≠ []) (hd : e.depth ≤ d)
    (h1 : e.flag ≠ Flag.upper → e.score ≤ evalBound)
    (h2 : e.flag ≠ Flag.lower → -evalBound ≤ e.score) :
    TTOk o d (nodeStore (o.hash x) k e st).tt :=
  entries_nodeStore h k ⟨hd, h1, h2, x, rfl, hx⟩

theorem rootMoves_checked_ne {o : Ops G M} {g : G} (h : rootMoves o g ≠ []) : o.checked g ≠ [] := by
  cases hm : rootMoves o g with
  | nil => exact absurd hm h
  | cons m ms =>
    have : m ∈ o.checked g := mem_rootMoves (by rw [hm]; exact List.mem_cons_self)
    intro h0; rw [h0] at this; cases this

theorem thresholds_eval : Thresholds evalBound evalBound := by unfold Thresholds; decide

theorem rootSearch_low (o : Ops G M) (hb : Bounded o) {runs : Nat → Bool} (hr : ∀ i, runs i = true)
    (g : G) (k : Nat) (hk : 1 ≤ k) (hk2 : k ≤ 2) (st : St M) (hQ : TTOk o (k - 1) st.tt)
    (hl : (o.checked g).length ≠ 1) (hne : rootMoves o g ≠ []) :
    ∃ bm bs st', rootSearch o runs g k st = some ((bm, bs, false), st') ∧ TTOk o k st'.tt ∧
      -evalBound ≤ bs ∧ bs ≤ evalBound := by
  -- no value claims anything: the score stays within `±evalBound`
  obtain ⟨bs, bm, st', k1, k2, k3⟩ := rootSearch_RInv o runs g k st thresholds_eval (cr := False)
    hl (fun e he => by have := (hQ _ e he).1; omega)
    (fun m _ => node01_child hb hr (d := k) (Int.le_refl _) (Int.le_refl _) (k - 1) (by omega)
      (o.push g m) 1 (by decide) (by decide) id id)
    (Or.inr fun _ _ => ⟨id, id⟩) (hQ.mono (by omega)) False.elim
  obtain ⟨m, hm⟩ := List.exists_mem_of_ne_nil _ hne
  have k4 : bs ≤ evalBound := k3.good.elim id fun ⟨_, _, _, k⟩ => k.elim
  have k5 : -evalBound ≤ bs := k3.low.elim (fun k => (k m hm).elim) id
  exact ⟨bm, bs, _, k1, k2.rootStore g k _ (rootMoves_checked_ne hne) (Nat.le_refl _)
    (fun _ => k4) (fun _ => k5), k5, k4⟩

omit [DecidableEq M] in
theorem storeFlag_ne_upper {bs a b : Int} (h : storeFlag bs a b ≠ Flag.upper) : a < bs := by
  unfold storeFlag at h
  split at h
  · exact absurd rfl h
  · omega

omit [DecidableEq M] in
theorem storeFlag_ne_lower {bs a b : Int} (hab : a < b) (h : storeFlag bs a b ≠ Flag.lower) :
    bs < b := by
  unfold storeFlag at h
  split at h
  · omega
  · split at h
    · exact absurd rfl h
    · omega

omit [DecidableEq M] in
theorem pollSt_tt_none {st : St M} {k : UInt64} (h : st.tt[k]? = none) : (pollSt st).tt[k]? = none := by
  simp only [pollSt]
  split
  · exact Std.HashMap.getElem?_empty
  · exact h

/-- **A mated node returns the exact mate score, whatever the window**, as soon as two plies
remain and the table holds nothing under its hash; it only polls (the return precedes the store),
so the table still holds nothing under that hash afterwards. -/
theorem mated_child_value {o : Ops G M} {runs : Nat → Bool} {c : G} (hm : Mated o c)
    (remaining : Nat) (h2 : 2 ≤ remaining) (a b rd : Int) (st : St M)
    (hr : runs st.polls = true) (hnone : st.tt[o.hash c]? = none) :
    node o runs remaining c a b rd st = some (scoreMin + Gen.mateNode + rd, pollSt st) ∧
      (pollSt st).tt[o.hash c]? = none := by
  refine ⟨?_, pollSt_tt_none hnone⟩
  rw [node_eq_of_runs hr]
  have : ttGet (pollSt st) (o.hash c) = none := pollSt_tt_none hnone
  rw [this]
  simp only [ttCut]
  match remaining, h2 with
  | r + 2, _ =>
    simp only [hm.1, hm.2, List.isEmpty_nil, if_true, Bool.false_eq_true, if_false]

/-- **A node with two plies left that is not mated stays within `±evalBound`**, for every non-empty
window, and keeps the table fine. -/
theorem node2_child {o : Ops G M} (hb : Bounded o) {runs : Nat → Bool} (hr : ∀ i, runs i = true)
    {d : Nat} (hd : 2 ≤ d) (c : G) (hc : ¬ Mated o c) (rd : Int) (h0 : 0 ≤ rd) (h1 : rd ≤ 700) :
    ChildC evalBound evalBound (fun s => TTOk o d s.tt) True (node o runs 2) c rd
      False False False False := by
  intro a b st hab hQ
  have hab := hab trivial
  have hrng : ∀ {v : Int}, Rng a b v → ValOk evalBound evalBound False False False False a b v :=
    fun h => ValOk.of_rng (Int.le_refl _) (Int.le_refl _) h id id
  rw [node_eq_of_runs (hr _)]
  split
  · next v hv => exact ⟨v, _, rfl, hQ.poll, hrng (ttCut_rng hQ.poll _ _ _ _ _ hv)⟩
  · by_cases he : (o.checked c).isEmpty = true
    · simp only [he, if_true]
      have hs : o.safe c = true := by
        cases h : o.safe c with
        | true => rfl
        | false => exact absurd ⟨List.isEmpty_iff.1 he, h⟩ hc
      simp only [hs, if_true]
      exact ⟨_, _, rfl, hQ.poll, hrng (by unfold Rng; rw [evalBound_eq]; omega)⟩
    · simp only [he]
      have hne : o.checked c ≠ [] := fun h => he (by rw [h]; rfl)
      -- the children answer every window, so the loop may re-search
      obtain ⟨out, k1, k2, k3⟩ := nodeLoop_start o (node o runs 1) c 2 rd a b
        thresholds_eval (Q := fun s => TTOk o d s.tt) (fun _ _ _ k => k) (strict := False)
        (W := False) (CW := False) (CL := False) (pollSt st) hne
        (fun m _ => ⟨node01_child hb hr (Int.le_refl _) (Int.le_refl _) 1 (Nat.le_refl _)
          (o.push c m) (rd + 1) (by omega) (by omega) id id, id, id⟩)
        False.elim hQ.poll False.elim
      rw [k1]
      have hbs := k3.nLb.resolve_left id
      have hbsa := k3.bsa
      have hnU := k3.nU
      obtain ⟨m₀, hm₀⟩ := List.exists_mem_of_ne_nil _ hne
      refine ⟨_, _, rfl, ?_, k3.valOk fun k => k m₀ hm₀⟩
      apply k2.nodeStore c _ _ hne hd
      · intro hf
        have := storeFlag_ne_upper hf
        show out.bestScore ≤ evalBound
        rw [evalBound_eq, scoreMin] at *
        omega
      · intro hf
        have := storeFlag_ne_lower hab hf
        show -evalBound ≤ out.bestScore
        omega

/-- no position that has a legal move shares its hash with a mated child of `g` (otherwise the
entry stored for that position could be used, un-validated, in the mated child) -/
def HashSep (o : Ops G M) (g : G) : Prop :=
  ∀ m ∈ o.checked g, Mated o (o.push g m) →
    ∀ x, o.checked x ≠ [] → o.hash x ≠ o.hash (o.push g m)

omit [DecidableEq M] in
/-- the Zobrist hypothesis of `SearchDriver` (equal hashes, equal move lists) over all positions is
enough -/
theorem HashSep.of_hashOk {o : Ops G M} (h : HashOk o (fun _ => True)) (g : G) : HashSep o g := by
  intro m _ hM x hx hh
  exact hx ((h x _ trivial trivial hh).trans hM.1)

omit [DecidableEq M] in
theorem HashSep.of_injective {o : Ops G M} (h : ∀ x y, o.hash x = o.hash y → x = y) (g : G) :
    HashSep o g := by
  intro m _ hM x hx hh
  rw [h x _ hh] at hx
  exact hx hM.1

/-- the children of the root at iteration 3: a mated child returns the exact mate score, the
others stay within `±evalBound`; so only a value beyond `mateScore - 1` claims anything, and it
claims a mate (`3 - 1` is how the root search to depth 3 spells the depth of its children) -/
theorem child3 {o : Ops G M} (hb : Bounded o) {runs : Nat → Bool} (hr : ∀ i, runs i = true)
    (c : G) (hsep : Mated o c → ∀ x, o.checked x ≠ [] → o.hash x ≠ o.hash c) :
    ChildC (mateScore - 1) mateScore (fun s => TTOk o 3 s.tt) True (node o runs (3 - 1)) c 1
      False (Mated o c) False (Mated o c) := by
  intro a b st hab hQ
  by_cases hM : Mated o c
  · have hnone : st.tt[o.hash c]? = none := by
      cases he : st.tt[o.hash c]? with
      | none => rfl
      | some e =>
        obtain ⟨_, _, _, x, hx1, hx2⟩ := hQ _ e he
        exact absurd hx1 (hsep hM x hx2)
    refine ⟨_, pollSt st, (mated_child_value hM (3 - 1) (by decide) a b 1 st (hr _) hnone).1,
      hQ.poll, ?_, ?_, Or.inl ?_, Or.inr hM, False.elim, fun _ => ?_⟩ <;>
      (simp only [mateScore_eq, scoreMin, Gen.mateNode]; omega)
  · obtain ⟨v, st', e, hQ', hv⟩ := node2_child hb hr (d := 3) (by decide) c hM 1 (by decide)
      (by decide) a b st hab hQ
    exact ⟨v, st', e, hQ', ValOk.of_rng (by decide) (by omega) ⟨hv.lo, hv.hi⟩ id hM⟩

theorem rootSearch_mate (o : Ops G M) (hb : Bounded o) {runs : Nat → Bool}
    (hr : ∀ i, runs i = true) (g : G) (hsep : HashSep o g) (st : St M) (hQ : TTOk o 2 st.tt)
    (hl : (o.checked g).length ≠ 1) (hmate : ∃ m ∈ rootMoves o g, Mated o (o.push g m)) :
    ∃ m st', rootSearch o runs g 3 st = some ((some m, mateScore, false), st') ∧
      MatingMove o g m := by
  obtain ⟨m₀, hm₀, hM₀⟩ := hmate
  have hT : Thresholds (mateScore - 1) mateScore := by unfold Thresholds; decide
  obtain ⟨bs, bm, st', k1, _, k3⟩ := rootSearch_RInv o runs g 3 st hT (cr := True) hl
    (fun e he => by have := (hQ _ e he).1; omega) (fun m hm => child3 hb hr _ (hsep m (mem_rootMoves hm)))
    (Or.inr fun _ _ => ⟨id, id⟩) (hQ.mono (by omega)) (fun _ => ⟨m₀, hm₀, hM₀⟩)
  have k4 := (k3.cmp trivial).resolve_left id
  have k5 := k3.hi
  obtain ⟨m, rfl, hm, hM⟩ := k3.good.resolve_left (by omega)
  obtain rfl : bs = mateScore := by omega
  exact ⟨m, _, k1, mem_rootMoves hm, hM⟩

omit [DecidableEq M] in
theorem startDepth_fresh (o : Ops G M) (g : G) (md : Option Nat) :
    startDepth o g ({} : Table M) md = 1 := by
  unfold startDepth cachedDepth
  rw [Std.HashMap.getElem?_empty]
  have := one_le_limitOf md
  simp only []
  omega

theorem exitCond_of_win (limit depth : Nat) (only : Bool) {sc : Int} (h : evalBound < sc) :
    exitCond limit depth only sc = true := by
  unfold exitCond
  simp only [Bool.or_eq_true, decide_eq_true_eq]
  exact Or.inl (Or.inr h)

theorem exitCond_cases {limit depth : Nat} {sc : Int} (h : exitCond limit depth false sc = true)
    (hlo : -evalBound ≤ sc) : depth = limit ∨ evalBound < sc := by
  rcases exitCond_iff.1 h with k | k | k
  · exact Or.inl k
  · cases k
  · exact Or.inr ((mateRange_iff.1 k).resolve_right (by omega))

theorem le_limitOf {k : Nat} (hk : k ≤ maxDepth) {md : Option Nat}
    (h : md = none ∨ ∃ N, md = some N ∧ k ≤ N) : k ≤ limitOf md := by
  unfold limitOf
  rcases h with rfl | ⟨N, rfl, hN⟩
  · simp only [Option.getD_none]; omega
  · simp only [Option.getD_some]; omega

omit [DecidableEq M] in
theorem head?_of_length_one {α : Type} {l : List α} {a : α} (ha : a ∈ l) (hl : l.length = 1) :
    l.head? = some a := by
  match l, hl, ha with
  | [b], _, ha => rw [List.mem_singleton.1 ha]; rfl

/-- the only-move shortcut: an iteration at a root with a single legal move ends the search -/
theorem driverLoop_only (o : Ops G M) (runs : Nat → Bool) (g : G) (limit fuel depth : Nat)
    (found : Option M) (infos : List (Info M)) (st : St M) (hl : (o.checked g).length = 1) :
    driverLoop o runs g limit (fuel + 1) depth found infos st =
      ⟨(o.checked g).head?.or found, (mkInfo o g depth 0 st :: infos).reverse, st, false⟩ := by
  rw [driverLoop_succ, rootSearch_eq, if_pos hl]
  simp only []
  rw [if_pos (by simp [exitCond])]

/-- **The driver up to iteration `N`, from the fresh table.** If every root search to a depth
`remc + 1 ≤ N` keeps the state predicate `Q` (as long as another iteration may follow), returns a
score `bs` of at least `-evalBound`, above `evalBound` only with a move that is `Good remc bs`, and
above `evalBound` at depth `N`, then the driver answers a good move, stops by itself and reports no
depth beyond `N`; the last report is that of the iteration the move comes from. `m1` is what the
only-move shortcut would answer. -/
theorem driver_upto (o : Ops G M) (runs : Nat → Bool) (g : G) (N : Nat) {Q : Nat → St M → Prop}
    {Good : Nat → Int → M → Prop} (m1 : M) (hm1 : m1 ∈ o.checked g) {s1 : Int}
    (hG1 : Good (N - 1) s1 m1)
    (hroot : ∀ remc st, remc < N → Q remc st → (o.checked g).length ≠ 1 →
      ∃ bm bs st', rootSearch o runs g (remc + 1) st = some ((bm, bs, false), st') ∧
        (remc + 1 < N → Q (remc + 1) st') ∧ (bs ≤ evalBound ∨ ∃ m, bm = some m ∧ Good remc bs m) ∧
        -evalBound ≤ bs ∧ (remc + 1 = N → evalBound < bs))
    (off : Bool) (md : Option Nat) (hN : 0 < N) (hmd : N ≤ limitOf md)
    (hQ0 : Q 0 (initSt {} off)) :
    ∃ m r s, r < N ∧ (driver o runs g {} off md).found = some m ∧ Good r s m ∧
      (driver o runs g {} off md).stopped = false ∧
      (∀ info ∈ (driver o runs g {} off md).infos, info.depth ≤ N) ∧
      ((o.checked g).length ≠ 1 → ∃ info, (driver o runs g {} off md).infos.getLast? = some info ∧
        info.depth = r + 1 ∧ info.score = s) := by
  have loop : ∀ (fuel remc : Nat) (found : Option M) (infos : List (Info M)) (st : St M),
      remc < N → N - remc ≤ fuel → Q remc st → (∀ i ∈ infos, i.depth ≤ N) →
      ∃ m r s, r < N ∧
        (driverLoop o runs g (limitOf md) fuel (remc + 1) found infos st).found = some m ∧
        Good r s m ∧
        (driverLoop o runs g (limitOf md) fuel (remc + 1) found infos st).stopped = false ∧
        (∀ i ∈ (driverLoop o runs g (limitOf md) fuel (remc + 1) found infos st).infos,
          i.depth ≤ N) ∧
        ((o.checked g).length ≠ 1 → ∃ info,
          (driverLoop o runs g (limitOf md) fuel (remc + 1) found infos st).infos.getLast? =
            some info ∧ info.depth = r + 1 ∧ info.score = s) := by
    intro fuel
    induction fuel with
    | zero => intro remc _ _ _ h4 hf; omega
    | succ f ih =>
      intro remc found infos st h4 hf hQ hi
      have hinfo : ∀ (sc : Int) (st' : St M), ∀ i ∈ mkInfo o g (remc + 1) sc st' :: infos,
          i.depth ≤ N := by
        intro sc st' i hi'
        rcases List.mem_cons.1 hi' with rfl | h
        · show remc + 1 ≤ N
          omega
        · exact hi i h
      by_cases hl : (o.checked g).length = 1
      · rw [driverLoop_only o runs g _ f _ found infos st hl, head?_of_length_one hm1 hl]
        exact ⟨m1, N - 1, s1, by omega, rfl, hG1, rfl,
          fun i hi' => hinfo _ _ i (List.mem_reverse.1 hi'), fun k => absurd hl k⟩
      · obtain ⟨bm, bs, st', e, hQ', good, hlow, h5⟩ := hroot remc st h4 hQ hl
        rw [driverLoop_succ, e]
        simp only []
        by_cases hex : exitCond (limitOf md) (remc + 1) false bs = true
        · rw [if_pos hex]
          have hwin : evalBound < bs :=
            (exitCond_cases hex hlow).elim (fun k => h5 (by omega)) id
          rcases good with k | ⟨m, rfl, hG⟩
          · omega
          · exact ⟨m, remc, bs, h4, rfl, hG, rfl,
              fun i hi' => hinfo _ _ i (List.mem_reverse.1 hi'),
              fun _ => ⟨_, List.getLast?_reverse, rfl, rfl⟩⟩
        · rw [if_neg hex]
          have : remc + 1 ≠ N := fun k => hex (exitCond_of_win _ _ _ (h5 k))
          exact ih (remc + 1) _ _ st' (by omega) (by omega) (hQ' (by omega)) (hinfo _ _)
  rw [driver_eq, startDepth_fresh]
  exact loop (limitOf md - 1 + 1) 0 _ [] _ hN (by omega) hQ0 (fun _ h => nomatch h)

/-- **Mate in one, two or more root moves**: iterations 1 and 2 do not end the search, iteration
3 returns a mating move with the score `mateScore`, and the driver stops there by itself. -/
theorem mate_in_one_many (o : Ops G M) (hb : Bounded o) (g : G) (hsep : HashSep o g)
    (hl : (o.checked g).length ≠ 1) (hmate : ∃ m ∈ rootMoves o g, Mated o (o.push g m))
    (runs : Nat → Bool) (hr : ∀ i, runs i = true) (off : Bool) (md : Option Nat)
    (hmd : 3 ≤ limitOf md) :
    ∃ m, (driver o runs g {} off md).found = some m ∧ MatingMove o g m ∧
      (driver o runs g {} off md).stopped = false ∧
      (driver o runs g {} off md).infos.map (·.depth) = [1, 2, 3] ∧
      ((driver o runs g {} off md).infos.map (·.score)).getLast? = some mateScore := by
  obtain ⟨m₀, hm₀, hM₀⟩ := hmate
  have hne : rootMoves o g ≠ [] := fun h => by rw [h] at hm₀; cases hm₀
  obtain ⟨m, _, _, _, k1, ⟨k2, rfl, rfl⟩, k3, _, k5⟩ := driver_upto o runs g 3
    (Q := fun d st => TTOk o d st.tt)
    (Good := fun r s m => MatingMove o g m ∧ r = 2 ∧ s = mateScore) m₀ (mem_rootMoves hm₀)
    ⟨⟨mem_rootMoves hm₀, hM₀⟩, rfl, rfl⟩
    (fun remc st h3 hQ _ => by
      by_cases h2 : remc < 2
      · obtain ⟨bm, bs, st', e, hQ', lo, hi⟩ := rootSearch_low o hb hr g (remc + 1) (by omega)
          (by omega) st hQ hl hne
        exact ⟨bm, bs, st', e, fun _ => hQ', Or.inl hi, lo, fun k => by omega⟩
      · obtain rfl : remc = 2 := by omega
        obtain ⟨m, st', e, hm⟩ := rootSearch_mate o hb hr g hsep st hQ hl ⟨m₀, hm₀, hM₀⟩
        exact ⟨_, _, st', e, fun k => absurd k (by decide), Or.inr ⟨m, rfl, hm, rfl, rfl⟩,
          by decide, fun _ => by decide⟩)
    off md (by decide) hmd (TTOk_empty o _)
  obtain ⟨info, k6, k7, k8⟩ := k5 hl
  refine ⟨m, k1, k2, k3, ?_, by rw [List.getLast?_map, k6]; exact congrArg some k8⟩
  -- the depths are `1, …, length`, and the last one is 3
  have hd := (driver_depths_partial o runs g {} off md).1
  have hlast := congrArg List.getLast? hd
  rw [List.getLast?_map, k6, startDepth_fresh, List.getLast?_range'] at hlast
  rw [startDepth_fresh] at hd
  split at hlast
  · cases hlast
  · have : (driver o runs g {} off md).infos.length = 3 := by
      simp only [Option.map_some, Option.some.injEq] at hlast
      omega
    rw [hd, this]
    rfl

/-- **Mate in one, a single legal move**: the only-move shortcut answers with it at once. -/
theorem mate_in_one_single (o : Ops G M) (g : G) (m₀ : M) (hm : MatingMove o g m₀)
    (hl : (o.checked g).length = 1) (runs : Nat → Bool) (off : Bool) (md : Option Nat) :
    (driver o runs g {} off md).found = some m₀ ∧
      (driver o runs g {} off md).stopped = false ∧
      (driver o runs g {} off md).infos.map (·.depth) = [1] := by
  rw [driver_eq, startDepth_fresh, driverLoop_only o runs g _ _ _ _ _ _ hl,
    head?_of_length_one hm.1 hl]
  exact ⟨rfl, rfl, rfl⟩

/-- **C10, mate in one.** From the fresh table, with a flag that stays up, without a depth limit
or with a limit of at least 3: if static evaluations are never in the driver's mate range
(`Bounded`), if no position with a legal move shares its hash with a mated child of the root
(`HashSep`), and if some move kept by the repetition filter mates, then the driver answers with a
mating move, stops by itself, and never searches deeper than 3. -/
theorem mate_in_one_found (o : Ops G M) (hb : Bounded o) (g : G) (hsep : HashSep o g)
    (hmate : ∃ m ∈ rootMoves o g, Mated o (o.push g m))
    (runs : Nat → Bool) (hr : ∀ i, runs i = true) (off : Bool) (md : Option Nat)
    (hmd : md = none ∨ ∃ N, md = some N ∧ 3 ≤ N) :
    let out := driver o runs g {} off md
    ∃ m, out.found = some m ∧ MatingMove o g m ∧ out.stopped = false ∧
      ∀ info ∈ out.infos, info.depth ≤ 3 := by
  intro out
  have hdepth : ∀ l : List Nat, (out.infos.map (·.depth) = l) → (∀ x ∈ l, x ≤ 3) →
      ∀ info ∈ out.infos, info.depth ≤ 3 := by
    intro l h1 h2 info hi
    exact h2 _ (h1 ▸ List.mem_map_of_mem hi)
  by_cases hl : (o.checked g).length = 1
  · obtain ⟨m₀, hm₀, hM₀⟩ := hmate
    obtain ⟨k1, k2, k3⟩ := mate_in_one_single o g m₀ ⟨mem_rootMoves hm₀, hM₀⟩ hl runs off md
    exact ⟨m₀, k1, ⟨mem_rootMoves hm₀, hM₀⟩, k2, hdepth _ k3 (by decide)⟩
  · obtain ⟨m, k1, k2, k3, k4, _⟩ := mate_in_one_many o hb g hsep hl hmate runs hr off md
      (le_limitOf (by decide) hmd)
    exact ⟨m, k1, k2, k3, hdepth _ k4 (by decide)⟩

/-- `mate_in_one_found` where the position does not repeat (`o.repetition g = none`), hashes are
injective, the flag stays up and the hook is off. -/
theorem mate_in_one_found' (o : Ops G M) (hb : Bounded o) (g : G)
    (hinj : ∀ x y, o.hash x = o.hash y → x = y) (m₀ : M) (hm₀ : MatingMove o g m₀)
    (hrep : o.repetition g = none) (md : Option Nat)
    (hmd : md = none ∨ ∃ N, md = some N ∧ 3 ≤ N) :
    let out := driver o (fun _ => true) g {} false md
    ∃ m, out.found = some m ∧ MatingMove o g m ∧ out.stopped = false ∧
      ∀ info ∈ out.infos, info.depth ≤ 3 := by
  have : rootMoves o g = o.checked g := by unfold rootMoves; rw [hrep]
  exact mate_in_one_found o hb g (HashSep.of_injective hinj g) ⟨m₀, this ▸ hm₀.1, hm₀.2⟩ _
    (fun _ => rfl) false md hmd

/-- **C10, no legal move**: from the fresh table the driver reports no move, whatever the flag, the
hook and the limit are (one iteration: the root loop over no move returns the score
`scoreMin + 1`, which is in the mate range). -/
theorem dead_root_reports_none (o : Ops G M) (runs : Nat → Bool) (g : G) (off : Bool)
    (md : Option Nat) (h : o.checked g = []) :
    (driver o runs g {} off md).found = none ∧ (driver o runs g {} off md).stopped = false ∧
      (driver o runs g {} off md).infos.map (·.depth) = [1] := by
  rw [driver_eq, startDepth_fresh]
  obtain ⟨f, hf⟩ : ∃ f, limitOf md - 1 + 1 = f + 1 := ⟨limitOf md - 1, rfl⟩
  rw [hf, driverLoop_succ, rootSearch_eq, if_neg (by rw [h]; simp)]
  have hmiss : rootHit (ttGet (rootSt (initSt ({} : Table M) off)) (o.hash g)) 1 = none :=
    rootHit_none_of_miss fun e he => (forall_entries_empty (P := fun _ _ => False) _ e he).elim
  rw [hmiss]
  have hs : rootSorted o g (rootSt (initSt ({} : Table M) off)) = [] := by
    have : rootMoves o g = [] := Classical.byContradiction fun hne => rootMoves_checked_ne hne h
    apply List.eq_nil_of_length_eq_zero
    unfold rootSorted
    rw [length_sortMoves, this]
    rfl
  simp only [hs, rootLoop]
  have : exitCond (limitOf md) 1 false (scoreMin + 1) = true :=
    exitCond_iff.2 (Or.inr (Or.inr (mateRange_iff.2 (Or.inr (by decide)))))
  rw [if_pos this, h]
  exact ⟨rfl, rfl, by simp [mkInfo]⟩

/-- the same from any table that satisfies the invariant `TTInv` of `SearchDriver` (re-export of
`driver_none_iff`); for an arbitrary table the statement is false, see
`driver_returns_cached_move` and the example below -/
theorem dead_root_reports_none_of_TTInv {o : Ops G M} {P : G → Prop} (hH : HashOk o P)
    (hC : Closed o P) (runs : Nat → Bool) (g : G) (tt : Table M) (off : Bool) (md : Option Nat)
    (hP : P g) (hT : TTInv o P tt) (h : o.checked g = []) :
    (driver o runs g tt off md).found = none :=
  (driver_none_iff hH hC runs g tt off md hP hT).2 h

/-- at iteration 3 a move that does not mate never gets a score above `evalBound` unless that score
does not beat the current best: its score is at most `max bestScore evalBound`, hence strictly
below `mateScore` as long as no mating move has been seen -/
theorem nonmating_root_score {o : Ops G M} (hb : Bounded o) {runs : Nat → Bool}
    (hr : ∀ i, runs i = true) (c : G) (hc : ¬ Mated o c) (a bs : Int) (ha : a ≤ evalBound)
    (hab : a < -bs) (st : St M) (hQ : TTOk o 3 st.tt) :
    ∃ v st', node o runs (3 - 1) c a (-bs) 1 st = some (v, st') ∧ -v ≤ max bs evalBound := by
  obtain ⟨v, st', k1, _, k2⟩ := node2_child hb hr (d := 3) (by decide) c hc 1 (by decide)
    (by decide) a (-bs) st (fun _ => hab) hQ
  exact ⟨v, st', k1, by have := k2.lo; omega⟩

theorem evalBound_lt_mateScore : evalBound < mateScore := by decide

/-! ## Non-vacuity and counterexamples: a concrete game

Positions are `UInt64`, moves are `Nat`, the move `m` leads from `g` to `3 * g + m`. The root `0`
has the moves `1, 2, 3`; positions `1` and `3` have the moves `1, 2`; the others have none, and
position `2` is in check: the move `2` mates. The evaluation and the hash are parameters.
`Std.HashMap` does not reduce in the kernel: the facts are obtained by applying the theorems, the
`#guard`s are side checks by evaluation. -/
namespace Example

def exOps (ev : UInt64 → Int) (hs : UInt64 → UInt64) : Ops UInt64 Nat where
  checked g := if g = 0 then [1, 2, 3] else if g = 1 ∨ g = 3 then [1, 2] else []
  unchecked g := if g = 0 then [1, 2, 3] else if g = 1 ∨ g = 3 then [1, 2] else []
  push g m := 3 * g + m.toUInt64
  eval := ev
  safe g := g != 2
  hash := hs
  tactical _ := false
  histIdx m := some m
  orderKey m _ := m
  repetition _ := none

def ev0 (g : UInt64) : Int := (g.toNat % 7 : Int) - 3

/-- the position is its own hash -/
def ex : Ops UInt64 Nat := exOps ev0 id

theorem ex_bounded : Bounded ex := by
  intro g
  show -evalBound ≤ ev0 g ∧ ev0 g ≤ evalBound
  unfold ev0
  rw [evalBound_eq]
  omega

theorem ex_mating : MatingMove ex 0 2 := ⟨by decide, by decide, by decide⟩

theorem ex_mating_unique (m : Nat) (h : MatingMove ex 0 m) : m = 2 := by
  obtain ⟨h1, h2, _⟩ := h
  have : m = 1 ∨ m = 2 ∨ m = 3 := by simpa [ex, exOps] using h1
  rcases this with rfl | rfl | rfl
  · exact absurd h2 (by decide)
  · rfl
  · exact absurd h2 (by decide)

/-- the engine plays the mate, without limit or with any limit of at least 3, stops by itself and
searches no deeper than 3 -/
example (md : Option Nat) (hmd : md = none ∨ ∃ N, md = some N ∧ 3 ≤ N) :
    (driver ex (fun _ => true) 0 {} false md).found = some 2 ∧
    (driver ex (fun _ => true) 0 {} false md).stopped = false ∧
    ∀ info ∈ (driver ex (fun _ => true) 0 {} false md).infos, info.depth ≤ 3 := by
  obtain ⟨m, h1, h2, h3, h4⟩ := mate_in_one_found' ex ex_bounded 0 (fun _ _ h => h) 2 ex_mating rfl
    md hmd
  rw [ex_mating_unique m h2] at h1
  exact ⟨h1, h3, h4⟩

/-- the mated position itself: no move is reported -/
example (runs : Nat → Bool) (off : Bool) (md : Option Nat) :
    (driver ex runs 2 {} off md).found = none :=
  (dead_root_reports_none ex runs 2 off md (by decide)).1

/-- ... but not from an arbitrary table: an exact entry under the hash of the mated position (what
a hash collision would leave) makes the driver report its move -/
example (runs : Nat → Bool) :
    (driver ex runs 2 (({} : Table Nat).insert 2 ⟨0, some 7, 40, .exact⟩) false none).found = some 7 ∧
      ex.checked 2 = [] :=
  ⟨driver_returns_cached_move ex runs 2 _ false none ⟨0, some 7, 40, .exact⟩ 7
    (by rw [Std.HashMap.getElem?_insert]; simp [ex, exOps]) rfl (by decide) rfl (by decide),
   by decide⟩

/-- the value of the mated child at iteration 3, through `mated_child_value` -/
example (a b : Int) :
    node ex (fun _ => true) 2 2 a b 1 (initSt {} false) =
      some (scoreMin + Gen.mateNode + 1, pollSt (initSt {} false)) :=
  (mated_child_value (o := ex) (c := 2) ⟨by decide, by decide⟩ 2 (Nat.le_refl _) a b 1 (initSt {} false) rfl
    Std.HashMap.getElem?_empty).1

/-- **`HashSep` cannot be dropped**: the mated child `2` shares its hash with the root -/
def exCollide : Ops UInt64 Nat := exOps ev0 (fun g => if g = 2 then 0 else g)

/-- **`Bounded` cannot be dropped, and `evalBound` is sharp**: after the move `1` the opponent's
evaluation is `-31768 = -(evalBound + 1)` -/
def exBig : Ops UInt64 Nat := exOps (fun g => if g = 1 then -31768 else ev0 g) id

#guard (driver ex (fun _ => true) 0 {} false none).found == some 2
#guard (driver ex (fun _ => true) 0 {} false none).stopped == false
#guard (driver ex (fun _ => true) 0 {} false none).infos.map (fun i => (i.depth, i.score)) ==
  [(1, 2), (2, 30767), (3, 32667)]
#guard (driver ex (fun _ => true) 0 {} false (some 7)).found == some 2
#guard (driver ex (fun _ => true) 0 {} true none).found == some 2
#guard (driver ex (fun _ => true) 2 {} false none).found == none
-- with a limit of 2 the mate is not seen as a mate (score 30767, a depth-1 no-move value)
#guard (driver ex (fun _ => true) 0 {} false (some 2)).infos.map (fun i => (i.depth, i.score)) ==
  [(1, 2), (2, 30767)]
-- hash collision between the mated child and the root: the engine never sees the mate, plays the
-- move 1 and searches to the maximal depth (at iteration 3 the mated child returns the score of
-- the root entry of iteration 2 instead of the mate score)
#guard (driver exCollide (fun _ => true) 0 {} false none).found == some 1
#guard (driver exCollide (fun _ => true) 0 {} false none).infos.length == 32
#guard (driver exCollide (fun _ => true) 0 {} false (some 3)).infos.map (fun i => (i.depth, i.score)) ==
  [(1, 2), (2, 0), (3, 0)]
-- evaluation in the mate range: iteration 1 ends the search with the move 1, which does not mate
#guard (driver exBig (fun _ => true) 0 {} false none).found == some 1
#guard (driver exBig (fun _ => true) 0 {} false none).infos.map (fun i => (i.depth, i.score)) ==
  [(1, 31768)]
-- one less and the mate is played
#guard (driver (exOps (fun g => if g = 1 then -31767 else ev0 g) id) (fun _ => true) 0 {} false
  none).found == some 2

end Example

#print axioms dead_root_reports_none
#print axioms dead_root_reports_none_of_TTInv
#print axioms mated_child_value
#print axioms qsearch_rng
#print axioms depth1_rng
#print axioms node01_child
#print axioms node2_child
#print axioms nonmating_root_score
#print axioms rootSearch_low
#print axioms rootSearch_mate
#print axioms mate_in_one_many
#print axioms mate_in_one_single
#print axioms mate_in_one_found
#print axioms mate_in_one_found'

end Chess.Search.Mate
