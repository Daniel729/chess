import Chess.Lemmas.Mate2On
import Chess.Lemmas.Mate2Off

/-!
# Mate in two (C10, second half): what holds, what does not, example games

"If the side to move can force mate in two, a search to depth 5 or more plays a move that keeps the
forced mate, and stops by itself once the mate is seen": from a fresh table, flag up.

* Table off (the C09 hook on; `Mate2Off`): the full statement in its strong reading (`KeepsMate`:
  the move mates at once or every reply to it allows a mate in one), for every game, null-window
  re-search included: `mate_in_two_found_off`. Only the returned values matter then, and for them
  `ValOk` is sound and complete for the depth-indexed notions `WinP r`/`LoseP r`.
* Table on, strong reading: FALSE as soon as a position is reachable at two distances from the
  root, even with an injective hash. Mate scores are coded with the distance from the root
  (`scoreMin + mateNode + rd`); entries are stored under the hash of the position and re-used at
  another distance. In `Example.exT` the driver exits at depth 5 with the mate-in-two score `32665`
  and the move `0`, which only keeps a mate in three (`exT_move0`, `exT_strong_fails`); with the
  table off it plays the mate in two (`exT_off`).
* Table on, weak reading (`KeepsForcedMate`: after the move the opponent cannot escape a forced
  mate, of some length; `Mate2On`): proved when no position has more than three legal moves
  (`Narrow`), static evaluations stay within `±31767` (`Bounded`) and positions with the same hash
  are alike (`HashSem`; an injective hash gives it, and it cannot be dropped: `Example.exC`):
  `mate_in_two_found`. The strong reading holds when moreover a position determines its distance
  from the root (`Graded`): `mate_in_two_found_strong`. Soundness of a reported mate score at every
  depth: `driver_mate_sound`.

In all of them the move must survive the repetition filter (`m1 ∈ rootMoves o g`). With a mate in
one the driver stops at depth 3 (`Mate.mate_in_one_found`), hence `¬ MateIn1 o g`. Depth 5 is
sharp: with a limit of 4 the mate is not seen (`#guard` on `Example.ex2`).

## Why `Narrow`

Under `Narrow` every move is searched with the full window (`index ≤ fullWindowMaxIndex = 2`).
Without it the soundness of the stored entries is not inductive, because of two features of
`get_best_move_score` at moves of index `≥ 3`:
* after a null-window probe with `test > best_score` the re-search result OVERWRITES `best_score`
  even when it is lower; the entry then stored can be flagged `upper`/`exact` with a losing
  mate-range score although an earlier move was fine. `get_best_move_entry` overwrites likewise.
* the re-search window `(-beta, -test)` is empty or inverted when `test ≥ beta`; the child then
  cuts after ONE move and may store an `upper` entry although only one move was searched.
Both need a re-search that contradicts its probe, which an entry stored elsewhere (a transposition,
an earlier visit of the same node) can produce. No misbehaviour of the driver was found by random
search (about 500 000 games with up to 8 moves per position), so the weak statement without
`Narrow` is OPEN. What is missing is the branch of `nodeStep` for moves of index `≥ 3`, for the
clauses of `NInv` about the stored best score (`sb`, `bL`, kept only in `strict` mode), and the
re-search branch of `rootLoop` (`RInv.research` needs complete claims); the table cut-off, the
stores, the leaves and the driver are proved without `Narrow`.
-/

/-!
## Example games

Positions are `Fin n`, moves are `Nat`, a game is given by tables. `Std.HashMap` does not reduce in
the kernel: what the driver does is obtained by applying the theorems; the `#guard`s are side checks
by evaluation; the facts about the games themselves are kernel-checked by `decide`.
-/
namespace Chess.Search.Mate2.Example
open Chess.Search Chess.Search.Mate Chess.Search.Mate2

def tbl {α : Type} (d : α) (l : List (List α)) (g m : Nat) : α := ((l.getD g []).getD m d)

/-- a game on `Fin (n + 1)` given by tables: successors, legal moves, pseudo-legal moves,
evaluations, "not in check" flags, ordering keys, hashes -/
def mk (n : Nat) (succ : List (List Nat)) (chk unchk : List (List Nat)) (ev : List Int)
    (safe : List Bool) (key : List Nat) (hs : List UInt64) : Ops (Fin (n + 1)) Nat where
  checked g := chk.getD g.val []
  unchecked g := unchk.getD g.val []
  push g m := ⟨tbl 0 succ g.val m % (n + 1), Nat.mod_lt _ (Nat.succ_pos n)⟩
  eval g := ev.getD g.val 0
  safe g := safe.getD g.val true
  hash g := hs.getD g.val 0
  tactical _ := false
  histIdx m := some m
  orderKey m h := key.getD m 0 + h m
  repetition _ := none

/-! ## a graded game with a forced mate in two

The move `m` leads from `g` to `3 * g + m`. The root `0` has the moves `1, 2, 3`; after `2` the
replies `1, 2` lead to `7, 8`, where `1` mates (`22` and `25` are in check without moves). -/

def ex2 : Ops (Fin 27) Nat :=
  mk 26
    ((List.range 27).map fun g => [0, 3 * g + 1, 3 * g + 2, 3 * g + 3])
    [[1, 2, 3], [1, 2], [1, 2], [1, 2], [], [], [], [1, 2], [1]]
    [[1, 2, 3], [1, 2], [1, 2], [1, 2], [], [], [], [1, 2], [1]]
    ((List.range 27).map fun g => ((g % 7 : Nat) : Int) - 3)
    ((List.range 27).map fun g => g != 22 && g != 25)
    [0, 1, 2, 3]
    ((List.range 27).map fun g => g.toUInt64)

def lvl2 (x : Fin 27) : Nat := if x.val = 0 then 0 else if x.val ≤ 3 then 1 else if x.val ≤ 12 then 2 else 3

theorem ex2_bounded : Bounded ex2 := by unfold Bounded; decide
theorem ex2_narrow : Narrow ex2 := by unfold Narrow; decide
theorem ex2_inj : ∀ x y, ex2.hash x = ex2.hash y → x = y := by decide
theorem ex2_graded : Graded ex2 0 lvl2 where
  root := rfl
  step := by decide
  hash := fun x y e => ex2_inj x y e ▸ rfl
theorem ex2_forced : ForcedMate2 ex2 0 2 := by
  unfold ForcedMate2 Lost1 MateIn1 Mated; decide
theorem ex2_no1 : ¬ MateIn1 ex2 0 := by unfold MateIn1 Mated; decide
theorem ex2_unique (m : Nat) (h : KeepsMate ex2 0 m) : m = 2 := by
  have hm : m = 1 ∨ m = 2 ∨ m = 3 := by
    have := h.1
    simpa [ex2, mk] using this
  rcases hm with rfl | rfl | rfl
  · exact absurd h.2 (by unfold Lost1 MateIn1 Mated; decide)
  · rfl
  · exact absurd h.2 (by unfold Lost1 MateIn1 Mated; decide)

/-- the engine plays the move that mates in two, without limit or with any limit of at least 5,
whatever the hook, stops by itself and searches no deeper than 5 -/
theorem ex2_plays (off : Bool) (md : Option Nat) (hmd : md = none ∨ ∃ N, md = some N ∧ 5 ≤ N) :
    (driver ex2 (fun _ => true) 0 {} off md).found = some 2 ∧
    (driver ex2 (fun _ => true) 0 {} off md).stopped = false ∧
    ∀ info ∈ (driver ex2 (fun _ => true) 0 {} off md).infos, info.depth ≤ 5 := by
  obtain ⟨m, h1, h2, h3, h4⟩ := mate_in_two_found_strong ex2 ex2_bounded ex2_narrow 0 ex2_inj lvl2
    ex2_graded 2 ex2_forced ex2_forced.1 ex2_no1 _ (fun _ => rfl) off md hmd
  rw [ex2_unique m h2] at h1
  exact ⟨h1, h3, h4⟩

#guard (driver ex2 (fun _ => true) 0 {} false none).found == some 2
#guard (driver ex2 (fun _ => true) 0 {} false none).stopped == false
#guard (driver ex2 (fun _ => true) 0 {} false none).infos.map (fun i => (i.depth, i.score)) ==
  [(1, 2), (2, 0), (3, 0), (4, 30765), (5, 32665)]
#guard (driver ex2 (fun _ => true) 0 {} true none).found == some 2
-- with a limit of 4 the mate is not seen
#guard (driver ex2 (fun _ => true) 0 {} false (some 4)).infos.map (fun i => (i.depth, i.score)) ==
  [(1, 2), (2, 0), (3, 0), (4, 30765)]

/-! ## transpositions: the strong reading fails, the weak one holds

Six positions, at most three moves each, the position is its own hash (up to `+ 1`). The move `1`
of the root leads to `5`, whose only move leads to `4`, where the move `0` mates (`3` is in check
without moves): a forced mate in two. The move `0` of the root leads to `1`, which is lost in two
more moves but not in one. The move `2` of the root leads back to the root, so that the position
`1` is met at distance 1 and at distance 3 from the root, and so on: the game is not graded. The
driver exits at depth 5 with the mate-in-two score `32665` and answers `0`. -/

def exT : Ops (Fin 6) Nat :=
  mk 5 [[1, 5, 0], [2, 5, 4], [5, 0, 1], [3, 3, 0], [3, 4, 4], [4, 1, 3]]
    [[0, 1, 2], [0, 2], [0], [], [0, 1, 2], [0]]
    [[0, 1, 2], [], [0], [0, 2], [1], []]
    [26, -33, -282, 19, 258, -180]
    [false, false, false, false, true, false]
    [1, 4, 1]
    [1, 2, 3, 4, 5, 6]

theorem exT_bounded : Bounded exT := by unfold Bounded; decide
theorem exT_narrow : Narrow exT := by unfold Narrow; decide
theorem exT_inj : ∀ x y, exT.hash x = exT.hash y → x = y := by decide
theorem exT_forced : ForcedMate2 exT 0 1 := by
  unfold ForcedMate2 Lost1 MateIn1 Mated; decide
theorem exT_no1 : ¬ MateIn1 exT 0 := by unfold MateIn1 Mated; decide
/-- the move `0` does not keep the mate in two ... -/
theorem exT_strong_fails : ¬ KeepsMate exT 0 0 := by
  unfold KeepsMate Lost1 MateIn1 Mated; decide
/-- ... it keeps a mate in three -/
theorem exT_move0 : KeepsMateWithin exT 2 0 0 := by
  unfold KeepsMateWithin
  simp only [LoseIn]
  unfold Mated
  decide
theorem exT_not_graded : ¬ ∃ lvl, Graded exT 0 lvl := by
  rintro ⟨lvl, h⟩
  have := h.step 0 2 (by decide)
  have e : exT.push 0 2 = 0 := by decide
  rw [e] at this
  omega

/-- the weak theorem applies to `exT` -/
theorem exT_weak (md : Option Nat) (hmd : md = none ∨ ∃ N, md = some N ∧ 5 ≤ N) :
    ∃ m, (driver exT (fun _ => true) 0 {} false md).found = some m ∧ KeepsForcedMate exT 0 m ∧
      (driver exT (fun _ => true) 0 {} false md).stopped = false ∧
      ∀ info ∈ (driver exT (fun _ => true) 0 {} false md).infos, info.depth ≤ 5 :=
  mate_in_two_found' exT exT_bounded exT_narrow 0 exT_inj ⟨1, exT_forced⟩ exT_no1 rfl _
    (fun _ => rfl) md hmd

-- what the driver does (by evaluation): it answers `0`, with the mate-in-two score
#guard (driver exT (fun _ => true) 0 {} false none).found == some 0
#guard (driver exT (fun _ => true) 0 {} false none).infos.map (fun i => (i.depth, i.score)) ==
  [(1, 29767), (2, 30767), (3, -258), (4, 258), (5, 32665)]

theorem exT_unique (m : Nat) (h : KeepsMate exT 0 m) : m = 1 := by
  have hm : m = 0 ∨ m = 1 ∨ m = 2 := by
    have := h.1
    simpa [exT, mk] using this
  rcases hm with rfl | rfl | rfl
  · exact absurd h exT_strong_fails
  · rfl
  · exact absurd h (by unfold KeepsMate Lost1 MateIn1 Mated; decide)

/-- with the table switched off the engine plays the mate in two in `exT` (`mate_in_two_found_off`
needs neither `Narrow` nor anything on the hash) -/
theorem exT_off (md : Option Nat) (hmd : md = none ∨ ∃ N, md = some N ∧ 5 ≤ N) :
    (driver exT (fun _ => true) 0 {} true md).found = some 1 ∧
    (driver exT (fun _ => true) 0 {} true md).stopped = false ∧
    ∀ info ∈ (driver exT (fun _ => true) 0 {} true md).infos, info.depth ≤ 5 := by
  obtain ⟨m, h1, h2, h3, h4⟩ := mate_in_two_found_off exT exT_bounded 0 1 exT_forced.1
    ⟨exT_forced.1, Or.inr exT_forced.2⟩ _ (fun _ => rfl) md hmd
  rw [exT_unique m h2] at h1
  exact ⟨h1, h3, h4⟩

#guard (driver exT (fun _ => true) 0 {} true none).found == some 1

/-! ## a hash collision: `HashSem` cannot be dropped

Seven positions, at most three moves each. The move `0` of the root leads to `2`, whose only move
leads to `4`, where the move `0` mates: a forced mate in two. With the position as its own hash the
engine plays it (`exC'_plays`). If `4` shares its hash with the root, the entry of the root is used
at `4`: the mate is never seen, the engine answers `2` (which stalemates) and searches on. -/

def exCwith (hs : List UInt64) : Ops (Fin 7) Nat :=
  mk 6 [[2, 0, 1], [4, 2, 4], [2, 4, 3], [6, 6, 5], [5, 2, 1], [4, 4, 3], [1, 0, 2]]
    [[0, 1, 2], [], [1], [0, 1, 2], [0, 1], [], []]
    [[0, 1, 2], [0, 1], [1, 2], [1], [], [2], []]
    [-42, -73, 130, 229, 191, 142, -260]
    [false, true, false, false, true, false, false]
    [3, 1, 0]
    hs

def exC : Ops (Fin 7) Nat := exCwith [0, 2, 3, 4, 0, 6, 7]
def exC' : Ops (Fin 7) Nat := exCwith [1, 2, 3, 4, 5, 6, 7]

theorem exC_bounded : Bounded exC := by unfold Bounded; decide
theorem exC_narrow : Narrow exC := by unfold Narrow; decide
theorem exC_forced : ForcedMate2 exC 0 0 := by
  unfold ForcedMate2 Lost1 MateIn1 Mated; decide
theorem exC_no1 : ¬ MateIn1 exC 0 := by unfold MateIn1 Mated; decide
theorem exC_collision : exC.hash 4 = exC.hash 0 := by decide
/-- after the move `2` the opponent is stalemated: no forced mate is kept -/
theorem exC_move2 : ¬ KeepsForcedMate exC 0 2 := by
  rintro ⟨_, k, hk⟩
  have hs : exC.safe (exC.push 0 2) = true := by decide
  have hn : exC.checked (exC.push 0 2) = [] := by decide
  cases k with
  | zero => exact absurd hk.2 (by rw [hs]; decide)
  | succ k =>
    rcases hk with hk | hk
    · exact absurd hk.2 (by rw [hs]; decide)
    · exact hk.1 hn

theorem exC'_bounded : Bounded exC' := by unfold Bounded; decide
theorem exC'_narrow : Narrow exC' := by unfold Narrow; decide
theorem exC'_inj : ∀ x y, exC'.hash x = exC'.hash y → x = y := by decide
theorem exC'_forced : ForcedMate2 exC' 0 0 := by
  unfold ForcedMate2 Lost1 MateIn1 Mated; decide
theorem exC'_no1 : ¬ MateIn1 exC' 0 := by unfold MateIn1 Mated; decide

/-- with an injective hash the engine keeps the mate -/
theorem exC'_plays (md : Option Nat) (hmd : md = none ∨ ∃ N, md = some N ∧ 5 ≤ N) :
    ∃ m, (driver exC' (fun _ => true) 0 {} false md).found = some m ∧ KeepsForcedMate exC' 0 m ∧
      (driver exC' (fun _ => true) 0 {} false md).stopped = false ∧
      ∀ info ∈ (driver exC' (fun _ => true) 0 {} false md).infos, info.depth ≤ 5 :=
  mate_in_two_found' exC' exC'_bounded exC'_narrow 0 exC'_inj ⟨0, exC'_forced⟩ exC'_no1 rfl _
    (fun _ => rfl) md hmd

#guard (driver exC' (fun _ => true) 0 {} false none).found == some 0
-- with the collision: the move 2, no mate score, the search goes on to the limit
#guard (driver exC (fun _ => true) 0 {} false (some 9)).found == some 2
#guard (driver exC (fun _ => true) 0 {} false (some 9)).infos.map (fun i => (i.depth, i.score)) ==
  [(1, 73), (2, 0), (3, 0), (4, 0), (5, 0), (6, 0), (7, 0), (8, 0), (9, 0)]

#print axioms node_ok
#print axioms rootSearch_ok
#print axioms mate_in_two_found
#print axioms mate_in_two_found_strong
#print axioms mate_in_two_found'
#print axioms driver_mate_sound
#print axioms node_off
#print axioms mate_in_two_found_off
#print axioms exT_off
#print axioms ex2_plays
#print axioms exT_weak
#print axioms exT_strong_fails
#print axioms exC_move2

end Chess.Search.Mate2.Example
