import Chess.Lemmas.Mate

/-!
# Mate in two (C10, second half): the game-theoretic notions and the table invariant

`Lose`/`Win` (a forced mate of some length) and their bounded forms, the two readings of "keeps the
mate" (`KeepsMate`, strong; `KeepsForcedMate`, weak), the notions `LoseP r`/`WinP r` of what a search
with `r` plies left can see, and the abstraction `Sem` of "won"/"lost" under which the table
invariant `TInv` is stated.
-/
namespace Chess.Search.Mate2
open Chess.Search Chess.Search.Mate

variable {G M : Type}

/-- the side to move can mate at once -/
def MateIn1 (o : Ops G M) (g : G) : Prop := ∃ m ∈ o.checked g, Mated o (o.push g m)

/-- the side to move has a legal move, and whatever it plays the opponent mates at once -/
def Lost1 (o : Ops G M) (g : G) : Prop :=
  o.checked g ≠ [] ∧ ∀ r ∈ o.checked g, MateIn1 o (o.push g r)

/-- `m1` is legal, does not mate, and forces mate on the next move -/
def ForcedMate2 (o : Ops G M) (g : G) (m1 : M) : Prop := m1 ∈ o.checked g ∧ Lost1 o (o.push g m1)

/-- the strong notion: `m` is legal and mates at once or forces mate on the next move -/
def KeepsMate (o : Ops G M) (g : G) (m : M) : Prop :=
  m ∈ o.checked g ∧ (Mated o (o.push g m) ∨ Lost1 o (o.push g m))

/-- the side to move at `x` is checkmated within `k` moves of the opponent, whatever it plays -/
def LoseIn (o : Ops G M) : Nat → G → Prop
  | 0, x => Mated o x
  | k + 1, x => Mated o x ∨ (o.checked x ≠ [] ∧
      ∀ m ∈ o.checked x, ∃ m' ∈ o.checked (o.push x m), LoseIn o k (o.push (o.push x m) m'))

/-- the side to move at `x` cannot escape a forced mate -/
def Lose (o : Ops G M) (x : G) : Prop := ∃ k, LoseIn o k x

/-- the side to move at `x` has a forced mate -/
def Win (o : Ops G M) (x : G) : Prop := ∃ m ∈ o.checked x, Lose o (o.push x m)

/-- the weak notion: `m` is legal and after it the opponent cannot escape a forced mate (of some
length) -/
def KeepsForcedMate (o : Ops G M) (g : G) (m : M) : Prop := m ∈ o.checked g ∧ Lose o (o.push g m)

/-- `m` is legal and after it the opponent is mated within `k` further moves of ours -/
def KeepsMateWithin (o : Ops G M) (k : Nat) (g : G) (m : M) : Prop :=
  m ∈ o.checked g ∧ LoseIn o k (o.push g m)

/-- the step shared by `LoseIn` and `LoseP` (and by `Lost1`, with `R = Mated o`) is monotone in
what is required after the reply -/
theorem loseStep_mono {o : Ops G M} {R R' : G → Prop} (h : ∀ y, R y → R' y) {x : G} :
    (Mated o x ∨ (o.checked x ≠ [] ∧
      ∀ m ∈ o.checked x, ∃ m' ∈ o.checked (o.push x m), R (o.push (o.push x m) m'))) →
    Mated o x ∨ (o.checked x ≠ [] ∧
      ∀ m ∈ o.checked x, ∃ m' ∈ o.checked (o.push x m), R' (o.push (o.push x m) m')) :=
  Or.imp_right fun ⟨hne, k⟩ => ⟨hne, fun m hm => (k m hm).imp fun _ k' => ⟨k'.1, h _ k'.2⟩⟩

theorem LoseIn.succ {o : Ops G M} : ∀ {k : Nat} {x : G}, LoseIn o k x → LoseIn o (k + 1) x
  | 0, _, h => Or.inl h
  | k + 1, _, h => loseStep_mono (R := LoseIn o k) (fun _ => LoseIn.succ) h

theorem LoseIn.mono {o : Ops G M} {k k' : Nat} {x : G} (h : LoseIn o k x) (hk : k ≤ k') :
    LoseIn o k' x := by
  induction hk with
  | refl => exact h
  | step _ ih => exact ih.succ

theorem Lose.of_mated {o : Ops G M} {x : G} (h : Mated o x) : Lose o x := ⟨0, h⟩

/-- finitely many existential bounds have a common bound -/
theorem exists_common_bound {α : Type} (P : Nat → α → Prop)
    (hmono : ∀ k k' a, k ≤ k' → P k a → P k' a) :
    ∀ l : List α, (∀ a ∈ l, ∃ k, P k a) → ∃ K, ∀ a ∈ l, P K a
  | [], _ => ⟨0, fun _ h => by cases h⟩
  | a :: l, h => by
    obtain ⟨K, hK⟩ := exists_common_bound P hmono l (fun b hb => h b (List.mem_cons_of_mem _ hb))
    obtain ⟨k, hk⟩ := h a List.mem_cons_self
    refine ⟨max k K, fun b hb => ?_⟩
    rcases List.mem_cons.1 hb with rfl | hb
    · exact hmono _ _ _ (Nat.le_max_left _ _) hk
    · exact hmono _ _ _ (Nat.le_max_right _ _) (hK b hb)

/-- a position with a legal move all of whose moves lead to won positions is lost -/
theorem Lose.of_all_win {o : Ops G M} {x : G} (hne : o.checked x ≠ [])
    (h : ∀ m ∈ o.checked x, Win o (o.push x m)) : Lose o x := by
  obtain ⟨K, hK⟩ := exists_common_bound
    (fun k m => ∃ m' ∈ o.checked (o.push x m), LoseIn o k (o.push (o.push x m) m'))
    (fun k k' m hk ⟨m', hm', hl⟩ => ⟨m', hm', hl.mono hk⟩) (o.checked x)
    fun m hm => (h m hm).elim fun m' ⟨hm', k, hk⟩ => ⟨k, m', hm', hk⟩
  exact ⟨K + 1, Or.inr ⟨hne, hK⟩⟩

theorem Win.of_move {o : Ops G M} {x : G} {m : M} (hm : m ∈ o.checked x)
    (h : Lose o (o.push x m)) : Win o x := ⟨m, hm, h⟩

/-- no move from a lost position leads to a lost position -/
theorem LoseIn.no_lose_child {o : Ops G M} :
    ∀ (k j : Nat) (y : G) (m : M), LoseIn o k y → m ∈ o.checked y → ¬ LoseIn o j (o.push y m)
  | 0, _, y, m, h, hm, _ => by
    have : o.checked y = [] := h.1
    rw [this] at hm; cases hm
  | k + 1, j, y, m, h, hm, hz => by
    rcases h with h | ⟨_, h⟩
    · have : o.checked y = [] := h.1
      rw [this] at hm; cases hm
    · obtain ⟨m', hm', hw⟩ := h m hm
      -- `w := push (push y m) m'` is lost within `k`, and `push y m` is lost
      have hzne : ¬ Mated o (o.push y m) := by
        intro hM
        have : o.checked (o.push y m) = [] := hM.1
        rw [this] at hm'; cases hm'
      match j, hz with
      | 0, hz => exact hzne hz
      | j + 1, hz =>
        rcases hz with hz | ⟨_, hz⟩
        · exact hzne hz
        · obtain ⟨m3, hm3, hl3⟩ := hz m' hm'
          exact LoseIn.no_lose_child k j _ m3 hw hm3 hl3

theorem not_win_of_lose {o : Ops G M} {x : G} (h : Lose o x) : ¬ Win o x := by
  rintro ⟨m, hm, j, hj⟩
  obtain ⟨k, hk⟩ := h
  exact LoseIn.no_lose_child k j x m hk hm hj

theorem MateIn1.win {o : Ops G M} {x : G} (h : MateIn1 o x) : Win o x := by
  obtain ⟨m, hm, hM⟩ := h
  exact ⟨m, hm, Lose.of_mated hM⟩

theorem Lost1.loseIn {o : Ops G M} {x : G} (h : Lost1 o x) : LoseIn o 1 x :=
  Or.inr ⟨h.1, fun m hm => h.2 m hm⟩

theorem Lost1.lose {o : Ops G M} {x : G} (h : Lost1 o x) : Lose o x := ⟨1, h.loseIn⟩

theorem Lost1.not_win {o : Ops G M} {x : G} (h : Lost1 o x) : ¬ Win o x := not_win_of_lose h.lose

theorem MateIn1.not_lose {o : Ops G M} {x : G} (h : MateIn1 o x) : ¬ Lose o x :=
  fun hl => not_win_of_lose hl h.win

theorem MateIn1.not_mated {o : Ops G M} {x : G} (h : MateIn1 o x) : ¬ Mated o x := by
  obtain ⟨m, hm, _⟩ := h
  intro hM
  have : o.checked x = [] := hM.1
  rw [this] at hm; cases hm

theorem ForcedMate2.win {o : Ops G M} {g : G} {m : M} (h : ForcedMate2 o g m) : Win o g :=
  ⟨m, h.1, h.2.lose⟩

theorem KeepsMate.weak {o : Ops G M} {g : G} {m : M} (h : KeepsMate o g m) :
    KeepsMateWithin o 1 g m := by
  refine ⟨h.1, ?_⟩
  rcases h.2 with h | h
  · exact Or.inl h
  · exact h.loseIn

theorem KeepsMateWithin.forced {o : Ops G M} {k : Nat} {g : G} {m : M}
    (h : KeepsMateWithin o k g m) : KeepsForcedMate o g m := ⟨h.1, k, h.2⟩

/-! ## Depth-indexed notions: what a search with `r` plies left can see

`LoseP r x`: the side to move at `x` is mated, or every move allows a reply after which it is
`LoseP (r - 2)`; nothing is seen with fewer than two plies left. `WinP r x`: some move leads to a
`LoseP (r - 1)` position. -/

def LoseP (o : Ops G M) : Nat → G → Prop
  | 0, _ => False
  | 1, _ => False
  | r + 2, x => Mated o x ∨ (o.checked x ≠ [] ∧
      ∀ m ∈ o.checked x, ∃ m' ∈ o.checked (o.push x m), LoseP o r (o.push (o.push x m) m'))

def WinP (o : Ops G M) (r : Nat) (x : G) : Prop :=
  ∃ m ∈ o.checked x, LoseP o (r - 1) (o.push x m)

theorem LoseP.succ {o : Ops G M} : ∀ (r : Nat) (x : G), LoseP o r x → LoseP o (r + 1) x
  | 0, _, h => h.elim
  | 1, _, h => h.elim
  | r + 2, _, h => loseStep_mono (LoseP.succ r) h

theorem LoseP.mono {o : Ops G M} {r r' : Nat} {x : G} (h : LoseP o r x) (hr : r ≤ r') :
    LoseP o r' x := by
  induction hr with
  | refl => exact h
  | step _ ih => exact LoseP.succ _ _ ih

theorem LoseP.loseIn {o : Ops G M} : ∀ (r : Nat) (x : G), LoseP o r x → LoseIn o r x
  | 0, _, h => h.elim
  | 1, _, h => h.elim
  | r + 2, _, h => loseStep_mono (fun y k => (LoseP.loseIn r y k).succ) h

theorem LoseP.lose {o : Ops G M} {r : Nat} {x : G} (h : LoseP o r x) : Lose o x :=
  ⟨r, LoseP.loseIn r x h⟩

theorem WinP.win {o : Ops G M} {r : Nat} {x : G} (h : WinP o r x) : Win o x := by
  obtain ⟨m, hm, hl⟩ := h
  exact ⟨m, hm, hl.lose⟩

theorem LoseP.two {o : Ops G M} {x : G} (h : LoseP o 2 x) : Mated o x := by
  rcases h with h | ⟨hne, h⟩
  · exact h
  · cases hc : o.checked x with
    | nil => exact absurd hc hne
    | cons m ms =>
      obtain ⟨_, _, hl⟩ := h m (by rw [hc]; exact List.mem_cons_self)
      exact hl.elim

/-- with four plies left, "lost" means mated or `Lost1` -/
theorem LoseP.four {o : Ops G M} {x : G} (h : LoseP o 4 x) : Mated o x ∨ Lost1 o x :=
  loseStep_mono (R := LoseP o 2) (fun _ => LoseP.two) h

theorem Lost1.loseP {o : Ops G M} {x : G} (h : Lost1 o x) {r : Nat} (hr : 4 ≤ r) :
    LoseP o r x :=
  LoseP.mono (r := 4) (loseStep_mono (R' := LoseP o 2) (fun _ => Or.inl) (Or.inr h)) hr

theorem KeepsMate.of_loseP {o : Ops G M} {g : G} {m : M} {r : Nat} (hm : m ∈ o.checked g)
    (hr : r ≤ 4) (h : LoseP o r (o.push g m)) : KeepsMate o g m :=
  ⟨hm, (h.mono hr).four⟩

/-! ## The value contract of a node and the table invariant -/

/-- the largest mate score: `32668` -/
def mS : Int := -(scoreMin + Gen.mateNode)

theorem mS_eq : mS = 32668 := rfl

/-- The notions "won"/"lost" used by the invariant, indexed by the number of plies left, with what
the proofs need of them. `Ex d δ x`: an entry of depth `δ` may sit under the hash of `x` during
iteration `d`; `Nx d r x`: `x` may be searched with `r` plies left during iteration `d`. Two
instances: the plain notions `Win`/`Lose` (`Sem.plain`, every index alike), and the depth-indexed
notions `WinP`/`LoseP` for games in which a position determines its distance from the root
(`Sem.graded`). -/
structure Sem (o : Ops G M) where
  W : Nat → G → Prop
  L : Nat → G → Prop
  Ex : Nat → Nat → G → Prop
  Nx : Nat → Nat → G → Prop
  mated : ∀ {x : G} {r : Nat}, Mated o x → L (r + 2) x
  win : ∀ {x : G} {m : M} {r : Nat}, m ∈ o.checked x → L r (o.push x m) → W (r + 1) x
  lose : ∀ {x : G} {r : Nat}, o.checked x ≠ [] → (∀ m ∈ o.checked x, W r (o.push x m)) →
    L (r + 1) x
  cutW : ∀ {d δ r : Nat} {x : G}, Ex d δ x → Nx d r x → r ≤ δ → W δ x → W r x
  cutL : ∀ {d δ r : Nat} {x : G}, Ex d δ x → Nx d r x → r ≤ δ → L δ x → L r x
  child : ∀ {d r : Nat} {x : G} {m : M}, Nx d (r + 1) x → m ∈ o.checked x → Nx d r (o.push x m)
  store : ∀ {d r : Nat} {x y : G}, Nx d r x → o.hash y = o.hash x → Ex d r y
  exMono : ∀ {d δ : Nat} {x : G}, Ex d δ x → Ex (d + 1) δ x
  hashW : ∀ {r : Nat} {x y : G}, o.hash x = o.hash y → W r x → W r y
  hashL : ∀ {r : Nat} {x y : G}, o.hash x = o.hash y → L r x → L r y
  mate1 : ∀ x y, o.hash x = o.hash y → MateIn1 o x → MateIn1 o y
  lost1 : ∀ x y, o.hash x = o.hash y → Lost1 o x → Lost1 o y
  dead : ∀ x y, o.hash x = o.hash y → o.checked x = [] → o.checked y = []
  lost1_not_W : ∀ {x : G} {r : Nat}, Lost1 o x → ¬ W r x
  lost1_L : ∀ {x : G} {r : Nat}, Lost1 o x → 4 ≤ r → L r x

theorem Sem.exMono_le {o : Ops G M} (S : Sem o) {d d' δ : Nat} {x : G} (h : S.Ex d δ x)
    (hd : d ≤ d') : S.Ex d' δ x := by
  induction hd with
  | refl => exact h
  | step _ ih => exact S.exMono ih

/-- known to be won: a mate in one, searched with three plies or more (only claimed under the
switch `cm`) -/
def KnownWon (o : Ops G M) (cm : Prop) (rem : Nat) (x : G) : Prop := cm ∧ MateIn1 o x ∧ 3 ≤ rem

/-- known to be lost: mated, searched with two plies or more; or (under `cm`) every move allows a
mate in one, searched with four plies or more -/
def KnownLost (o : Ops G M) (cm : Prop) (rem : Nat) (x : G) : Prop :=
  (Mated o x ∧ 2 ≤ rem) ∨ (cm ∧ Lost1 o x ∧ 4 ≤ rem)

/-- positions with the same hash are alike for the notions used: what an injective hash gives -/
structure HashSem (o : Ops G M) : Prop where
  lose : ∀ x y, o.hash x = o.hash y → Lose o x → Lose o y
  win : ∀ x y, o.hash x = o.hash y → Win o x → Win o y
  mate1 : ∀ x y, o.hash x = o.hash y → MateIn1 o x → MateIn1 o y
  lost1 : ∀ x y, o.hash x = o.hash y → Lost1 o x → Lost1 o y
  dead : ∀ x y, o.hash x = o.hash y → o.checked x = [] → o.checked y = []

theorem HashSem.of_injective {o : Ops G M} (h : ∀ x y, o.hash x = o.hash y → x = y) :
    HashSem o where
  lose := fun x y e k => h x y e ▸ k
  win := fun x y e k => h x y e ▸ k
  mate1 := fun x y e k => h x y e ▸ k
  lost1 := fun x y e k => h x y e ▸ k
  dead := fun x y e k => h x y e ▸ k

/-- the plain notions: won, lost, whatever the number of plies left -/
def Sem.plain {o : Ops G M} (hs : HashSem o) : Sem o where
  W := fun _ => Win o
  L := fun _ => Lose o
  Ex := fun _ _ _ => True
  Nx := fun _ _ _ => True
  mated := Lose.of_mated
  win := Win.of_move
  lose := Lose.of_all_win
  cutW := fun _ _ _ h => h
  cutL := fun _ _ _ h => h
  child := fun _ _ => trivial
  store := fun _ _ => trivial
  exMono := fun _ => trivial
  hashW := fun e h => hs.win _ _ e h
  hashL := fun e h => hs.lose _ _ e h
  mate1 := hs.mate1
  lost1 := hs.lost1
  dead := hs.dead
  lost1_not_W := Lost1.not_win
  lost1_L := fun h _ => h.lose

/-- a position determines its distance from the root `g`, and so does its hash: no position is
reached (by legal moves) at two different distances, no two positions at different distances share
a hash -/
structure Graded (o : Ops G M) (g : G) (lvl : G → Nat) : Prop where
  root : lvl g = 0
  step : ∀ x m, m ∈ o.checked x → lvl (o.push x m) = lvl x + 1
  hash : ∀ x y, o.hash x = o.hash y → lvl x = lvl y

/-- the depth-indexed notions, in a graded game with an injective hash -/
def Sem.graded {o : Ops G M} {g : G} {lvl : G → Nat} (hg : Graded o g lvl)
    (hinj : ∀ x y, o.hash x = o.hash y → x = y) : Sem o where
  W := WinP o
  L := LoseP o
  Ex := fun d δ x => δ + lvl x ≤ d
  Nx := fun d r x => r + lvl x = d
  mated := Or.inl
  win := fun {x m r} hm h => ⟨m, hm, h⟩
  lose := fun {x r} hne h => by
    match r with
    | 0 =>
      cases hc : o.checked x with
      | nil => exact absurd hc hne
      | cons m ms =>
        obtain ⟨_, _, k⟩ := h m (by rw [hc]; exact List.mem_cons_self)
        exact k.elim
    | r + 1 => exact Or.inr ⟨hne, fun m hm => h m hm⟩
  cutW := fun {d δ r x} h1 h2 h3 h => by
    have : δ = r := by omega
    exact this ▸ h
  cutL := fun {d δ r x} h1 h2 h3 h => by
    have : δ = r := by omega
    exact this ▸ h
  child := fun {d r x m} h hm => by
    have := hg.step x m hm
    omega
  store := fun {d r x y} h e => by
    have := hg.hash y x e
    omega
  exMono := fun h => by omega
  hashW := fun e h => hinj _ _ e ▸ h
  hashL := fun e h => hinj _ _ e ▸ h
  mate1 := fun x y e k => hinj x y e ▸ k
  lost1 := fun x y e k => hinj x y e ▸ k
  dead := fun x y e k => hinj x y e ▸ k
  lost1_not_W := fun h k => h.not_win k.win
  lost1_L := fun h hr => h.loseP hr

/-- what is required of the entry `e` stored under the hash `h` -/
def EntryOk (o : Ops G M) (S : Sem o) (cm : Prop) (D : Nat) (h : UInt64) (e : Entry M) : Prop :=
  e.depth ≤ D ∧ (e.flag ≠ Flag.upper → e.score ≤ mS) ∧ (e.flag ≠ Flag.lower → -mS ≤ e.score) ∧
  ∀ x, o.hash x = h → o.checked x ≠ [] ∧ S.Ex D e.depth x ∧
    (e.flag ≠ Flag.upper → e.score ≤ evalBound ∨ S.W e.depth x) ∧
    (e.flag ≠ Flag.lower → -evalBound ≤ e.score ∨ S.L e.depth x) ∧
    (cm → MateIn1 o x → 3 ≤ e.depth → e.flag ≠ Flag.lower → evalBound < e.score) ∧
    (cm → Lost1 o x → 4 ≤ e.depth → e.flag ≠ Flag.upper → e.score < -evalBound)

def TInv (o : Ops G M) (S : Sem o) (cm : Prop) (D : Nat) (tt : Table M) : Prop :=
  ∀ (h : UInt64) (e : Entry M), tt[h]? = some e → EntryOk o S cm D h e

theorem TInv_empty (o : Ops G M) (S : Sem o) (cm : Prop) (D : Nat) : TInv o S cm D ({} : Table M) :=
  forall_entries_empty

theorem EntryOk.mono {o : Ops G M} {S : Sem o} {cm : Prop} {D D' : Nat} {h : UInt64} {e : Entry M}
    (k : EntryOk o S cm D h e) (hd : D ≤ D') : EntryOk o S cm D' h e :=
  ⟨Nat.le_trans k.1 hd, k.2.1, k.2.2.1, fun x hx =>
    ⟨(k.2.2.2 x hx).1, S.exMono_le (k.2.2.2 x hx).2.1 hd, (k.2.2.2 x hx).2.2⟩⟩

theorem TInv.mono {o : Ops G M} {S : Sem o} {cm : Prop} {D D' : Nat} {tt : Table M} (k : TInv o S cm D tt)
    (hd : D ≤ D') : TInv o S cm D' tt := fun h e he => (k h e he).mono hd

theorem TInv.insert {o : Ops G M} {S : Sem o} {cm : Prop} {D : Nat} {tt : Table M} (k : TInv o S cm D tt)
    (h : UInt64) (e : Entry M) (he : EntryOk o S cm D h e) : TInv o S cm D (tt.insert h e) :=
  forall_entries_insert k he

theorem TInv.poll {o : Ops G M} {S : Sem o} {cm : Prop} {D : Nat} {st : St M} (k : TInv o S cm D st.tt) :
    TInv o S cm D (pollSt st).tt := entries_poll k

theorem TInv.nodeStore {o : Ops G M} {S : Sem o} {cm : Prop} {D : Nat} {st : St M} (k : TInv o S cm D st.tt)
    (h : UInt64) (d : Nat) (e : Entry M) (he : EntryOk o S cm D h e) :
    TInv o S cm D (nodeStore h d e st).tt := entries_nodeStore k d he

theorem TInv.rootStore {o : Ops G M} {S : Sem o} {cm : Prop} {D : Nat} {st : St M} (k : TInv o S cm D st.tt)
    (h : UInt64) (d : Nat) (e : Entry M) (he : EntryOk o S cm D h e) :
    TInv o S cm D (rootStore h d e st).tt := entries_rootStore k d he

/-- no entry sits under the hash of a position without legal move -/
theorem TInv.none_of_dead {o : Ops G M} {S : Sem o} {cm : Prop} {D : Nat} {tt : Table M} (k : TInv o S cm D tt)
    {c : G} (hc : o.checked c = []) : tt[o.hash c]? = none := by
  cases he : tt[o.hash c]? with
  | none => rfl
  | some e => exact absurd hc ((k _ e he).2.2.2 c rfl).1

theorem evalBound_le_mS : evalBound ≤ mS := by decide

theorem ttCut_ok {o : Ops G M} {S : Sem o} {cm : Prop} {D : Nat} {tt : Table M}
    (k : TInv o S cm D tt) (x : G) (rem : Nat) (hN : S.Nx D rem x) (a b v : Int)
    (hv : ttCut tt[o.hash x]? rem a b = some v) :
    ValOk evalBound mS (S.W rem x) (S.L rem x) (KnownWon o cm rem x) (KnownLost o cm rem x)
      a b v := by
  obtain ⟨e, he, hd, rfl, hu, hl⟩ := ttCut_some hv
  obtain ⟨_, n1, n2, hx⟩ := k _ e he
  obtain ⟨hne, hE, c1, c2, c3, c4⟩ := hx x rfl
  have hE' := evalBound_le_mS
  refine ⟨?_, ?_, ?_, ?_, fun kw => ?_, fun kl => ?_⟩
  · rcases hl with f | f
    · have := n2 f; omega
    · omega
  · rcases hu with f | f
    · have := n1 f; omega
    · omega
  · rcases hu with f | f
    · exact (c1 f).imp (fun _ => by omega) (S.cutW hE hN hd)
    · exact Or.inl (by omega)
  · rcases hl with f | f
    · exact (c2 f).imp (fun _ => by omega) (S.cutL hE hN hd)
    · exact Or.inl (by omega)
  · rcases hl with f | f
    · have := c3 kw.1 kw.2.1 (by have := kw.2.2; omega) f
      omega
    · omega
  · rcases hu with f | f
    · refine Or.elim kl (fun k' => absurd k'.1.1 hne) fun k' => ?_
      have := c4 k'.1 k'.2.1 (by have := k'.2.2; omega) f
      omega
    · omega

theorem WinP.of_move {o : Ops G M} {x : G} {m : M} {r : Nat} (hm : m ∈ o.checked x)
    (h : LoseP o r (o.push x m)) : WinP o (r + 1) x := ⟨m, hm, h⟩

theorem thresholds : Thresholds evalBound mS := by unfold Thresholds; decide

/-- the value of a node without legal moves: `0`, or the mate score at its distance from the root -/
theorem ValOk.dead {o : Ops G M} {x : G} (hx : o.checked x = []) {W L CW CL : Prop}
    (hL : Mated o x → L) (hw : ¬ CW) (hl : CL → Mated o x) {a b rd : Int} (h0 : 0 ≤ rd)
    (h1 : rd ≤ 600) :
    ValOk evalBound mS W L CW CL a b (if o.safe x then 0 else scoreMin + Gen.mateNode + rd) := by
  cases hs : o.safe x with
  | true =>
    refine ValOk.of_rng (Int.le_refl _) evalBound_le_mS ?_ hw fun k => ?_
    · simp only [if_true, Rng, evalBound_eq]; omega
    · have := (hl k).2
      rw [hs] at this; cases this
  | false =>
    simp only [Bool.false_eq_true, if_false]
    refine ⟨?_, ?_, Or.inl ?_, Or.inr (hL ⟨hx, hs⟩), fun k => absurd k hw, fun _ => ?_⟩ <;>
      simp only [mS_eq, evalBound_eq, scoreMin, Gen.mateNode] <;> omega

end Chess.Search.Mate2
