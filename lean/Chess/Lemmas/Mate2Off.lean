import Chess.Lemmas.Mate2Game

/-!
# Mate in two with the table switched off — every game, null-window re-search included

With the C09 hook on (`ttOff = true`) the table is emptied at every poll, so no look-up ever hits
and what is stored never matters: only the RETURNED values do. For them the contract `ValOk` goes
through the null-window re-search, for every window (empty and inverted ones too), in every game.
The notions are the depth-indexed ones: `WinP r`/`LoseP r`, "as seen with `r` plies left", for which
the search is both sound and complete.
-/
namespace Chess.Search.Mate2
open Chess.Search Chess.Search.Mate

variable {G M : Type}

/-- the state with the hook on: the table is emptied at every poll; between two polls it only holds
entries of depth at most `D` -/
def OffOk (D : Nat) (st : St M) : Prop :=
  st.ttOff = true ∧ ∀ (h : UInt64) (e : Entry M), st.tt[h]? = some e → e.depth ≤ D

/-- the contract of a child call with the table off: sound and complete for `WinP`/`LoseP` -/
def ChildOff (o : Ops G M) (D : Nat)
    (child : G → Int → Int → Int → St M → Option (Int × St M))
    (remc : Nat) (c : G) (rdc : Int) : Prop :=
  ChildC evalBound mS (OffOk D) False child c rdc (WinP o remc c) (LoseP o remc c) (WinP o remc c)
    (LoseP o remc c)

theorem OffOk.poll {D : Nat} {st : St M} (h : OffOk D st) :
    OffOk D (pollSt st) ∧ ∀ k, ttGet (pollSt st) k = none := by
  refine ⟨⟨h.1, fun k e he => ?_⟩, ttGet_pollSt_of_off h.1⟩
  rw [show (pollSt st).tt[k]? = none from ttGet_pollSt_of_off h.1 k] at he
  cases he

theorem OffOk.insert {D : Nat} {st : St M} (h : OffOk D st) (k : UInt64) (e : Entry M)
    (he : e.depth ≤ D) : OffOk D { st with tt := st.tt.insert k e } :=
  ⟨h.1, forall_entries_insert h.2 he⟩

theorem OffOk.nodeStore {D : Nat} {st : St M} (h : OffOk D st) (k : UInt64) (d : Nat)
    (e : Entry M) (he : e.depth ≤ D) : OffOk D (nodeStore k d e st) :=
  nodeStore_ind h (h.insert k e he)

theorem OffOk.rootStore {D : Nat} {st : St M} (h : OffOk D st) (k : UInt64) (d : Nat)
    (e : Entry M) (he : e.depth ≤ D) : OffOk D (rootStore k d e st) :=
  rootStore_ind h (h.insert k e he)

theorem OffOk.mono {D D' : Nat} {st : St M} (h : OffOk D st) (hd : D ≤ D') : OffOk D' st :=
  ⟨h.1, fun k e he => Nat.le_trans (h.2 k e he) hd⟩

variable [DecidableEq M]

/-- **The contract of a node with the table off**, in every game, at every depth, for every
window: the value is in range, sound and complete for the depth-indexed notions. -/
theorem node_off (o : Ops G M) (hb : Bounded o) (D : Nat) {runs : Nat → Bool}
    (hr : ∀ i, runs i = true) :
    ∀ (rem : Nat) (x : G) (rd : Int), 0 ≤ rd → rd + rem ≤ 600 → rem ≤ D →
      ChildOff o D (node o runs rem) rem x rd := by
  intro rem
  induction rem using Nat.strongRecOn with
  | _ rem ih =>
    intro x rd h0 h1 hD a b st _ hQ
    rw [node_eq_of_runs (hr _)]
    obtain ⟨hQ1, hnone⟩ := hQ.poll
    rw [hnone]
    simp only [ttCut]
    match rem, ih, h1, hD with
    | 0, _, h1, _ =>
      exact ⟨_, _, rfl, hQ1, ValOk.of_rng (Int.le_refl _) evalBound_le_mS
        (qsearch_rng o hb qFuel x a b rd h0 (by unfold qFuel; omega))
        (fun ⟨_, _, k⟩ => k) id⟩
    | 1, _, h1, _ =>
      exact ⟨_, _, rfl, hQ1, ValOk.of_rng (Int.le_refl _) evalBound_le_mS
        (depth1_rng o hb x a b rd h0 (by omega)) (fun ⟨_, _, k⟩ => k) id⟩
    | r + 2, ih, h1, hD =>
      by_cases he : (o.checked x).isEmpty = true
      · simp only [he, if_true]
        have hnil : o.checked x = [] := List.isEmpty_iff.1 he
        exact ⟨_, _, rfl, hQ1, ValOk.dead hnil Or.inl (fun ⟨m, hm, _⟩ => by rw [hnil] at hm; cases hm)
          (fun k => Or.elim k id fun k' => absurd hnil k'.1) h0 (by omega)⟩
      · simp only [he]
        have hne : o.checked x ≠ [] := fun h => he (by rw [h]; rfl)
        obtain ⟨out, k1, k2, k3⟩ := nodeLoop_start o (node o runs (r + 1)) x (r + 2) rd a b
          thresholds (Q := OffOk D) (fun _ _ _ k => k) (strict := False)
          (W := WinP o (r + 2) x) (CW := WinP o (r + 2) x) (CL := LoseP o (r + 2) x) (pollSt st)
          hne
          (fun m hm => ⟨ih (r + 1) (by omega) (o.push x m) (rd + 1) (by omega) (by omega) (by omega),
            WinP.of_move hm, fun k => Or.elim k (fun k' => absurd k'.1 hne) fun k' => k'.2 m hm⟩)
          False.elim hQ1 id
        rw [k1]
        exact ⟨_, _, rfl, k2.nodeStore _ _ _ hD, k3.valOk fun k => Or.inr ⟨hne, k⟩⟩

/-- **The root search with the table off**, in every game: sound and complete for
`WinP remc`/`LoseP remc` -/
theorem rootSearch_off (o : Ops G M) (hb : Bounded o) {runs : Nat → Bool}
    (hr : ∀ i, runs i = true) (g : G) (remc : Nat) (hd2 : remc + 1 ≤ 500) (st : St M)
    (hQ : OffOk remc st) (hl : (o.checked g).length ≠ 1) :
    ∃ bm bs st', rootSearch o runs g (remc + 1) st = some ((bm, bs, false), st') ∧
      OffOk (remc + 1) st' ∧
      (bs ≤ evalBound ∨ ∃ m, bm = some m ∧ m ∈ o.checked g ∧ LoseP o remc (o.push g m)) ∧
      ((∃ m ∈ rootMoves o g, ¬ WinP o remc (o.push g m)) → -evalBound ≤ bs) ∧
      ((∃ m ∈ rootMoves o g, LoseP o remc (o.push g m)) → evalBound < bs) ∧
      (bs < -evalBound → ∀ m ∈ rootMoves o g, WinP o remc (o.push g m)) := by
  have hQr : OffOk remc (rootSt st) := ⟨hQ.1, hQ.2⟩
  obtain ⟨bs, bm, st2, k1, k2, k3⟩ := rootSearch_RInv o runs g (remc + 1) st thresholds
    (cr := ∃ m ∈ rootMoves o g, LoseP o remc (o.push g m)) hl
    (fun e he => by have := hQ.2 _ e he; omega)
    (fun m _ => (node_off o hb (remc + 1) hr remc (o.push g m) 1 (by omega) (by omega)
      (by omega)).strict)
    (Or.inr fun _ _ => ⟨id, id⟩) (hQr.mono (by omega)) id
  refine ⟨bm, bs, _, k1, k2.rootStore _ _ _ (Nat.le_refl _), ?_, ?_, ?_, ?_⟩
  · exact k3.good.imp id fun ⟨m, e, hm, hL⟩ => ⟨m, e, mem_rootMoves hm, hL⟩
  · exact fun ⟨m, hm, hW⟩ => k3.low.elim (fun k => absurd (k m hm) hW) id
  · exact fun h => (k3.cmp h).elim False.elim id
  · exact fun hb' => k3.low.elim id (fun k => by omega)

/-- **C10, mate in two, with the table switched off (the C09 hook on): the full statement, strong
reading, for EVERY game.** From the fresh table, with a flag that stays up, the hook on, without a
depth limit or with a limit of at least 5: if static evaluations are never in the driver's mate
range (`Bounded`) and some move `m1` kept by the repetition filter keeps the mate (it mates at once,
or every reply to it allows a mate in one), then the driver answers with a move that keeps the mate
(`KeepsMate`), stops by itself, and never searches deeper than 5. No hypothesis on the hash, on the
number of moves, on transpositions; a mate in one is covered. -/
theorem mate_in_two_found_off (o : Ops G M) (hb : Bounded o) (g : G) (m1 : M)
    (hk : m1 ∈ rootMoves o g) (h2 : KeepsMate o g m1) (runs : Nat → Bool)
    (hr : ∀ i, runs i = true) (md : Option Nat) (hmd : md = none ∨ ∃ N, md = some N ∧ 5 ≤ N) :
    let out := driver o runs g {} true md
    ∃ m, out.found = some m ∧ KeepsMate o g m ∧ out.stopped = false ∧
      ∀ info ∈ out.infos, info.depth ≤ 5 := by
  have hL : LoseP o 4 (o.push g m1) := h2.2.elim Or.inl fun k => k.loseP (Nat.le_refl _)
  obtain ⟨m, r, _, hr4, k1, ⟨k2, k3⟩, k4, k5, _⟩ := driver_upto o runs g 5 (Q := OffOk)
    (Good := fun r _ m => m ∈ o.checked g ∧ LoseP o r (o.push g m)) m1 h2.1 (s1 := 0) ⟨h2.1, hL⟩
    (fun remc st h4 hQ hl => by
      obtain ⟨bm, bs, st', e, hQ', good, low, cmp, _⟩ := rootSearch_off o hb hr g remc
        (by omega) st hQ hl
      exact ⟨bm, bs, st', e, fun _ => hQ', good,
        low ⟨m1, hk, fun k => not_win_of_lose hL.lose k.win⟩,
        fun k => cmp ⟨m1, hk, (show remc = 4 by omega) ▸ hL⟩⟩)
    true md (by decide) (le_limitOf (by decide) hmd) ⟨rfl, forall_entries_empty⟩
  exact ⟨m, k1, KeepsMate.of_loseP k2 (by omega) k3, k4, k5⟩

end Chess.Search.Mate2
