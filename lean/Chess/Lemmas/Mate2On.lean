import Chess.Lemmas.Mate2Game

/-!
# Mate in two with the table on, when no position has more than three legal moves

Under `Narrow` every move is searched with the full window, so the move loops run in their `strict`
mode (`Mate.NInv`): the best score obeys the same clauses as `alpha`, and the entry stored from it
keeps `TInv`. The contract of a node (`node_ok`), the root search (`rootSearch_ok`) and the driver
(iterations 1 to 5 from the fresh table; soundness at every depth) follow for every notion
`S : Sem o` of "won"/"lost".
-/
namespace Chess.Search.Mate2
open Chess.Search Chess.Search.Mate

variable {G M : Type}

/-- the contract of a child call: for every non-empty window and every table that is fine -/
def ChildOn (o : Ops G M) (S : Sem o) (cm : Prop) (D : Nat)
    (child : G → Int → Int → Int → St M → Option (Int × St M)) (remc : Nat) (c : G) (rdc : Int) :
    Prop :=
  ChildC evalBound mS (fun st => TInv o S cm D st.tt) True child c rdc (S.W remc c) (S.L remc c)
    (KnownWon o cm remc c) (KnownLost o cm remc c)

/-- no position has more legal moves than are searched with the full window -/
def Narrow (o : Ops G M) : Prop := ∀ x, (o.checked x).length ≤ Gen.fullWindowMaxIndex + 1

/-- the entry stored by an interior node all of whose moves were searched with the full window -/
theorem entryOk_of_loop {o : Ops G M} {S : Sem o} {cm : Prop} {D : Nat} {x : G} {r : Nat}
    {a b : Int} (hab : a < b) (hD : r + 2 ≤ D) (hN : S.Nx D (r + 2) x) (hne : o.checked x ≠ [])
    {PW : Prop} (hPW : PW → S.L (r + 2) x) {alpha bs : Int} (bm : Option M)
    (hI : NInv evalBound mS a b True (S.W (r + 2) x) (KnownWon o cm (r + 2) x)
      (KnownLost o cm (r + 2) x) PW False False alpha bs) :
    EntryOk o S cm D (o.hash x) ⟨bs, bm, r + 2, storeFlag bs a b⟩ := by
  have hbsa := hI.bsa
  obtain ⟨bc, bw⟩ := hI.bL trivial
  have bn := hI.nLb.resolve_left id
  obtain ⟨_, hET, hTs⟩ : Thresholds evalBound mS := thresholds
  refine ⟨hD, fun hf => ?_, fun hf => ?_, fun y hy => ⟨?_, S.store hN hy, fun hf => ?_,
    fun hf => ?_, fun hcm hM h3 hf => ?_, fun hcm hL h4 hf => ?_⟩⟩
  · have := storeFlag_ne_upper hf
    have := hI.nU
    show bs ≤ mS
    omega
  · have := storeFlag_ne_lower hab hf
    show -mS ≤ bs
    omega
  · exact fun h0 => hne (S.dead y x hy h0)
  · have := storeFlag_ne_upper hf
    show bs ≤ evalBound ∨ S.W (r + 2) y
    exact hI.cU.imp (fun k => by omega) (S.hashW hy.symm)
  · have := storeFlag_ne_lower hab hf
    show -evalBound ≤ bs ∨ S.L (r + 2) y
    exact bc.elim (fun k => Or.inr (S.hashL hy.symm (hPW k))) (fun k => Or.inl (by omega))
  · have := storeFlag_ne_lower hab hf
    show evalBound < bs
    rcases bw ⟨hcm, S.mate1 y x hy hM, h3⟩ with k | k | k
    · exact k.elim
    · exact k
    · omega
  · have := storeFlag_ne_upper hf
    show bs < -evalBound
    have := hI.cLo (Or.inr ⟨hcm, S.lost1 y x hy hL, h4⟩)
    omega

variable [DecidableEq M]

/-- **The contract of a node** (`get_best_move_score`), at every depth: every call with a non-empty
window made in a state whose table is fine answers, keeps the table fine, and its value is in
range, sound, and, for the two shapes of the mate in two, complete (`ValOk`). -/
theorem node_ok (o : Ops G M) (hb : Bounded o) (hn : Narrow o) (S : Sem o) (cm : Prop)
    (D : Nat) {runs : Nat → Bool} (hr : ∀ i, runs i = true) :
    ∀ (rem : Nat) (x : G) (rd : Int), 0 ≤ rd → rd + rem ≤ 600 → rem ≤ D → S.Nx D rem x →
      ChildOn o S cm D (node o runs rem) rem x rd := by
  intro rem
  induction rem using Nat.strongRecOn with
  | _ rem ih =>
    intro x rd h0 h1 hD hN a b st hab hQ
    have hab := hab trivial
    rw [node_eq_of_runs (hr _)]
    have hQ1 : TInv o S cm D (pollSt st).tt := TInv.poll hQ
    split
    · next v hv => exact ⟨v, _, rfl, hQ1, ttCut_ok hQ1 x rem hN a b v hv⟩
    · have hleaf : ∀ v : Int, rem ≤ 1 → Rng a b v →
          ValOk evalBound mS (S.W rem x) (S.L rem x) (KnownWon o cm rem x) (KnownLost o cm rem x)
            a b v := fun v hrem h =>
        ValOk.of_rng (Int.le_refl _) evalBound_le_mS h (fun k => by have := k.2.2; omega)
          (fun k => Or.elim k (fun k' => by have := k'.2; omega)
            (fun k' => by have := k'.2.2; omega))
      match rem, ih, h1, hD, hN, hleaf with
      | 0, _, h1, _, _, hleaf =>
        exact ⟨_, _, rfl, hQ1, hleaf _ (Nat.zero_le _)
          (qsearch_rng o hb qFuel x a b rd h0 (by unfold qFuel; omega))⟩
      | 1, _, h1, _, _, hleaf =>
        exact ⟨_, _, rfl, hQ1, hleaf _ (Nat.le_refl _) (depth1_rng o hb x a b rd h0 (by omega))⟩
      | r + 2, ih, h1, hD, hN, _ =>
        by_cases he : (o.checked x).isEmpty = true
        · simp only [he, if_true]
          have hnil : o.checked x = [] := List.isEmpty_iff.1 he
          exact ⟨_, _, rfl, hQ1, ValOk.dead hnil S.mated
            (fun k => by obtain ⟨m, hm, _⟩ := k.2.1; rw [hnil] at hm; cases hm)
            (fun k => Or.elim k (fun k' => k'.1) (fun k' => absurd hnil k'.2.1.1)) h0 (by omega)⟩
        · simp only [he]
          have hne : o.checked x ≠ [] := fun h => he (by rw [h]; rfl)
          obtain ⟨out, k1, k2, k3⟩ := nodeLoop_start o (node o runs (r + 1)) x (r + 2) rd a b
            thresholds (Q := fun s => TInv o S cm D s.tt) (fun _ _ _ k => k)
            (strict := True) (W := S.W (r + 2) x) (CW := KnownWon o cm (r + 2) x)
            (CL := KnownLost o cm (r + 2) x) (pollSt st) hne
            (fun m hm => ⟨ih (r + 1) (by omega) (o.push x m) (rd + 1) (by omega) (by omega)
                (by omega) (S.child hN hm),
              S.win hm,
              fun k => Or.elim k (fun k' => absurd k'.1.1 hne)
                (fun k' => ⟨k'.1, k'.2.1.2 m hm, by have := k'.2.2; omega⟩)⟩)
            (fun _ => ⟨hn x, hab⟩) hQ1
            (fun k => by
              obtain ⟨m, hm, hM⟩ := k.2.1
              exact ⟨m, hm, Or.inl ⟨hM, by have := k.2.2; omega⟩⟩)
          rw [k1]
          exact ⟨_, _, rfl,
            TInv.nodeStore k2 _ _ _ (entryOk_of_loop hab hD hN hne (S.lose hne) _ k3),
            k3.valOk (S.lose hne)⟩

theorem length_rootMoves_le (o : Ops G M) (g : G) :
    (rootMoves o g).length ≤ (o.checked g).length := by
  unfold rootMoves
  split
  · rw [(swapRemoveFirst_perm_erase _ _).length_eq, List.length_erase]
    split <;> omega
  · omega

/-- what the root search needs of the root: some kept move does not lead to a won position, or the
repetition filter keeps all the moves and there is one -/
def RootLow (o : Ops G M) (S : Sem o) (remc : Nat) (g : G) : Prop :=
  (∃ m ∈ rootMoves o g, ¬ S.W remc (o.push g m)) ∨
    (rootMoves o g = o.checked g ∧ o.checked g ≠ [])

/-- **The root search** (`get_best_move_entry`) from a table that is fine for the depths below
`remc + 1`, with two or three legal moves at the root: the table stays fine and the pair returned
is sound; it is complete (switch `cm`) from depth 5 on if some kept move leads to a `Lost1`
position. -/
theorem rootSearch_ok (o : Ops G M) (hb : Bounded o) (hn : Narrow o) (S : Sem o) (cm : Prop)
    {runs : Nat → Bool} (hr : ∀ i, runs i = true) (g : G) (remc : Nat)
    (hd2 : remc + 1 ≤ 500) (hNr : S.Nx (remc + 1) (remc + 1) g) (st : St M)
    (hQ : TInv o S cm remc st.tt)
    (hl : (o.checked g).length ≠ 1) (hlow : RootLow o S remc g)
    (hroot : cm → ¬ MateIn1 o g ∧ ¬ Lost1 o g) :
    ∃ bm bs st', rootSearch o runs g (remc + 1) st = some ((bm, bs, false), st') ∧
      TInv o S cm (remc + 1) st'.tt ∧
      (bs ≤ evalBound ∨ ∃ m, bm = some m ∧ m ∈ o.checked g ∧ S.L remc (o.push g m)) ∧
      ((∃ m ∈ rootMoves o g, ¬ S.W remc (o.push g m)) → -evalBound ≤ bs) ∧
      (cm → 4 ≤ remc → (∃ m ∈ rootMoves o g, Lost1 o (o.push g m)) → evalBound < bs) ∧
      (bs < -evalBound → ∀ m ∈ rootMoves o g, S.W remc (o.push g m)) := by
  have hne : rootMoves o g ≠ [] := by
    rcases hlow with ⟨m, hm, _⟩ | ⟨k1, k2⟩
    · intro h; rw [h] at hm; cases hm
    · rw [k1]; exact k2
  obtain ⟨bs, bm, st2, k1, k2, k3⟩ := rootSearch_RInv o runs g (remc + 1) st thresholds
    (cr := cm ∧ 4 ≤ remc ∧ ∃ m ∈ rootMoves o g, Lost1 o (o.push g m)) hl
    (fun e he => by have := (hQ _ e he).1; omega)
    (fun m hm => node_ok o hb hn S cm (remc + 1) hr remc (o.push g m) 1 (by omega) (by omega)
      (by omega) (S.child hNr (mem_rootMoves hm)))
    (Or.inl (Nat.le_trans (length_rootMoves_le o g) (hn g))) (TInv.mono hQ (by omega))
    (fun k => by
      obtain ⟨m, hm, hL⟩ := k.2.2
      exact ⟨m, hm, Or.inr ⟨k.1, hL, k.2.1⟩⟩)
  have nL : -mS ≤ bs := k3.nL.resolve_left hne
  have hlowbs : (∃ m ∈ rootMoves o g, ¬ S.W remc (o.push g m)) → -evalBound ≤ bs :=
    fun ⟨m, hm, hW⟩ => k3.low.elim (fun k => absurd (k m hm) hW) id
  have good : bs ≤ evalBound ∨ ∃ m, bm = some m ∧ m ∈ o.checked g ∧ S.L remc (o.push g m) :=
    k3.good.imp id fun ⟨m, e, hm, hL⟩ => ⟨m, e, mem_rootMoves hm, hL⟩
  refine ⟨bm, bs, _, k1, ?_, good, hlowbs,
    fun h1 h2 h3 => (k3.cmp ⟨h1, h2, h3⟩).elim False.elim id,
    fun hb' => k3.low.elim id (fun k => by omega)⟩
  apply TInv.rootStore k2
  refine ⟨Nat.le_refl _, fun _ => k3.hi, fun _ => nL, fun y hy => ⟨?_, S.store hNr hy,
    fun _ => ?_, fun _ => ?_,
    fun hcm hM _ _ => absurd (S.mate1 y g hy hM) (hroot hcm).1,
    fun hcm hL _ _ => absurd (S.lost1 y g hy hL) (hroot hcm).2⟩⟩
  · exact fun h0 => rootMoves_checked_ne hne (S.dead y g hy h0)
  · exact good.imp id fun ⟨m, _, hm, hL⟩ => S.hashW hy.symm (S.win hm hL)
  · rcases hlow with k | ⟨j1, j2⟩
    · exact Or.inl (hlowbs k)
    · exact k3.low.elim
        (fun k => Or.inr (S.hashL hy.symm (S.lose j2 fun m hm => k m (j1 ▸ hm)))) Or.inl

theorem exitCond_neg {limit depth : Nat} {sc : Int} (h : ¬ exitCond limit depth false sc = true) :
    depth ≠ limit ∧ sc ≤ evalBound ∧ -evalBound - 1 ≤ sc := by
  obtain ⟨k1, _, k3⟩ := exitCond_false h
  rw [mateRange_iff] at k3
  omega

/-- the driver from the fresh table, for any notion `S` of "won"/"lost" -/
theorem driver_mate2 (o : Ops G M) (hb : Bounded o) (hn : Narrow o) (S : Sem o) (g : G)
    (hNr : ∀ d, S.Nx d d g) (m1 : M) (h2 : ForcedMate2 o g m1) (hk : m1 ∈ rootMoves o g)
    (hno1 : ¬ MateIn1 o g) (runs : Nat → Bool) (hr : ∀ i, runs i = true) (off : Bool)
    (md : Option Nat) (hmd : md = none ∨ ∃ N, md = some N ∧ 5 ≤ N) :
    ∃ m r, r < 5 ∧ (driver o runs g {} off md).found = some m ∧
      (m ∈ o.checked g ∧ S.L r (o.push g m)) ∧ (driver o runs g {} off md).stopped = false ∧
      ∀ info ∈ (driver o runs g {} off md).infos, info.depth ≤ 5 := by
  obtain ⟨m, r, _, k1, k2, k3, k4, k5, _⟩ := driver_upto o runs g 5
    (Q := fun d st => TInv o S True d st.tt)
    (Good := fun r _ m => m ∈ o.checked g ∧ S.L r (o.push g m)) m1 h2.1 (s1 := 0)
    ⟨h2.1, S.lost1_L h2.2 (Nat.le_refl _)⟩
    (fun remc st h4 hQ hl => by
      obtain ⟨bm, bs, st', e, hQ', good, low, cmp, _⟩ := rootSearch_ok o hb hn S True hr g remc
        (by omega) (hNr _) st hQ hl (Or.inl ⟨m1, hk, S.lost1_not_W h2.2⟩)
        (fun _ => ⟨hno1, fun hL => hL.not_win h2.win⟩)
      exact ⟨bm, bs, st', e, fun _ => hQ', good, low ⟨m1, hk, S.lost1_not_W h2.2⟩,
        fun k => cmp trivial (by omega) ⟨m1, hk, h2.2⟩⟩)
    off md (by decide) (le_limitOf (by decide) hmd) (TInv_empty o S True _)
  exact ⟨m, r, k1, k2, k3, k4, k5⟩

/-- **C10, mate in two (weak reading), for games without null-window re-search.** From the fresh
table, with a flag that stays up, hook on or off, without a depth limit or with a limit of at least
5: if static evaluations are never in the driver's mate range (`Bounded`), the hash respects the
notions used (`HashSem`; an injective hash does), no position has more than three legal moves
(`Narrow`), the side to move has no mate in one but a move `m1`, kept by the repetition filter,
after which every reply allows a mate in one, then the driver answers with a move after which the
opponent cannot escape a forced mate, stops by itself, and never searches deeper than 5. -/
theorem mate_in_two_found (o : Ops G M) (hb : Bounded o) (hn : Narrow o) (hs : HashSem o) (g : G)
    (m1 : M) (h2 : ForcedMate2 o g m1) (hk : m1 ∈ rootMoves o g) (hno1 : ¬ MateIn1 o g)
    (runs : Nat → Bool) (hr : ∀ i, runs i = true) (off : Bool) (md : Option Nat)
    (hmd : md = none ∨ ∃ N, md = some N ∧ 5 ≤ N) :
    let out := driver o runs g {} off md
    ∃ m, out.found = some m ∧ KeepsForcedMate o g m ∧ out.stopped = false ∧
      ∀ info ∈ out.infos, info.depth ≤ 5 := by
  obtain ⟨m, _, _, k1, k2, k3⟩ := driver_mate2 o hb hn (Sem.plain hs) g
    (fun _ => trivial) m1 h2 hk hno1 runs hr off md hmd
  exact ⟨m, k1, k2, k3⟩

/-- **C10, mate in two (strong reading), for graded games without null-window re-search.** If
moreover a position determines its distance from the root, and so does its hash (`Graded`: no
transposition between different distances from the root), and the hash is injective, the move
answered keeps the mate in two: it mates at once or every reply to it allows a mate in one. -/
theorem mate_in_two_found_strong (o : Ops G M) (hb : Bounded o) (hn : Narrow o) (g : G)
    (hinj : ∀ x y, o.hash x = o.hash y → x = y) (lvl : G → Nat) (hg : Graded o g lvl)
    (m1 : M) (h2 : ForcedMate2 o g m1) (hk : m1 ∈ rootMoves o g) (hno1 : ¬ MateIn1 o g)
    (runs : Nat → Bool) (hr : ∀ i, runs i = true) (off : Bool) (md : Option Nat)
    (hmd : md = none ∨ ∃ N, md = some N ∧ 5 ≤ N) :
    let out := driver o runs g {} off md
    ∃ m, out.found = some m ∧ KeepsMate o g m ∧ out.stopped = false ∧
      ∀ info ∈ out.infos, info.depth ≤ 5 := by
  obtain ⟨m, r, hr4, k1, ⟨k2, k3⟩, k4⟩ := driver_mate2 o hb hn (Sem.graded hg hinj) g
    (fun d => by show d + lvl g = d; rw [hg.root]; rfl) m1 h2 hk hno1 runs hr off md hmd
  exact ⟨m, k1, KeepsMate.of_loseP k2 (by omega) k3, k4⟩

/-- `mate_in_two_found` (weak reading) with an injective hash, no repetition at the root, hook off. -/
theorem mate_in_two_found' (o : Ops G M) (hb : Bounded o) (hn : Narrow o) (g : G)
    (hinj : ∀ x y, o.hash x = o.hash y → x = y) (h2 : ∃ m1, ForcedMate2 o g m1)
    (hno1 : ¬ MateIn1 o g) (hrep : o.repetition g = none) (runs : Nat → Bool)
    (hr : ∀ i, runs i = true) (md : Option Nat) (hmd : md = none ∨ ∃ N, md = some N ∧ 5 ≤ N) :
    let out := driver o runs g {} false md
    ∃ m, out.found = some m ∧ KeepsForcedMate o g m ∧ out.stopped = false ∧
      ∀ info ∈ out.infos, info.depth ≤ 5 := by
  obtain ⟨m1, h2⟩ := h2
  have : rootMoves o g = o.checked g := by unfold rootMoves; rw [hrep]
  exact mate_in_two_found o hb hn (HashSem.of_injective hinj) g m1 h2 (this ▸ h2.1) hno1 runs hr
    false md hmd

/-- every iteration of the driver, for any notion `S` of "won"/"lost": a final score above
`evalBound` comes with a move after which the opponent is lost, a final score below
`-evalBound - 1` means that the root is lost -/
theorem driverLoop_sound (o : Ops G M) (hb : Bounded o) (hn : Narrow o) (S : Sem o) (g : G)
    (hNr : ∀ d, S.Nx d d g) (hne : o.checked g ≠ []) (hrep : rootMoves o g = o.checked g)
    (hl : (o.checked g).length ≠ 1) (runs : Nat → Bool) (hr : ∀ i, runs i = true) (limit : Nat)
    (hlim : limit ≤ 400) :
    ∀ (fuel remc : Nat) (found : Option M) (infos : List (Info M)) (st : St M),
      remc + 1 + fuel ≤ limit + 1 → TInv o S False remc st.tt →
      (∀ i, infos.head? = some i → i.score ≤ evalBound ∧ -evalBound - 1 ≤ i.score) →
      (driverLoop o runs g limit fuel (remc + 1) found infos st).stopped = false ∧
      ∀ info, (driverLoop o runs g limit fuel (remc + 1) found infos st).infos.getLast? =
          some info →
        (evalBound < info.score → ∃ m,
          (driverLoop o runs g limit fuel (remc + 1) found infos st).found = some m ∧
          m ∈ o.checked g ∧ S.L (info.depth - 1) (o.push g m)) ∧
        (info.score < -evalBound - 1 → S.L info.depth g) := by
  intro fuel
  induction fuel with
  | zero =>
    intro remc found infos st _ _ hi
    rw [driverLoop_zero]
    refine ⟨rfl, fun info hinfo => ?_⟩
    simp only [List.getLast?_reverse] at hinfo
    have := hi info hinfo
    exact ⟨fun h => by omega, fun h => by omega⟩
  | succ f ih =>
    intro remc found infos st hf hQ hi
    rw [driverLoop_succ]
    obtain ⟨bm, bs, st', e, hQ', good, _, _, lost⟩ := rootSearch_ok o hb hn S False hr g remc
      (by omega) (hNr _) st hQ hl (Or.inr ⟨hrep, hne⟩) (fun h => h.elim)
    rw [e]
    simp only []
    by_cases hex : exitCond limit (remc + 1) false bs = true
    · rw [if_pos hex]
      refine ⟨rfl, fun info hinfo => ?_⟩
      simp only [List.reverse_cons, List.getLast?_append, List.getLast?_singleton,
        Option.some_or] at hinfo
      cases hinfo
      refine ⟨fun h => ?_, fun h => ?_⟩
      · simp only [mkInfo] at h
        rcases good with k | ⟨m, rfl, hm, hL⟩
        · omega
        · exact ⟨m, rfl, hm, hL⟩
      · simp only [mkInfo] at h ⊢
        exact S.lose hne (fun m hm => lost (by omega) m (hrep ▸ hm))
    · rw [if_neg hex]
      exact ih (remc + 1) _ _ st' (by omega) hQ' (fun i hi' => by
        simp only [List.head?_cons, Option.some.injEq] at hi'
        subst hi'
        exact (exitCond_neg hex).2)

/-- **Soundness of the mate-range scores at every depth, for games without null-window
re-search.** From the fresh table, flag up, hook on or off, any limit: if the repetition filter
keeps all the root moves and there are at least two, then whenever the last score reported is above
`evalBound = 31767` the move answered is legal and after it the opponent cannot escape a forced
mate; whenever it is below `-31768` the root cannot escape a forced mate; and the driver is never
stopped. -/
theorem driver_mate_sound (o : Ops G M) (hb : Bounded o) (hn : Narrow o) (hs : HashSem o) (g : G)
    (hrep : rootMoves o g = o.checked g) (hl : 2 ≤ (o.checked g).length) (runs : Nat → Bool)
    (hr : ∀ i, runs i = true) (off : Bool) (md : Option Nat) :
    let out := driver o runs g {} off md
    out.stopped = false ∧ ∀ info, out.infos.getLast? = some info →
      (evalBound < info.score → ∃ m, out.found = some m ∧ KeepsForcedMate o g m) ∧
      (info.score < -evalBound - 1 → Lose o g) := by
  intro out
  have hne : o.checked g ≠ [] := by
    intro h; rw [h] at hl; simp at hl
  have e : out = driverLoop o runs g (limitOf md) (limitOf md - 1 + 1) (0 + 1)
      (o.checked g).head? [] (initSt {} off) := by
    show driver o runs g {} off md = _
    rw [driver_eq, startDepth_fresh]
  have hlim : limitOf md ≤ 400 := by
    have := limitOf_le_maxDepth md
    unfold maxDepth Gen.maxDepth at this
    omega
  have h1 := one_le_limitOf md
  obtain ⟨k1, k2⟩ := driverLoop_sound o hb hn (Sem.plain hs) g (fun _ => trivial) hne hrep
    (by omega) runs hr (limitOf md) hlim (limitOf md - 1 + 1) 0 (o.checked g).head? []
    (initSt {} off) (by omega) (TInv_empty o _ False _) (fun i hi => by cases hi)
  rw [e]
  refine ⟨k1, fun info hinfo => ?_⟩
  obtain ⟨j1, j2⟩ := k2 info hinfo
  refine ⟨fun h => ?_, j2⟩
  obtain ⟨m, m1, m2, m3⟩ := j1 h
  exact ⟨m, m1, m2, m3⟩

end Chess.Search.Mate2
