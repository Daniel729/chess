import Chess.Lemmas.Invariant

/-!
# The move record (C20) and UCI move text (C12)

`specPgn` and `specUci` say what the text of a move has to be, with explicit matches on the piece
kinds and explicit letter tables: nothing of `Chess.Gen` is mentioned.  The engine's `Move.pgn` and
`Move.uci` go through the tables extracted from the Rust source; these enter the proofs through
`decide`, so a wrong table in the source makes the theorems fail.  `Game.pgn` is the numbered list
of the entries of the move stack, and `Move.fromUci` is the inverse of `Move.uci` on the moves the
generator produces.
-/
namespace Chess

def fileLetter (c : Int) : Char :=
  if c = 0 then 'a' else if c = 1 then 'b' else if c = 2 then 'c' else if c = 3 then 'd'
  else if c = 4 then 'e' else if c = 5 then 'f' else if c = 6 then 'g' else if c = 7 then 'h'
  else '?'

def rankDigit (r : Int) : Char :=
  if r = 0 then '1' else if r = 1 then '2' else if r = 2 then '3' else if r = 3 then '4'
  else if r = 4 then '5' else if r = 5 then '6' else if r = 6 then '7' else if r = 7 then '8'
  else '?'

def pgnPieceLetter : PieceType → List Char
  | .king => ['K']
  | .queen => ['Q']
  | .rook => ['R']
  | .bishop => ['B']
  | .knight => ['N']
  | .pawn => []

/-- a pawn never becomes a pawn or a king; the engine would print `?` -/
def pgnPromoLetter : PieceType → Char
  | .queen => 'Q'
  | .rook => 'R'
  | .bishop => 'B'
  | .knight => 'N'
  | .pawn => '?'
  | .king => '?'

def uciPromoLetter : PieceType → Char
  | .queen => 'q'
  | .rook => 'r'
  | .bishop => 'b'
  | .knight => 'n'
  | .pawn => '?'
  | .king => '?'

def captureMark (cap : Option Piece) : List Char :=
  match cap with
  | some _ => ['x']
  | none => []

/-- a promotion promotes to queen, rook, bishop or knight (`promoPieces`, the only source of
`Move.promotion` in the generator, is `[queen, rook, bishop, knight]`) -/
def PromoOk : Move → Prop
  | .promotion _ t _ _ _ => t = .queen ∨ t = .rook ∨ t = .bishop ∨ t = .knight
  | _ => True

instance (m : Move) : Decidable (PromoOk m) := by
  cases m <;> unfold PromoOk <;> infer_instance

def OnBoard : Move → Prop
  | .normal _ s e _ => s.Valid ∧ e.Valid
  | .promotion _ _ s e _ => s.Valid ∧ e.Valid
  | .enPassant _ sc ec => 0 ≤ sc ∧ sc < 8 ∧ 0 ≤ ec ∧ ec < 8
  | .castlingShort _ => True
  | .castlingLong _ => True

instance (m : Move) : Decidable (OnBoard m) := by
  cases m <;> unfold OnBoard <;> infer_instance

theorem Game.Fits.onBoard {g : Game} {m : Move} (h : g.Fits m) : OnBoard m := by
  cases m <;> simp only [Game.Fits, OnBoard] at * <;> first | trivial | exact ⟨h.1, h.2.1⟩ | skip
  exact ⟨h.1, h.2.1, h.2.2.1, h.2.2.2.1⟩

/-- The record entry of a move: piece letter (none for pawns), origin file, `x` iff it captured,
destination square; promotions add `=` and the letter of the piece actually promoted to;
en passant is a pawn capture onto rank 6 (White) / 3 (Black); castling is `O-O` / `O-O-O`. -/
def specPgn : Move → List Char
  | .normal pc s e cap =>
    pgnPieceLetter pc.pieceType ++ [fileLetter s.col] ++ captureMark cap
      ++ [fileLetter e.col, rankDigit e.row]
  | .promotion _ t s e cap =>
    [fileLetter s.col] ++ captureMark cap ++ [fileLetter e.col, rankDigit e.row]
      ++ ['=', pgnPromoLetter t]
  | .enPassant .white sc ec => [fileLetter sc, 'x', fileLetter ec, '6']
  | .enPassant .black sc ec => [fileLetter sc, 'x', fileLetter ec, '3']
  | .castlingShort _ => ['O', '-', 'O']
  | .castlingLong _ => ['O', '-', 'O', '-', 'O']

/-- The UCI text of a move: origin square, destination square, lower-case letter of the piece
promoted to; castling is the king's two-square move, en passant the capturing pawn's move. -/
def specUci : Move → List Char
  | .normal _ s e _ => [fileLetter s.col, rankDigit s.row, fileLetter e.col, rankDigit e.row]
  | .promotion _ t s e _ =>
    [fileLetter s.col, rankDigit s.row, fileLetter e.col, rankDigit e.row, uciPromoLetter t]
  | .castlingShort .white => ['e', '1', 'g', '1']
  | .castlingShort .black => ['e', '8', 'g', '8']
  | .castlingLong .white => ['e', '1', 'c', '1']
  | .castlingLong .black => ['e', '8', 'c', '8']
  | .enPassant .white sc ec => [fileLetter sc, '5', fileLetter ec, '6']
  | .enPassant .black sc ec => [fileLetter sc, '4', fileLetter ec, '3']

/-! ## the engine's two texts are the specified ones -/

/-- on the board the engine's file and rank characters are the specified letters and digits; the
record prints the rank through `to_string`, which there is the one rank digit -/
theorem square_letters {c : Int} (h0 : 0 ≤ c) (h8 : c < 8) :
    fileChar c = fileLetter c ∧ rankChar c = rankDigit c
      ∧ natToChars (c + 1).toNat = [rankDigit c] := by
  obtain ⟨k, rfl⟩ : ∃ k : Fin 8, c = (k.val : Int) := ⟨⟨c.toNat, by omega⟩, by simp; omega⟩
  revert k; decide

theorem Pos.Valid.letters {p : Pos} (h : p.Valid) :
    fileChar p.col = fileLetter p.col ∧ rankChar p.row = rankDigit p.row
      ∧ natToChars (p.row + 1).toNat = [rankDigit p.row] :=
  ⟨(square_letters h.2.2.1 h.2.2.2).1, (square_letters h.1 h.2.1).2⟩

theorem asStrPgn_eq_letter (pc : Piece) : pc.asStrPgn = pgnPieceLetter pc.pieceType := by
  obtain ⟨t, o⟩ := pc
  cases t <;> cases o <;> decide

theorem isSome_mark (cap : Option Piece) :
    (if cap.isSome = true then ['x'] else []) = captureMark cap := by
  cases cap <;> rfl

theorem pgnPromo_table (t : PieceType) :
    (listIdx? Gen.pgnPromoLetters t.toNat).getD '?' = pgnPromoLetter t := by
  cases t <;> decide

theorem uciPromo_table (t : PieceType) :
    (listIdx? Gen.uciPromoLetters t.toNat).getD '?' = uciPromoLetter t := by
  cases t <;> decide

theorem text_spec (m : Move) (hb : OnBoard m) :
    Move.pgn m = specPgn m ∧ Move.uci m = specUci m := by
  cases m with
  | normal pc s e cap =>
    simp only [Move.pgn, Move.uci, specPgn, specUci, asStrPgn_eq_letter, isSome_mark,
      hb.1.letters, hb.2.letters, List.append_assoc, List.cons_append, List.nil_append, and_self]
  | promotion o t s e cap =>
    simp only [Move.pgn, Move.uci, specPgn, specUci, pgnPromo_table, uciPromo_table, isSome_mark,
      hb.1.letters, hb.2.letters, List.append_assoc, List.cons_append, List.nil_append, and_self]
  | castlingShort o => cases o <;> exact ⟨rfl, rfl⟩
  | castlingLong o => cases o <;> exact ⟨rfl, rfl⟩
  | enPassant o sc ec =>
    obtain ⟨h1, h2, h3, h4⟩ := hb
    cases o <;> simp only [Move.pgn, Move.uci, specPgn, specUci, (square_letters h1 h2).1,
      (square_letters h3 h4).1, and_self]

/-- **C20**: the engine's record entry of every move on the board is the specified one.
(`PromoOk` is not needed for the equation: for the impossible promotions to pawn or king both
sides print `?`; under `PromoOk` the letter is one of `Q R B N` and determines the piece, see
`pgnPromoLetter_inj`.) -/
theorem pgn_entry_spec (m : Move) (hb : OnBoard m) : Move.pgn m = specPgn m :=
  (text_spec m hb).1

theorem pgn_entry_spec' (m : Move) (_ : PromoOk m) (hb : OnBoard m) : Move.pgn m = specPgn m :=
  pgn_entry_spec m hb

theorem pgn_entry_spec_fits {g : Game} {m : Move} (h : g.Fits m) : Move.pgn m = specPgn m :=
  pgn_entry_spec m h.onBoard

/-- **C12**: the engine's UCI text of every move on the board is the specified one: the two
squares (plus the lower-case letter of the piece promoted to); castling is the king's move. -/
theorem uci_shape (m : Move) (hb : OnBoard m) : Move.uci m = specUci m :=
  (text_spec m hb).2

theorem uci_shape_fits {g : Game} {m : Move} (h : g.Fits m) : Move.uci m = specUci m :=
  uci_shape m h.onBoard

theorem pgnPromoLetter_inj {t t' : PieceType}
    (h : t = .queen ∨ t = .rook ∨ t = .bishop ∨ t = .knight)
    (h' : t' = .queen ∨ t' = .rook ∨ t' = .bishop ∨ t' = .knight)
    (e : pgnPromoLetter t = pgnPromoLetter t') : t = t' := by
  rcases h with rfl | rfl | rfl | rfl <;> rcases h' with rfl | rfl | rfl | rfl <;>
    first | rfl | (exact absurd e (by decide))

/-- the entry of a promotion ends in `=` and the letter of the piece actually promoted to -/
theorem pgn_promotion_suffix (o : Player) (t : PieceType) (s e : Pos) (cap : Option Piece) :
    ∃ pre, Move.pgn (.promotion o t s e cap) = pre ++ ['=', pgnPromoLetter t] := by
  refine ⟨[fileChar s.col] ++ (if cap.isSome then ['x'] else []) ++ [fileChar e.col]
      ++ natToChars (e.row + 1).toNat, ?_⟩
  simp only [Move.pgn, pgnPromo_table]

/-! ## C20 — the record is the numbered list of the entries of the move stack -/

namespace Game

theorem unapplyMove_moveStack (g : Game) (m : Move) :
    (g.unapplyMove m).moveStack = g.moveStack := by
  cases m with
  | normal piece start stop captured => simp only [unapplyMove]; split <;> simp
  | enPassant owner sc ec => cases owner <;> simp [unapplyMove, epSquares]
  | _ => simp [unapplyMove]

theorem pop_moveStack (g : Game) (m : Move) : (g.pop m).moveStack = g.moveStack := by
  simp only [pop]
  exact unapplyMove_moveStack _ m

/-- `push_history` records exactly the move played, on top -/
theorem pushHistory_moveStack (g : Game) (m : Move) :
    (g.pushHistory m).moveStack = m :: g.moveStack := by
  simp only [pushHistory, push_moveStack, updatePhase_moveStack]

theorem push_pop_moveStack (g : Game) (m : Move) : ((g.push m).pop m).moveStack = g.moveStack := by
  rw [pop_moveStack, push_moveStack]

end Game

/-- the text of the `i`-th (0-based) entry of the record: the move number before White's
moves, the move's entry, a blank -/
def recordEntry (i : Nat) (m : Move) : List Char :=
  (if i % 2 = 0 then natToChars (i / 2 + 1) ++ ['.', ' '] else []) ++ m.pgn ++ [' ']

/-- the record of a list of moves, oldest first, numbered from index `i` -/
def recordFrom : List Move → Nat → List Char
  | [], _ => []
  | m :: rest, i => recordEntry i m ++ recordFrom rest (i + 1)

theorem pgn_go_eq (ms : List Move) (i : Nat) : Game.pgn.go ms i = recordFrom ms i := by
  induction ms generalizing i with
  | nil => rfl
  | cons m rest ih =>
    simp only [Game.pgn.go, recordFrom, recordEntry, ih, List.append_assoc]

theorem pgn_eq_recordFrom (g : Game) : g.pgn = recordFrom g.moveStack.reverse 0 := by
  simp only [Game.pgn, pgn_go_eq]

theorem recordFrom_eq_flatMap (ms : List Move) (i : Nat) :
    recordFrom ms i = (ms.zipIdx i).flatMap (fun p => recordEntry p.2 p.1) := by
  induction ms generalizing i with
  | nil => rfl
  | cons m rest ih => simp only [recordFrom, List.zipIdx_cons, List.flatMap_cons, ih]

theorem recordFrom_append (a b : List Move) (i : Nat) :
    recordFrom (a ++ b) i = recordFrom a i ++ recordFrom b (i + a.length) := by
  induction a generalizing i with
  | nil => simp [recordFrom]
  | cons m rest ih =>
    simp only [List.cons_append, recordFrom, ih, List.append_assoc, List.length_cons]
    congr 3; omega

/-- **C20**: the record is the concatenation, oldest move first, of the numbered entries of the
move stack. -/
theorem pgn_record (g : Game) :
    g.pgn = (g.moveStack.reverse.zipIdx).flatMap (fun p => recordEntry p.2 p.1) := by
  rw [pgn_eq_recordFrom, recordFrom_eq_flatMap]

/-- the `k`-th move played appears in the record with its own text, after the entries of the
`k` moves before it and before those of the moves after it -/
theorem pgn_record_nth (g : Game) (k : Nat) (m : Move) (h : g.moveStack.reverse[k]? = some m) :
    g.pgn = recordFrom (g.moveStack.reverse.take k) 0 ++ recordEntry k m
      ++ recordFrom (g.moveStack.reverse.drop (k + 1)) (k + 1) := by
  obtain ⟨hk, rfl⟩ := List.getElem?_eq_some_iff.1 h
  rw [pgn_eq_recordFrom]
  conv => lhs; rw [← List.take_append_drop k g.moveStack.reverse, ← List.getElem_cons_drop hk]
  rw [recordFrom_append, List.length_take_of_le (Nat.le_of_lt hk)]
  simp only [recordFrom, Nat.zero_add, List.append_assoc]

theorem pgn_pushHistory (g : Game) (m : Move) :
    (g.pushHistory m).pgn = g.pgn ++ recordEntry g.moveStack.length m := by
  rw [pgn_eq_recordFrom, pgn_eq_recordFrom, Game.pushHistory_moveStack, List.reverse_cons,
    recordFrom_append]
  simp only [recordFrom, List.length_reverse, Nat.zero_add, List.append_nil]

theorem pgn_push (g : Game) (m : Move) : (g.push m).pgn = g.pgn := by
  rw [pgn_eq_recordFrom, pgn_eq_recordFrom, Game.push_moveStack]

theorem pgn_pop (g : Game) (m : Move) : (g.pop m).pgn = g.pgn := by
  rw [pgn_eq_recordFrom, pgn_eq_recordFrom, Game.pop_moveStack]

/-! ## the parser, decoded -/

/-- the promotion letters the parser knows -/
def promoOfLetter (p : Char) : Option PieceType :=
  if p = 'q' then some .queen else if p = 'r' then some .rook
  else if p = 'n' then some .knight else if p = 'b' then some .bishop else none

/-- rows (from, to) of an en-passant capture by the given player -/
def epRows : Player → Int × Int
  | .white => (4, 5)
  | .black => (3, 2)

/-- the parser's test "this four-character text is an en-passant capture" -/
def epShaped (g : Game) (piece : Piece) (start stop : Pos) : Bool :=
  piece.pieceType = .pawn && (g.get stop).isNone && (start.col - stop.col).natAbs = 1
    && start.row = (epRows g.player).1 && stop.row = (epRows g.player).2

/-- what the parser answers once the two squares are read -/
def decodeSquares (g : Game) (start stop : Pos) (rest : List Char) : Option Move :=
  match rest with
  | p :: _ => (promoOfLetter p).map (fun t => Move.promotion g.player t start stop (g.get stop))
  | [] =>
    match g.get start with
    | some piece =>
      if epShaped g piece start stop then some (.enPassant g.player start.col stop.col)
      else some (.normal piece start stop (g.get stop))
    | none => none

/-- the text is one of the four castling texts and the king concerned stands (according to the
cache) on its home square: the parser answers "castling" without looking at the board -/
def CastleText (s : List Char) (g : Game) : Prop :=
  (s = ['e', '1', 'g', '1'] ∧ g.kingPos .white = ⟨0, 4⟩)
  ∨ (s = ['e', '8', 'g', '8'] ∧ g.kingPos .black = ⟨7, 4⟩)
  ∨ (s = ['e', '1', 'c', '1'] ∧ g.kingPos .white = ⟨0, 4⟩)
  ∨ (s = ['e', '8', 'c', '8'] ∧ g.kingPos .black = ⟨7, 4⟩)

theorem castling_texts :
    "e1g1".toList = ['e', '1', 'g', '1'] ∧ "e8g8".toList = ['e', '8', 'g', '8'] ∧
    "e1c1".toList = ['e', '1', 'c', '1'] ∧ "e8c8".toList = ['e', '8', 'c', '8'] :=
  ⟨rfl, rfl, rfl, rfl⟩

theorem fromUci_castle (g : Game) (o : Player) (hk : g.kingPos o = ⟨Game.homeRow o, 4⟩) :
    Move.fromUci (Move.uci (.castlingShort o)) g = some (.castlingShort o) ∧
    Move.fromUci (Move.uci (.castlingLong o)) g = some (.castlingLong o) := by
  obtain ⟨e1, e2, e3, e4⟩ := castling_texts
  cases o <;> constructor <;>
    (unfold Move.fromUci; rw [e1, e2, e3, e4]; simp [Move.uci, Game.homeRow, hk])

theorem castle_tests_false {s : List Char} {g : Game} (hc : ¬ CastleText s g) :
    ¬ (s = "e1g1".toList && g.kingPos .white = ⟨0, 4⟩) = true
    ∧ ¬ (s = "e8g8".toList && g.kingPos .black = ⟨7, 4⟩) = true
    ∧ ¬ (s = "e1c1".toList && g.kingPos .white = ⟨0, 4⟩) = true
    ∧ ¬ (s = "e8c8".toList && g.kingPos .black = ⟨7, 4⟩) = true := by
  simpa only [CastleText, not_or, castling_texts, Bool.and_eq_true, decide_eq_true_eq] using hc

/-- a file or rank character of the board is ASCII, one byte long, and read back by the parser as
its column or row -/
theorem square_codes {c : Int} (h0 : 0 ≤ c) (h8 : c < 8) :
    ((fileChar c).toNat < 128 ∧ (fileChar c).utf8Size = 1
      ∧ byteOf (fileChar c) - ('a'.toNat : Nat) = c)
    ∧ ((rankChar c).toNat < 128 ∧ (rankChar c).utf8Size = 1
      ∧ byteOf (rankChar c) - ('1'.toNat : Nat) = c) := by
  obtain ⟨k, rfl⟩ : ∃ k : Fin 8, c = (k.val : Int) := ⟨⟨c.toNat, by omega⟩, by simp; omega⟩
  revert k; decide

/-- conversely an ASCII character that reads (offset `k`) as a row or column is the file
(`k = 'a'`) or rank (`k = '1'`) character of what it reads as -/
theorem ofNat_of_byte {c : Char} {k : Nat} (h : c.toNat < 128) (h0 : 0 ≤ byteOf c - (k : Int)) :
    Char.ofNat (k + (byteOf c - (k : Int)).toNat) = c := by
  unfold byteOf at *
  rw [if_pos h] at h0 ⊢
  have : k + ((c.toNat : Int) - k).toNat = c.toNat := by omega
  rw [this, Char.ofNat_toNat]

def squaresText (a b : Pos) : List Char :=
  [fileChar a.col, rankChar a.row, fileChar b.col, rankChar b.row]

theorem uci_promotion (o : Player) (t : PieceType) (s e : Pos) (cap : Option Piece) :
    Move.uci (.promotion o t s e cap) = squaresText s e ++ [uciPromoLetter t] := by
  simp only [Move.uci, uciPromo_table, squaresText, List.cons_append, List.nil_append]

theorem squaresText_eq {a b : Pos} (ha : a.Valid) (hb : b.Valid) {x0 x1 x2 x3 : Char}
    (h : squaresText a b = [x0, x1, x2, x3]) :
    a = ⟨byteOf x1 - ('1'.toNat : Nat), byteOf x0 - ('a'.toNat : Nat)⟩ ∧
    b = ⟨byteOf x3 - ('1'.toNat : Nat), byteOf x2 - ('a'.toNat : Nat)⟩ := by
  cases h
  rw [(square_codes ha.2.2.1 ha.2.2.2).1.2.2, (square_codes ha.1 ha.2.1).2.2.2,
    (square_codes hb.2.2.1 hb.2.2.2).1.2.2, (square_codes hb.1 hb.2.1).2.2.2]
  exact ⟨rfl, rfl⟩

theorem utf8Len_cons (c : Char) (l : List Char) : utf8Len (c :: l) = c.utf8Size + utf8Len l := by
  simp only [utf8Len, List.map_cons, List.sum_cons]

theorem length_le_utf8Len (l : List Char) : l.length ≤ utf8Len l := by
  induction l with
  | nil => exact Nat.le_refl _
  | cons c l ih =>
    rw [utf8Len_cons, List.length_cons]
    have := Char.utf8Size_pos c
    omega

/-- Outside castling the parser accepts exactly the texts of two squares of the board followed by
at most one byte, and answers what `decodeSquares` makes of them. -/
theorem fromUci_squares {s : List Char} {g : Game} (hc : ¬ CastleText s g) (m : Move) :
    Move.fromUci s g = some m ↔ ∃ a b rest, a.Valid ∧ b.Valid ∧ s = squaresText a b ++ rest
      ∧ utf8Len rest ≤ 1 ∧ decodeSquares g a b rest = some m := by
  obtain ⟨n1, n2, n3, n4⟩ := castle_tests_false hc
  unfold Move.fromUci
  rw [if_neg n1, if_neg n2, if_neg n3, if_neg n4]
  constructor
  · intro h
    rw [Option.ite_none_left_eq_some] at h
    obtain ⟨hlen, h⟩ := h
    rcases s with _ | ⟨c0, _ | ⟨c1, _ | ⟨c2, _ | ⟨c3, rest⟩⟩⟩⟩
    iterate 4 cases h
    dsimp only at h
    rw [Option.ite_none_left_eq_some] at h
    obtain ⟨hascii, h⟩ := h
    simp only [Bool.or_eq_true, decide_eq_true_eq] at hascii
    split at h
    · rename_i start stop hstart hstop
      obtain ⟨va, rfl⟩ := Pos.new?_valid hstart
      obtain ⟨vb, rfl⟩ := Pos.new?_valid hstop
      -- what is left of `h` unfolds to `decodeSquares`
      refine ⟨_, _, rest, va, vb, ?_, ?_, h⟩
      · simp only [squaresText, fileChar, rankChar, List.cons_append, List.nil_append]
        rw [ofNat_of_byte (by omega) va.2.2.1, ofNat_of_byte (by omega) va.1,
          ofNat_of_byte (by omega) vb.2.2.1, ofNat_of_byte (by omega) vb.1]
      · have := Char.utf8Size_pos c0
        have := Char.utf8Size_pos c1
        have := Char.utf8Size_pos c2
        have := Char.utf8Size_pos c3
        simp only [utf8Len_cons] at hlen
        omega
    · cases h
  · rintro ⟨a, b, rest, ⟨a1, a2, a3, a4⟩, ⟨b1, b2, b3, b4⟩, rfl, hrest, hd⟩
    obtain ⟨⟨t0, z0, y0⟩, -⟩ := square_codes a3 a4
    obtain ⟨-, t1, z1, y1⟩ := square_codes a1 a2
    obtain ⟨⟨t2, z2, y2⟩, -⟩ := square_codes b3 b4
    obtain ⟨-, t3, z3, y3⟩ := square_codes b1 b2
    simp only [squaresText, List.cons_append, List.nil_append]
    rw [if_neg (by simp only [utf8Len_cons, z0, z1, z2, z3]; omega),
      if_neg (by simp only [Bool.or_eq_true, decide_eq_true_eq]; omega)]
    simp only [y0, y1, y2, y3, Pos.new?, Pos.inBoard, a1, a2, a3, a4, b1, b2, b3, b4, decide_true,
      Bool.and_self, if_true]
    exact hd

/-! ## C12 — what the generator guarantees beyond `Fits`, and the round trip -/

/-- The side conditions, beyond `Game.Fits`, under which the text of a move is read back as that
move.  Every clause is something the move generator of `Game.lean` guarantees:

* `normal`, clause 1 — a `normal` move is not shaped like an en-passant capture: a pawn that
  changes file by one between the en-passant rows of the side to move lands on an occupied
  square.  (`pawnMoves`: the only `normal` pawn moves that change file come from `caps`, which
  requires `g.get q = some other`; `dbl` and `fwd` keep the file.)
* `normal`, clauses 2, 3 — a `normal` move is not `e1→g1/c1` (`e8→g8/c8`) while the white
  (black) king stands, according to the cache, on e1 (e8).  (The piece on the cached king square
  of the side to move is its king — `pseudoMoves` checks `kingExists` — and `kingMoves` emits
  `normal` moves only for the eight `kingDeltas`, which change the file by at most one; a piece
  of the side to move cannot stand on the other king's square while that king exists.)
* `promotion` — the owner is the side to move (`pawnMoves` builds `Move.promotion g.player …`)
  and the new piece is one of `promoPieces = [queen, rook, bishop, knight]`.
* `enPassant` — the owner is the side to move and the files are adjacent (`pawnMoves`:
  `Move.enPassant g.player p.col ep` under `(ep - p.col).natAbs = 1`).
* castling — nothing beyond `Fits` (which has `g.kingPos owner = ⟨homeRow owner, 4⟩`). -/
def GenShape (g : Game) : Move → Prop
  | .normal pc s e cap =>
    (pc.pieceType = .pawn → (s.col - e.col).natAbs = 1 → s.row = (epRows g.player).1 →
        e.row = (epRows g.player).2 → cap.isSome)
    ∧ (g.kingPos .white = ⟨0, 4⟩ → s = ⟨0, 4⟩ → e ≠ ⟨0, 6⟩ ∧ e ≠ ⟨0, 2⟩)
    ∧ (g.kingPos .black = ⟨7, 4⟩ → s = ⟨7, 4⟩ → e ≠ ⟨7, 6⟩ ∧ e ≠ ⟨7, 2⟩)
  | .promotion o t _ _ _ => o = g.player ∧ (t = .queen ∨ t = .rook ∨ t = .bishop ∨ t = .knight)
  | .enPassant o sc ec => o = g.player ∧ (sc - ec).natAbs = 1
  | .castlingShort _ => True
  | .castlingLong _ => True

theorem GenShape.promoOk {g : Game} {m : Move} (h : GenShape g m) : PromoOk m := by
  cases m <;> simp only [GenShape, PromoOk] at * <;> first | trivial | exact h.2

/-- clauses 2, 3 in terms of the text, as the parser sees them -/
theorem not_castleText_normal {g : Game} {pc : Piece} {s e : Pos} {cap : Option Piece}
    (hs : s.Valid) (he : e.Valid) (h : GenShape g (.normal pc s e cap)) :
    ¬ CastleText (squaresText s e) g := by
  obtain ⟨_, hw, hb⟩ := h
  rintro (⟨ht, hk⟩ | ⟨ht, hk⟩ | ⟨ht, hk⟩ | ⟨ht, hk⟩)
  · obtain ⟨rfl, rfl⟩ := squaresText_eq hs he ht
    exact (hw hk (by decide)).1 (by decide)
  · obtain ⟨rfl, rfl⟩ := squaresText_eq hs he ht
    exact (hb hk (by decide)).1 (by decide)
  · obtain ⟨rfl, rfl⟩ := squaresText_eq hs he ht
    exact (hw hk (by decide)).2 (by decide)
  · obtain ⟨rfl, rfl⟩ := squaresText_eq hs he ht
    exact (hb hk (by decide)).2 (by decide)

/-- the parser's letter table inverts `uciPromoLetter` on the four pieces a pawn promotes to -/
theorem promoOfLetter_uci {t : PieceType}
    (h : t = .queen ∨ t = .rook ∨ t = .bishop ∨ t = .knight) :
    promoOfLetter (uciPromoLetter t) = some t ∧ (uciPromoLetter t).utf8Size = 1 := by
  rcases h with rfl | rfl | rfl | rfl <;> decide

theorem uciPromoLetter_inj {t t' : PieceType}
    (h : t = .queen ∨ t = .rook ∨ t = .bishop ∨ t = .knight)
    (h' : t' = .queen ∨ t' = .rook ∨ t' = .bishop ∨ t' = .knight)
    (e : uciPromoLetter t = uciPromoLetter t') : t = t' :=
  Option.some.inj ((promoOfLetter_uci h).1.symm.trans (e ▸ (promoOfLetter_uci h').1))

theorem uciPromoLetter_of_parse {p : Char} {t : PieceType} (h : promoOfLetter p = some t) :
    uciPromoLetter t = p ∧ (t = .queen ∨ t = .rook ∨ t = .bishop ∨ t = .knight) := by
  unfold promoOfLetter at h
  repeat' split at h
  all_goals cases h
  all_goals subst p; exact ⟨rfl, by decide⟩

/-- an en-passant capture in terms of `epRows`: its text, the squares `Fits` speaks of, and that
its rows are neither the first nor the last -/
theorem ep_rows (pl : Player) (sc ec : Int) :
    Move.uci (.enPassant pl sc ec) = squaresText ⟨(epRows pl).1, sc⟩ ⟨(epRows pl).2, ec⟩
    ∧ (Game.epSquares pl sc ec).1 = ⟨(epRows pl).1, sc⟩
    ∧ (Game.epSquares pl sc ec).2.1 = ⟨(epRows pl).2, ec⟩
    ∧ 0 < (epRows pl).1 ∧ (epRows pl).1 < 7 ∧ 0 < (epRows pl).2 ∧ (epRows pl).2 < 7 := by
  cases pl <;> exact ⟨rfl, rfl, rfl, by decide⟩

/-- **C12**: the text of a generated move is read back as that move. -/
theorem uci_roundtrip {g : Game} {m : Move} (hf : g.Fits m) (hg : GenShape g m) :
    Move.fromUci m.uci g = some m := by
  cases m with
  | normal pc s e cap =>
    obtain ⟨hs, he, _, hgs, hge, _⟩ := hf
    refine (fromUci_squares (not_castleText_normal hs he hg) _).2
      ⟨s, e, [], hs, he, rfl, by decide, ?_⟩
    have hep : epShaped g pc s e = false := by
      rw [Bool.eq_false_iff]
      intro hE
      simp only [epShaped, Bool.and_eq_true, decide_eq_true_eq] at hE
      obtain ⟨⟨⟨⟨h1, h2⟩, h3⟩, h4⟩, h5⟩ := hE
      have := hg.1 h1 h3 h4 h5
      rw [hge] at h2
      cases cap <;> simp at this h2
    simp only [decodeSquares, hgs, hep, hge]
    rfl
  | promotion o t s e cap =>
    obtain ⟨hs, he, _, hgs, hge⟩ := hf
    obtain ⟨rfl, ht⟩ := hg
    obtain ⟨hp, hsz⟩ := promoOfLetter_uci ht
    have hc : ¬ CastleText (squaresText s e ++ [uciPromoLetter t]) g := by
      rintro (⟨ht, _⟩ | ⟨ht, _⟩ | ⟨ht, _⟩ | ⟨ht, _⟩) <;> simp [squaresText] at ht
    rw [uci_promotion]
    exact (fromUci_squares hc _).2 ⟨s, e, _, hs, he, rfl,
      by rw [utf8Len_cons, hsz]; exact Nat.le_refl _,
      by simp only [decodeSquares, hp, Option.map_some, hge]⟩
  | castlingShort o => exact (fromUci_castle g o hf.2.1).1
  | castlingLong o => exact (fromUci_castle g o hf.2.1).2
  | enPassant o sc ec =>
    obtain ⟨h1, h2, h3, h4, _, hp, hn, _⟩ := hf
    obtain ⟨rfl, hadj⟩ := hg
    obtain ⟨hu, q1, q2, r1, r2, r3, r4⟩ := ep_rows g.player sc ec
    rw [q1] at hp
    rw [q2] at hn
    have va : Pos.Valid ⟨(epRows g.player).1, sc⟩ :=
      ⟨by dsimp only; omega, by dsimp only; omega, h1, h2⟩
    have vb : Pos.Valid ⟨(epRows g.player).2, ec⟩ :=
      ⟨by dsimp only; omega, by dsimp only; omega, h3, h4⟩
    have hc : ¬ CastleText (squaresText ⟨(epRows g.player).1, sc⟩ ⟨(epRows g.player).2, ec⟩) g := by
      rintro (⟨ht, _⟩ | ⟨ht, _⟩ | ⟨ht, _⟩ | ⟨ht, _⟩)
      all_goals
        have : (epRows g.player).1 = _ := congrArg Pos.row (squaresText_eq va vb ht).1
        revert this
        cases g.player <;> decide
    rw [hu]
    exact (fromUci_squares hc _).2 ⟨_, _, [], va, vb, rfl, by decide,
      by simp [decodeSquares, hp, epShaped, hn, hadj]⟩

/-- **C12**: whatever the parser answers, the text it was given is the text of that answer;
so a string is accepted for a move only if it is that move's text.  No side condition. -/
theorem fromUci_text {s : List Char} {g : Game} {m : Move} (h : Move.fromUci s g = some m) :
    m.uci = s := by
  by_cases hc : CastleText s g
  · rcases hc with ⟨rfl, hk⟩ | ⟨rfl, hk⟩ | ⟨rfl, hk⟩ | ⟨rfl, hk⟩
    · cases (fromUci_castle g .white hk).1.symm.trans h; rfl
    · cases (fromUci_castle g .black hk).1.symm.trans h; rfl
    · cases (fromUci_castle g .white hk).2.symm.trans h; rfl
    · cases (fromUci_castle g .black hk).2.symm.trans h; rfl
  · obtain ⟨a, b, rest, va, vb, rfl, hrest, h⟩ := (fromUci_squares hc m).1 h
    cases rest with
    | cons p tl =>
      obtain rfl : tl = [] := List.eq_nil_of_length_eq_zero (by
        have := length_le_utf8Len (p :: tl)
        simp only [List.length_cons] at this
        omega)
      obtain ⟨t, hp, rfl⟩ := Option.map_eq_some_iff.1 h
      rw [uci_promotion, (uciPromoLetter_of_parse hp).1]
    | nil =>
      simp only [decodeSquares] at h
      split at h
      · split at h
        · rename_i hep
          cases h
          simp only [epShaped, Bool.and_eq_true, decide_eq_true_eq] at hep
          obtain ⟨⟨⟨_, _⟩, hr1⟩, hr2⟩ := hep
          simp only [(ep_rows _ _ _).1, squaresText, ← hr1, ← hr2, List.append_nil]
        · cases h
          rfl
      · cases h

theorem fromUci_eq_some_iff {g : Game} {m : Move} (hf : g.Fits m) (hg : GenShape g m)
    (s : List Char) : Move.fromUci s g = some m ↔ s = m.uci :=
  ⟨fun h => (fromUci_text h).symm, fun h => h ▸ uci_roundtrip hf hg⟩

/-- **C12**: distinct generated moves have distinct texts. -/
theorem uci_injective_on_fits {g : Game} {m₁ m₂ : Move} (hf₁ : g.Fits m₁) (hg₁ : GenShape g m₁)
    (hf₂ : g.Fits m₂) (hg₂ : GenShape g m₂) (h : m₁.uci = m₂.uci) : m₁ = m₂ :=
  Option.some.inj ((uci_roundtrip hf₁ hg₁).symm.trans (h ▸ uci_roundtrip hf₂ hg₂))

section Examples

example : specPgn (.normal ⟨.knight, .white⟩ ⟨0, 6⟩ ⟨2, 5⟩ none) = "Ngf3".toList := by decide +kernel
example : specPgn (.normal ⟨.pawn, .white⟩ ⟨1, 4⟩ ⟨3, 4⟩ none) = "ee4".toList := by decide +kernel
example : specPgn (.normal ⟨.bishop, .black⟩ ⟨7, 2⟩ ⟨3, 6⟩ (some ⟨.knight, .white⟩)) = "Bcxg4".toList := by
  decide +kernel
example : specPgn (.promotion .white .bishop ⟨6, 0⟩ ⟨7, 1⟩ (some ⟨.rook, .black⟩)) = "axb8=B".toList := by
  decide +kernel
example : specPgn (.promotion .black .knight ⟨1, 7⟩ ⟨0, 7⟩ none) = "hh1=N".toList := by decide +kernel
example : specPgn (.enPassant .white 4 3) = "exd6".toList := by decide +kernel
example : specPgn (.enPassant .black 2 3) = "cxd3".toList := by decide +kernel
example : specPgn (.castlingLong .black) = "O-O-O".toList := by decide +kernel
example : specUci (.normal ⟨.knight, .white⟩ ⟨0, 6⟩ ⟨2, 5⟩ none) = "g1f3".toList := by decide +kernel
example : specUci (.promotion .white .bishop ⟨6, 0⟩ ⟨7, 1⟩ (some ⟨.rook, .black⟩)) = "a7b8b".toList := by
  decide +kernel
example : specUci (.enPassant .black 2 3) = "c4d3".toList := by decide +kernel
example : specUci (.castlingLong .black) = "e8c8".toList := by decide +kernel

example : Move.pgn (.promotion .white .bishop ⟨6, 0⟩ ⟨7, 1⟩ (some ⟨.rook, .black⟩)) = "axb8=B".toList := by
  decide +kernel
example : Move.pgn (.promotion .white .knight ⟨6, 0⟩ ⟨7, 0⟩ none) = "aa8=N".toList := by decide +kernel
example : Move.uci (.promotion .white .rook ⟨6, 0⟩ ⟨7, 1⟩ (some ⟨.rook, .black⟩)) = "a7b8r".toList := by
  decide +kernel
example : Move.pgn (.normal ⟨.king, .black⟩ ⟨7, 4⟩ ⟨6, 4⟩ none) = "Kee7".toList := by decide +kernel

/-- the hypothesis `OnBoard` of `pgn_entry_spec` cannot be dropped: off the board the engine
prints whatever character follows, the specification prints `?` -/
example : Move.pgn (.normal ⟨.rook, .white⟩ ⟨0, 9⟩ ⟨0, 0⟩ none) ≠
    specPgn (.normal ⟨.rook, .white⟩ ⟨0, 9⟩ ⟨0, 0⟩ none) := by decide +kernel

/-- white: Ke1 Rh1 pawns e2 a7 e5; black: Ke8 Rb8 pawn d5; White to move -/
def demoBoard : Vector (Option Piece) 64 :=
  ((((((((Vector.replicate 64 none).set 4 (some ⟨.king, .white⟩)).set 7 (some ⟨.rook, .white⟩)).set 12
    (some ⟨.pawn, .white⟩)).set 48 (some ⟨.pawn, .white⟩)).set 36 (some ⟨.pawn, .white⟩)).set 60
    (some ⟨.king, .black⟩)).set 57 (some ⟨.rook, .black⟩)).set 35 (some ⟨.pawn, .black⟩)

def demo : Game :=
  { score := 0, player := .white, endgame := false, hash := 0, board := demoBoard,
    pastScores := Vector.replicate 64 0, pastHashes := Vector.replicate 64 0,
    wking := ⟨0, 4⟩, bking := ⟨7, 4⟩, state := [GState.default],
    moveStack := [.normal ⟨.knight, .white⟩ ⟨0, 6⟩ ⟨2, 5⟩ none,
                  .normal ⟨.pawn, .black⟩ ⟨6, 4⟩ ⟨4, 4⟩ none,
                  .normal ⟨.pawn, .white⟩ ⟨1, 4⟩ ⟨3, 4⟩ none] }

example : demo.pgn = "1. ee4 ee5 2. Ngf3 ".toList := by decide +kernel

def mPawn : Move := .normal ⟨.pawn, .white⟩ ⟨1, 4⟩ ⟨3, 4⟩ none
def mPromo : Move := .promotion .white .knight ⟨6, 0⟩ ⟨7, 1⟩ (some ⟨.rook, .black⟩)
def mEp : Move := .enPassant .white 4 3
def mCastle : Move := .castlingShort .white

example : demo.Fits mPawn ∧ GenShape demo mPawn := by
  unfold mPawn Game.Fits GenShape; decide +kernel
example : demo.Fits mPromo ∧ GenShape demo mPromo := by
  unfold mPromo Game.Fits GenShape; decide +kernel
example : demo.Fits mEp ∧ GenShape demo mEp := by
  unfold mEp Game.Fits GenShape; decide +kernel
example : demo.Fits mCastle ∧ GenShape demo mCastle := by
  unfold mCastle Game.Fits GenShape; decide +kernel

example : Move.fromUci "e2e4".toList demo = some mPawn := by decide +kernel
example : Move.fromUci "a7b8n".toList demo = some mPromo := by decide +kernel
example : Move.fromUci "e5d6".toList demo = some mEp := by decide +kernel
example : Move.fromUci "e1g1".toList demo = some mCastle := by decide +kernel
example : Move.fromUci "e2e9".toList demo = none := by decide +kernel
example : Move.fromUci "a7b8k".toList demo = none := by decide +kernel
example : Move.fromUci "é2e4".toList demo = none := by decide +kernel

/-! ### `Fits` alone does not suffice: every clause of `GenShape` is needed -/

/-- a king's `normal` move e1→g1 fits structurally, but its text is read as castling -/
example : demo.Fits (.normal ⟨.king, .white⟩ ⟨0, 4⟩ ⟨0, 6⟩ none) ∧
    Move.fromUci (Move.uci (.normal ⟨.king, .white⟩ ⟨0, 4⟩ ⟨0, 6⟩ none)) demo
      = some (.castlingShort .white) := by
  unfold Game.Fits; decide +kernel

/-- a pawn's `normal` move e5→d6 onto the empty square fits, but is read as en passant -/
example : demo.Fits (.normal ⟨.pawn, .white⟩ ⟨4, 4⟩ ⟨5, 3⟩ none) ∧
    Move.fromUci (Move.uci (.normal ⟨.pawn, .white⟩ ⟨4, 4⟩ ⟨5, 3⟩ none)) demo
      = some (.enPassant .white 4 3) := by
  unfold Game.Fits; decide +kernel

/-- a promotion to king fits, but its text `a7b8?` is refused -/
example : demo.Fits (.promotion .white .king ⟨6, 0⟩ ⟨7, 1⟩ (some ⟨.rook, .black⟩)) ∧
    Move.fromUci (Move.uci (.promotion .white .king ⟨6, 0⟩ ⟨7, 1⟩ (some ⟨.rook, .black⟩))) demo
      = none := by
  unfold Game.Fits; decide +kernel

end Examples

end Chess

#print axioms Chess.pgn_entry_spec
#print axioms Chess.pgn_entry_spec_fits
#print axioms Chess.pgnPromoLetter_inj
#print axioms Chess.Game.pushHistory_moveStack
#print axioms Chess.Game.push_moveStack
#print axioms Chess.Game.pop_moveStack
#print axioms Chess.pgn_record
#print axioms Chess.pgn_record_nth
#print axioms Chess.pgn_pushHistory
#print axioms Chess.pgn_push
#print axioms Chess.pgn_pop
#print axioms Chess.uci_shape
#print axioms Chess.uci_roundtrip
#print axioms Chess.fromUci_text
#print axioms Chess.fromUci_squares
#print axioms Chess.fromUci_eq_some_iff
#print axioms Chess.uci_injective_on_fits
