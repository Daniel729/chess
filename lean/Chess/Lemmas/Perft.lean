import Chess.Model.Perft
import Chess.Spec.Perft
import Chess.Lemmas.Legal

/-!
# `perft`: the engine's count is the rules' count, and the call leaves the game as it found it

The loop is summed under the hypothesis that the recursive call restores the game; with that, `perft` restores
the game at every depth and its count is a sum over the checked move list, which is a permutation of the rules'
legal moves. The command line (`perftDivide`) is the same sum printed per move, sorted by text.
-/
namespace Chess.Perft
open Chess Chess.Game Chess.Legal

theorem perftAux_zero (g : Game) : perftAux 0 g = (1, (g.getMoves true).2) := rfl

theorem perftAux_one (g : Game) :
    perftAux 1 g = ((g.getMoves true).1.length, (g.getMoves true).2) := rfl

theorem perftAux_succ_succ (d : Nat) (g : Game) :
    perftAux (d + 2) g = perftLoop (perftAux (d + 1)) (g.getMoves true).2 (g.getMoves true).1 0 := by
  show (if d + 1 + 1 = 1 then ((g.getMoves true).1.length, (g.getMoves true).2)
    else perftLoop (perftAux (d + 1)) (g.getMoves true).2 (g.getMoves true).1 0) = _
  rw [if_neg (by omega)]

theorem perftLoop_nil (rec : Game → Nat × Game) (g : Game) (count : Nat) :
    perftLoop rec g [] count = (count, g) := rfl

theorem perftLoop_cons (rec : Game → Nat × Game) (g : Game) (m : Move) (ms : List Move) (count : Nat) :
    perftLoop rec g (m :: ms) count
      = perftLoop rec ((rec (g.push m)).2.pop m) ms (count + (rec (g.push m)).1) := rfl

theorem child_ok {g : Game} (hw : g.WF) {m : Move} (hm : m ∈ (g.getMoves true).1) :
    (g.push m).WF ∧ (g.push m).pop m = g :=
  ⟨push_wf_of_mem hw hm, pop_push g m (getMoves_fits hw true hm).1 hw.cache⟩

theorem perftLoop_spec (rec : Game → Nat × Game) {g : Game} (hw : g.WF) :
    ∀ (ms : List Move) (count : Nat), (∀ m ∈ ms, m ∈ (g.getMoves true).1) →
      (∀ m ∈ ms, (rec (g.push m)).2 = g.push m) →
      perftLoop rec g ms count = (count + (ms.map (fun m => (rec (g.push m)).1)).sum, g)
  | [], count, _, _ => by simp [perftLoop_nil]
  | m :: ms, count, hms, hrec => by
    rw [perftLoop_cons, hrec m (List.mem_cons_self ..), (child_ok hw (hms m (List.mem_cons_self ..))).2,
      perftLoop_spec rec hw ms _ (fun x hx => hms x (List.mem_cons_of_mem _ hx))
        (fun x hx => hrec x (List.mem_cons_of_mem _ hx))]
    simp only [List.map_cons, List.sum_cons, Nat.add_assoc]

theorem perftAux_restores : ∀ (d : Nat) {g : Game}, g.WF → (perftAux d g).2 = g
  | 0, g, hw => by rw [perftAux_zero]; exact getMoves_pure hw true
  | 1, g, hw => by rw [perftAux_one]; exact getMoves_pure hw true
  | d + 2, g, hw => by
    rw [perftAux_succ_succ, getMoves_pure hw true,
      perftLoop_spec _ hw _ _ (fun _ h => h)
        (fun m hm => perftAux_restores (d + 1) (child_ok hw hm).1)]

/-- **perft leaves the game unchanged** (board, caches, score, hash, king squares, side, state
stack, move record, phase: equality of the whole structure) -/
theorem perft_restores {g : Game} (hw : g.WF) (d : Nat) : g.perftGame d = g :=
  perftAux_restores d hw

theorem perft_restores_reach {g : Game} (h : Reach g) (d : Nat) : g.perftGame d = g :=
  perft_restores (reach_wf h) d

theorem perft_succ_succ {g : Game} (hw : g.WF) (d : Nat) :
    g.perft (d + 2) = ((g.getMoves true).1.map (fun m => (g.push m).perft (d + 1))).sum := by
  unfold Game.perft
  rw [perftAux_succ_succ, getMoves_pure hw true,
    perftLoop_spec _ hw _ _ (fun _ h => h)
      (fun m hm => perftAux_restores (d + 1) (child_ok hw hm).1)]
  simp

theorem sum_checked_eq {g : Game} (hs : SaneG g) (f : Spec.UciMove → Nat) :
    ((g.getMoves true).1.map (fun m => f m.toSpec)).sum = ((Spec.legalList g.abs).map f).sum := by
  have h := ((checked_perm_legalList hs).map f).sum_nat
  rw [List.map_map] at h
  exact h

theorem perft_eq_spec_saneG : ∀ (d : Nat) {g : Game}, SaneG g → g.perft d = Spec.perft d g.abs
  | 0, _, _ => rfl
  | 1, g, hs => by
    show (g.getMoves true).1.length = _
    rw [Spec.perft_one, ← (checked_perm_legalList hs).length_eq, List.length_map]
  | d + 2, g, hs => by
    rw [perft_succ_succ hs.wf, Spec.perft_succ, ← sum_checked_eq hs]
    congr 1
    apply List.map_congr_left
    intro m hm
    rw [perft_eq_spec_saneG (d + 1) (saneG_step hs hm), (checked_push_abs hs hm).1]

/-- **the engine's perft is the number of legal lines of that length**, in every game reachable by
legal play from a well-formed start position that is sane by the rules, at every depth -/
theorem perft_eq_spec {g0 g : Game} (h : LegalReach g0 g) (hw : g0.WF)
    (h0 : Spec.sane g0.abs = true) (d : Nat) : g.perft d = Spec.perft d g.abs :=
  perft_eq_spec_saneG d (legalReach_sane (saneG_of_sane hw h0) h)

theorem perft_eq_spec_imported {s : List Char} {g : Game} (hok : Game.ofFen s = .ok g)
    (h0 : Spec.sane g.abs = true) (d : Nat) : g.perft d = Spec.perft d g.abs :=
  perft_eq_spec_saneG d (saneG_of_fen hok h0)

theorem perft_eq_spec_imported_reach {s : List Char} {g0 g : Game} (hok : Game.ofFen s = .ok g0)
    (h0 : Spec.sane g0.abs = true) (h : LegalReach g0 g) (d : Nat) :
    g.perft d = Spec.perft d g.abs :=
  perft_eq_spec h (ofFen_wf hok) h0 d

/-- the shortcut of the last ply is the general recursion: `moves.len()` is the sum of the
children's depth-0 counts -/
theorem perft_one_eq_sum (g : Game) :
    g.perft 1 = ((g.getMoves true).1.map (fun m => (g.push m).perft 0)).sum := by
  show (g.getMoves true).1.length = _
  rw [show (fun m => (g.push m).perft 0) = fun _ => 1 from rfl, List.map_const', List.sum_replicate_nat,
    Nat.mul_one]

theorem perftDivideLoop_spec (d : Nat) {g : Game} (hw : g.WF) :
    ∀ (l : List (List Char × Move)), (∀ x ∈ l, x.2 ∈ (g.getMoves true).1) →
      perftDivideLoop d g l = (l.map (fun x => (x.1, (g.push x.2).perft d)), g)
  | [], _ => rfl
  | (t, m) :: l, hl => by
    have hm : m ∈ (g.getMoves true).1 := hl (t, m) (List.mem_cons_self ..)
    show (let (r, g') := perftDivideLoop d ((perftAux d (g.push m)).2.pop m) l
          ((t, (perftAux d (g.push m)).1) :: r, g')) = _
    rw [perftAux_restores d (child_ok hw hm).1, (child_ok hw hm).2,
      perftDivideLoop_spec d hw l (fun x hx => hl x (List.mem_cons_of_mem _ hx))]
    rfl

theorem sortByUci_perm (ms : List Move) : (sortByUci ms).Perm (ms.map (fun m => (m.uci, m))) :=
  List.mergeSort_perm _ _

theorem perftDivideAux_eq {g : Game} (hw : g.WF) (depth : Nat) :
    perftDivideAux depth g
      = ((sortByUci (g.getMoves true).1).map (fun x => (x.1, (g.push x.2).perft (depth - 1))), g) := by
  unfold perftDivideAux
  show perftDivideLoop (depth - 1) (g.getMoves true).2 (sortByUci (g.getMoves true).1) = _
  rw [getMoves_pure hw true]
  apply perftDivideLoop_spec _ hw
  intro x hx
  have := (sortByUci_perm _).mem_iff.1 hx
  rw [List.mem_map] at this
  obtain ⟨m, hm, rfl⟩ := this
  exact hm

theorem perftDivide_restores {g : Game} (hw : g.WF) (depth : Nat) :
    (perftDivideAux depth g).2 = g := by
  rw [perftDivideAux_eq hw]

/-- **the lines of the command line are, up to order, the rules' per-move split**: for every legal
move its text and the number of legal lines of length `d` after it -/
theorem perftDivide_perm_spec {g : Game} (hs : SaneG g) (d : Nat) :
    (g.perftDivide (d + 1)).Perm (Spec.perftDivide d g.abs) := by
  unfold Game.perftDivide
  rw [perftDivideAux_eq hs.wf]
  show ((sortByUci (g.getMoves true).1).map (fun x => (x.1, (g.push x.2).perft d))).Perm _
  refine ((sortByUci_perm _).map _).trans ?_
  rw [List.map_map]
  have e : (g.getMoves true).1.map
        ((fun x : List Char × Move => (x.1, (g.push x.2).perft d)) ∘ fun m => (m.uci, m))
      = ((g.getMoves true).1.map Move.toSpec).map
          (fun u => (u.text, Spec.perft d (Spec.play g.abs u))) := by
    rw [List.map_map]
    apply List.map_congr_left
    intro m hm
    show (m.uci, (g.push m).perft d) = (m.toSpec.text, Spec.perft d (Spec.play g.abs m.toSpec))
    rw [toSpec_uci, perft_eq_spec_saneG d (saneG_step hs hm), (checked_push_abs hs hm).1]
  rw [e]
  exact (checked_perm_legalList hs).map _

theorem perftDivideSum_eq_spec {g : Game} (hs : SaneG g) (d : Nat) :
    g.perftDivideSum (d + 1) = Spec.perft (d + 1) g.abs := by
  unfold Game.perftDivideSum
  rw [((perftDivide_perm_spec hs d).map _).sum_nat, Spec.perft_succ]
  unfold Spec.perftDivide
  rw [List.map_map]
  rfl

theorem perftDivideSum_eq_perft {g : Game} (hs : SaneG g) (d : Nat) :
    g.perftDivideSum (d + 1) = g.perft (d + 1) := by
  rw [perftDivideSum_eq_spec hs, perft_eq_spec_saneG _ hs]

theorem textLe_total : ∀ a b : List Char, (textLe a b || textLe b a) = true
  | [], _ => rfl
  | _ :: _, [] => rfl
  | a :: as, b :: bs => by
    have ih := textLe_total as bs
    simp only [textLe, Bool.or_eq_true, Bool.and_eq_true, decide_eq_true_eq, beq_iff_eq] at ih ⊢
    by_cases h1 : a.toNat < b.toNat
    · exact .inl (.inl h1)
    · by_cases h2 : b.toNat < a.toNat
      · exact .inr (.inl h2)
      · have : a = b := Char.toNat_inj.1 (by omega)
        subst this
        rcases ih with h | h
        · exact .inl (.inr ⟨rfl, h⟩)
        · exact .inr (.inr ⟨rfl, h⟩)

theorem textLe_trans : ∀ a b c : List Char, textLe a b = true → textLe b c = true → textLe a c = true
  | [], _, _, _, _ => rfl
  | _ :: _, [], _, h, _ => by simp [textLe] at h
  | _ :: _, _ :: _, [], _, h => by simp [textLe] at h
  | a :: as, b :: bs, c :: cs, h1, h2 => by
    have ih := textLe_trans as bs cs
    simp only [textLe, Bool.or_eq_true, Bool.and_eq_true, decide_eq_true_eq, beq_iff_eq] at h1 h2 ih ⊢
    rcases h1 with h1 | ⟨rfl, h1⟩
    · rcases h2 with h2 | ⟨rfl, _⟩
      · exact .inl (by omega)
      · exact .inl h1
    · rcases h2 with h2 | ⟨rfl, h2⟩
      · exact .inl h2
      · exact .inr ⟨rfl, ih h1 h2⟩

theorem perftDivide_sorted {g : Game} (hw : g.WF) (depth : Nat) :
    (g.perftDivide depth).Pairwise (fun x y => textLe x.1 y.1 = true) := by
  unfold Game.perftDivide
  rw [perftDivideAux_eq hw]
  show ((sortByUci (g.getMoves true).1).map _).Pairwise _
  rw [List.pairwise_map]
  exact List.pairwise_mergeSort (le := fun a b : List Char × Move => textLe a.1 b.1)
    (fun a b c => textLe_trans a.1 b.1 c.1) (fun a b => textLe_total a.1 b.1) _

/-- the hypotheses of `perft_eq_spec_imported` are met by the standard start text -/
theorem start_perft_eq_spec (d : Nat) :
    ∃ g, Game.ofFen startFen = .ok g ∧ g.abs = startPos ∧ g.perftGame d = g
      ∧ g.perft d = Spec.perft d startPos := by
  obtain ⟨g, hok, habs, hs⟩ := start_saneG
  exact ⟨g, hok, habs, perft_restores hs.wf d, by rw [perft_eq_spec_saneG d hs, habs]⟩

/-! ### the rules' move list, evaluated with fewer board lookups

A lookup `a.at s` walks the 64-element board, and `Spec.legal` does two or more of them for each of the 320
candidate moves of a source square. Here the piece on the source square is read once, and a candidate goes to
`Spec.legal` only if its step and promotion suffix fit that piece at all (`fits`). -/

/-- a necessary condition for `Spec.pseudo` that looks at the step and the promotion suffix only: the shape of
the step fits the piece type (blockers, captures and rights ignored) and only a pawn arriving on an end row
promotes -/
def fits (pt : PieceType) (m : Spec.UciMove) : Bool :=
  let dr := (m.dst.1 - m.src.1).natAbs
  let dc := (m.dst.2 - m.src.2).natAbs
  (m.promo.isNone || (pt = .pawn && (m.dst.1 = 0 || m.dst.1 = 7))) &&
  match pt with
  | .pawn => dc ≤ 1 && dr ≤ 2
  | .knight => dr + dc = 3
  | .king => dr ≤ 1
  | .rook => dr = 0 || dc = 0
  | .bishop => dr = dc
  | .queen => dr = 0 || dc = 0 || dr = dc

theorem fits_of_pseudo {a : Spec.APos} {m : Spec.UciMove} {pc : Piece} (hs : a.at m.src = some pc)
    (h : Spec.pseudo a m = true) : fits pc.pieceType m = true := by
  unfold Spec.pseudo at h
  rw [hs] at h
  obtain ⟨pt, o⟩ := pc
  cases pt <;> simp [fits, Spec.attacksFrom] at h ⊢ <;> obtain ⟨-, -, -, hp, hg⟩ := h
  case queen | rook | bishop | knight => exact ⟨hp, by omega⟩
  case king =>
    -- an ordinary step, or castling, which stays on the row
    refine ⟨hp, ?_⟩
    rcases hg with hg | ⟨⟨_, e⟩, _⟩ <;> omega
  case pawn =>
    have hf : Spec.forward a.side = 1 ∨ Spec.forward a.side = -1 := by cases a.side <;> simp [Spec.forward]
    refine ⟨?_, by omega⟩
    split at hp
    · next e => cases hside : a.side <;> simp [hside, Spec.lastRow] at e <;> simp [e]
    · exact .inl hp

/-- `Spec.legalListFast` with the piece on each source square read once and the candidates screened by `fits`
before the rules are consulted -/
def legalListScreened (a : Spec.APos) : List Spec.UciMove :=
  (Spec.allSqs.filter (Spec.ownAt a)).flatMap fun s =>
    match a.at s with
    | some pc => (Spec.movesFrom s).filter (fun m => fits pc.pieceType m && Spec.legal a m)
    | none => []

theorem legalListScreened_eq (a : Spec.APos) : legalListScreened a = Spec.legalListFast a := by
  unfold legalListScreened Spec.legalListFast
  congr 1
  funext s
  cases hs : a.at s with
  | none =>
    refine (List.filter_eq_nil_iff.2 fun m hm hl => ?_).symm
    have := Spec.legal_src_own hl
    rw [Spec.mem_movesFrom hm, Spec.ownAt, hs] at this
    cases this
  | some pc =>
    refine List.filter_congr fun m hm => ?_
    cases hl : Spec.legal a m
    · exact Bool.and_false _
    · have hp : Spec.pseudo a m = true := by
        unfold Spec.legal at hl
        exact (Bool.and_eq_true _ _ ▸ hl).1
      rw [fits_of_pseudo (Spec.mem_movesFrom hm ▸ hs) hp]; rfl

theorem spec_perft_one_start : Spec.perft 1 startPos = 20 := by
  rw [Spec.perft_one, ← Spec.legalListFast_eq, ← legalListScreened_eq]
  decide +kernel

/-- hence, by `perft_eq_spec` and not by running it, the model's `perft 1` of the imported start
position is 20 -/
theorem model_perft_one_start : ∃ g, Game.ofFen startFen = .ok g ∧ g.perft 1 = 20 := by
  obtain ⟨g, hok, _, _, h⟩ := start_perft_eq_spec 1
  exact ⟨g, hok, by rw [h, spec_perft_one_start]⟩

/-! ### tests by evaluation (`#guard`: compiled evaluation, NOT kernel-checked facts)

`Spec.perftFast 2 startPos = 400` by `decide +kernel` (21 move lists) ran into the kernel's deterministic
timeout under the default limits, so the values beyond depth 1 are checked by evaluation only. -/

def startModelPerft (d : Nat) : Option Nat :=
  match Game.ofFen startFen with
  | .ok g => some (g.perft d)
  | _ => none

def startModelDivideSum (d : Nat) : Option Nat :=
  match Game.ofFen startFen with
  | .ok g => some (g.perftDivideSum d)
  | _ => none

/-- what can be compared without `DecidableEq Game`: hash, score, FEN text, record, stack depth -/
def startRestored (d : Nat) : Bool :=
  match Game.ofFen startFen with
  | .ok g =>
    let g' := g.perftGame d
    g'.hash == g.hash && g'.score == g.score && g'.fen == g.fen && g'.len == g.len
      && g'.moveStack.length == g.moveStack.length
  | _ => false

#guard startModelPerft 0 == some 1
#guard startModelPerft 1 == some 20
#guard startModelPerft 2 == some 400
#guard startModelPerft 3 == some 8902
#guard Spec.perft 0 startPos == 1
#guard Spec.perft 1 startPos == 20
#guard Spec.perftFast 1 startPos == 20
#guard Spec.perftFast 2 startPos == 400
#guard startModelDivideSum 2 == some 400
#guard startModelDivideSum 3 == some 8902
#guard startRestored 3
#guard (match Game.ofFen startFen with
  | .ok g => (g.perftDivide 1).map (fun x => String.ofList x.1) | _ => [])
  == ["a2a3", "a2a4", "b1a3", "b1c3", "b2b3", "b2b4", "c2c3", "c2c4", "d2d3", "d2d4", "e2e3", "e2e4",
      "f2f3", "f2f4", "g1f3", "g1h3", "g2g3", "g2g4", "h2h3", "h2h4"]
#guard (Spec.perftDivide 1 startPos).map (·.2) == List.replicate 20 20

end Chess.Perft

#print axioms Chess.Perft.spec_perft_one_start
#print axioms Chess.Perft.model_perft_one_start
#print axioms Chess.Perft.perft_restores
#print axioms Chess.Perft.perft_restores_reach
#print axioms Chess.Perft.perft_eq_spec
#print axioms Chess.Perft.perft_eq_spec_imported
#print axioms Chess.Perft.perft_eq_spec_imported_reach
#print axioms Chess.Perft.perftDivide_restores
#print axioms Chess.Perft.perftDivide_perm_spec
#print axioms Chess.Perft.perftDivideSum_eq_spec
#print axioms Chess.Perft.perftDivide_sorted
#print axioms Chess.Perft.start_perft_eq_spec
