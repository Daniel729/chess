import Chess.Lemmas.RefineBase

/-!
# L2 of C01: pawns and kings; assembly of the unchecked list; injectivity of `toSpec`; no duplicates

For an own pawn `get_pawn_moves` yields exactly the rules' pseudo-legal moves (en passant under
`EpInv` and `WF.ep`). For the king every generated move is pseudo-legal, and every pseudo-legal move
is generated except steps onto a square within one step of the enemy king's cached square
(`NearKingStep`), which are illegal anyway (`near_king_step_illegal`). The unchecked list is then
compared with `Spec.pseudoList`, `toSpec` is injective on it (a move is recovered from its text by
`decode`), and it has no duplicates.
-/
namespace Chess
open Spec

/-! ## The rules' pawn clause, unfolded -/

/-- the rules' promotion clause for a pawn arriving on row `r` -/
def PromoOk_x (side : Player) (r : Int) (promo : Option PieceType) : Prop :=
  if r = lastRow side then ∃ t, promo = some t ∧ isPromoPiece t = true else promo = none

/-- the four ways a pawn moves, by the rules -/
def PawnGeo (a : APos) (u : UciMove) : Prop :=
  let fw := forward a.side
  let dr := u.dst.1 - u.src.1
  let dc := u.dst.2 - u.src.2
  (dc = 0 ∧ dr = fw ∧ a.at u.dst = none)
  ∨ (dc = 0 ∧ dr = 2 * fw ∧ u.src.1 = pawnStartRow a.side ∧ a.at u.dst = none
      ∧ a.at (u.src.1 + fw, u.src.2) = none)
  ∨ (dc.natAbs = 1 ∧ dr = fw ∧ ∃ o, a.at u.dst = some o)
  ∨ (dc.natAbs = 1 ∧ dr = fw ∧ a.at u.dst = none ∧ u.src.1 = epFromRow a.side
      ∧ a.ep = some u.dst.2.toNat ∧ a.at (u.src.1, u.dst.2) = some ⟨.pawn, a.side.other⟩)

/-- the move is given by its components so that it is found by first-order unification -/
theorem Spec.pseudo_pawn_iff (a : APos) (s d : Sq) (pr : Option PieceType) (pc : Piece)
    (hsrc : a.at s = some pc) (hty : pc.pieceType = .pawn) :
    pseudo a ⟨s, d, pr⟩ = true ↔
      onBoard d = true ∧ pc.owner = a.side ∧ (∀ o, a.at d = some o → o.owner ≠ a.side) ∧
        PromoOk_x a.side d.1 pr ∧ PawnGeo a ⟨s, d, pr⟩ := by
  have hb := APos.onBoard_of_at hsrc
  unfold pseudo PromoOk_x PawnGeo
  simp only [hsrc, hb, hty, Bool.true_and, Bool.and_eq_true, decide_eq_true_eq, Bool.or_eq_true,
    Option.isNone_iff_eq_none, Option.isSome_iff_exists, Bool.not_eq_true']
  cases hd : a.at d <;> cases pr <;> by_cases hl : d.1 = lastRow a.side <;>
    simp [hl, and_assoc, or_assoc]

namespace Game

/-! ## Pawns: generator = rules -/

theorem mem_promoPieces (t : PieceType) : t ∈ promoPieces ↔ isPromoPiece t = true := by
  rw [promoPieces_eq]; cases t <;> simp [isPromoPiece]

theorem toSpec_enPassant (o : Player) (sc ec : Int) :
    (Move.enPassant o sc ec).toSpec = ⟨(epFromRow o, sc), (epFromRow o + forward o, ec), none⟩ := by
  cases o <;> rfl

theorem abs_side (g : Game) : g.abs.side = g.player := rfl

/-- the moves that arrive on `q`, told by their text: the promotion suffix obeys the rules' clause -/
theorem arrive_iff (g : Game) (pc : Piece) (p q : Pos) (cap : Option Piece) (lr : Int) (u : UciMove) :
    (∃ m, PawnArrive g pc p q cap lr m ∧ m.toSpec = u) ↔
      ∃ upr, u = ⟨(p.row, p.col), (q.row, q.col), upr⟩ ∧
        if q.row = lr then ∃ t, upr = some t ∧ isPromoPiece t = true else upr = none := by
  unfold PawnArrive
  by_cases h : lr = q.row
  · simp only [if_pos h, if_pos h.symm]
    constructor
    · rintro ⟨m, ⟨t, ht, rfl⟩, rfl⟩; exact ⟨some t, rfl, t, rfl, (mem_promoPieces t).1 ht⟩
    · rintro ⟨_, rfl, t, rfl, ht⟩; exact ⟨_, ⟨t, (mem_promoPieces t).2 ht, rfl⟩, rfl⟩
  · simp only [if_neg h, if_neg (Ne.symm h)]
    constructor
    · rintro ⟨m, rfl, rfl⟩; exact ⟨none, rfl, rfl⟩
    · rintro ⟨_, rfl, rfl⟩; exact ⟨_, rfl, rfl⟩

theorem pawn_pseudo_to_gen (g : Game) {p : Pos} (hw : g.WF) (hp : p.Valid)
    (hg : g.get p = some ⟨.pawn, g.player⟩) (u : UciMove)
    (hps : pseudo g.abs u = true) (hsrc : u.src = (p.row, p.col)) :
    ∃ m ∈ g.pawnMoves ⟨.pawn, g.player⟩ p, m.toSpec = u := by
  have hat : g.abs.at (p.row, p.col) = some ⟨.pawn, g.player⟩ := (g.get_eq_at p hp).symm.trans hg
  have hsc := side_consts g.player
  obtain ⟨us, ud, upr⟩ := u
  obtain rfl : us = (p.row, p.col) := hsrc
  obtain ⟨hb, _, hno, hpromo, hgeo⟩ := (pseudo_pawn_iff g.abs _ _ _ _ hat rfl).1 hps
  simp only [abs_side] at hno hpromo hgeo
  have hv := (Spec.onBoard_iff _).1 hb
  have hgq := g.get_mk hb
  unfold Pos.Valid at hp
  unfold PromoOk_x at hpromo
  unfold PawnGeo at hgeo
  simp only [abs_side] at hgeo
  have hadd : ∀ dc : Int, ud.1 - p.row = forward g.player → ud.2 - p.col = dc →
      p.add (forward g.player, dc) = some ⟨ud.1, ud.2⟩ := by
    intro dc h1 h2
    rw [← h1, ← h2]; exact p.add_sub ⟨ud.1, ud.2⟩ (Pos.valid_mk hb)
  have notLast : ud.1 ≠ lastRow g.player → upr = none := fun h => by rwa [if_neg h] at hpromo
  rcases hgeo with ⟨hdc, hdr, hnone⟩ | ⟨hdc, hdr, hst, hnone, hmid⟩ | ⟨hdc, hdr, o, ho⟩
      | ⟨hdc, hdr, hnone, her, hep, hbeside⟩
  · obtain ⟨m, hm, hts⟩ := (arrive_iff g ⟨.pawn, g.player⟩ p ⟨ud.1, ud.2⟩ none (lastRow g.player) _).2
      ⟨upr, rfl, hpromo⟩
    refine ⟨m, (pawnMoves_spec ..).2 (.inr (.inl ⟨_, hadd 0 hdr hdc, ?_, hm⟩)), hts⟩
    rw [hgq]; exact hnone
  · obtain rfl := notLast (by omega)
    have hmid' := g.get_mk (r := p.row + forward g.player) (c := p.col) (by
      rw [Spec.onBoard_iff]
      simp only; omega)
    have e1 : (Pos.mk (p.row + 2 * forward g.player) (p.col + 0)) = ⟨ud.1, ud.2⟩ := by
      simp only [Pos.mk.injEq]; omega
    refine ⟨.normal ⟨.pawn, g.player⟩ p ⟨ud.1, ud.2⟩ none, (pawnMoves_spec ..).2 (.inl ⟨hst, ?_, ?_, ?_⟩), rfl⟩
    · simp only [Int.add_zero]; rw [hmid']; exact hmid
    · simp only [e1]; rw [hgq]; exact hnone
    · simp only [e1]
  · obtain ⟨m, hm, hts⟩ := (arrive_iff g ⟨.pawn, g.player⟩ p ⟨ud.1, ud.2⟩ (some o) (lastRow g.player) _).2
      ⟨upr, rfl, hpromo⟩
    refine ⟨m, (pawnMoves_spec ..).2 (.inr (.inr (.inl ⟨(forward g.player, ud.2 - p.col), ?_, _, o,
      hadd _ hdr rfl, ?_, hno o ho, hm⟩))), hts⟩
    · simp only [List.mem_cons, Prod.mk.injEq, true_and, List.not_mem_nil, or_false]; omega
    · rw [hgq]; exact ho
  · obtain rfl := notLast (by omega)
    rw [abs_ep_rf, epOf] at hep
    have h0 := hw.ep.1
    have h8 : g.top.enPassant < 8 := by
      by_cases h : g.top.enPassant < 8
      · exact h
      · rw [if_neg h] at hep; cases hep
    rw [if_pos h8] at hep
    have hec : g.top.enPassant = ud.2 := by
      have := Option.some.inj hep
      omega
    refine ⟨.enPassant g.player p.col g.top.enPassant, (pawnMoves_spec ..).2 (.inr (.inr (.inr
      ⟨her, h8, by omega, rfl⟩))), ?_⟩
    rw [toSpec_enPassant]
    obtain ⟨ud1, ud2⟩ := ud
    simp only at hec hdr her
    simp only [UciMove.mk.injEq, Prod.mk.injEq, and_true]
    omega

theorem pawn_gen_to_pseudo (g : Game) {p : Pos} (hw : g.WF) (hp : p.Valid)
    (hg : g.get p = some ⟨.pawn, g.player⟩) (m : Move)
    (hm : m ∈ g.pawnMoves ⟨.pawn, g.player⟩ p) :
    pseudo g.abs m.toSpec = true ∧ m.toSpec.src = (p.row, p.col) := by
  have hat : g.abs.at (p.row, p.col) = some ⟨.pawn, g.player⟩ := (g.get_eq_at p hp).symm.trans hg
  have hsc := side_consts g.player
  rw [pawnMoves_spec] at hm
  simp only at hm
  -- it suffices to exhibit the text-level move and check the rules' clause on it
  suffices h : ∃ ud upr, m.toSpec = ⟨(p.row, p.col), ud, upr⟩ ∧ onBoard ud = true ∧
      (∀ o, g.abs.at ud = some o → o.owner ≠ g.player) ∧ PromoOk_x g.player ud.1 upr ∧
      PawnGeo g.abs ⟨(p.row, p.col), ud, upr⟩ by
    obtain ⟨ud, upr, hts, hb, hno, hpr, hgeo⟩ := h
    rw [hts]
    exact ⟨(pseudo_pawn_iff g.abs _ _ _ _ hat rfl).2 ⟨hb, rfl, hno, hpr, hgeo⟩, rfl⟩
  unfold PromoOk_x PawnGeo
  simp only [abs_side]
  have hpv := hp
  unfold Pos.Valid at hp
  rcases hm with ⟨hst, hmid, hdst, rfl⟩ | ⟨q, hq, hnone, harr⟩ | ⟨d, hd, q, o, hq, hgo, hoo, harr⟩
      | ⟨her, h8, habs, rfl⟩
  · have hv : (Pos.mk (p.row + 2 * forward g.player) (p.col + 0)).Valid := by
      unfold Pos.Valid
      simp only; omega
    have hmv : (Pos.mk (p.row + forward g.player) (p.col + 0)).Valid := by
      unfold Pos.Valid
      simp only; omega
    rw [g.get_eq_at _ hv] at hdst
    rw [g.get_eq_at _ hmv] at hmid
    simp only [Int.add_zero] at hdst hmid hv
    refine ⟨(p.row + 2 * forward g.player, p.col), none, ?_, (Pos.valid_iff_onBoard ⟨_, _⟩).1 hv, ?_, ?_, ?_⟩
    · simp only [Move.toSpec, Int.add_zero]
    · intro o ho; rw [hdst] at ho; cases ho
    · rw [if_neg]
      simp only; omega
    · refine .inr (.inl ⟨by simp only; omega, by simp only; omega, hst, hdst, hmid⟩)
  · obtain ⟨rfl, hb⟩ := (Pos.add_eq_some_iff _ _ _).1 hq
    rw [g.get_mk hb] at hnone
    obtain ⟨upr, hts, hpr⟩ := (arrive_iff ..).1 ⟨m, harr, rfl⟩
    simp only at hts hpr hnone hb
    refine ⟨_, upr, hts, hb, ?_, hpr, ?_⟩
    · intro o ho; rw [hnone] at ho; cases ho
    · exact .inl ⟨by simp only; omega, by simp only; omega, hnone⟩
  · obtain ⟨rfl, hb⟩ := (Pos.add_eq_some_iff _ _ _).1 hq
    rw [g.get_mk hb] at hgo
    obtain ⟨upr, hts, hpr⟩ := (arrive_iff ..).1 ⟨m, harr, rfl⟩
    simp only at hts hpr hgo hb
    have hd1 : d.1 = forward g.player ∧ d.2.natAbs = 1 := by
      simp only [List.mem_cons, List.not_mem_nil, or_false] at hd
      rcases hd with rfl | rfl <;> exact ⟨rfl, rfl⟩
    refine ⟨_, upr, hts, hb, ?_, hpr, ?_⟩
    · intro o' ho'; rw [hgo] at ho'; cases ho'; exact hoo
    · exact .inr (.inr (.inl ⟨by simp only; omega, by simp only; omega, o, hgo⟩))
  · obtain ⟨hbeside, hempty⟩ := epInv_uniform hw.epInv h8
    have h0 := hw.ep.1
    have hv : (Pos.mk (epFromRow g.player + forward g.player) g.top.enPassant).Valid := by
      unfold Pos.Valid
      simp only; omega
    have hbv : (Pos.mk (epFromRow g.player) g.top.enPassant).Valid := by
      unfold Pos.Valid
      simp only; omega
    rw [g.get_eq_at _ hv] at hempty
    rw [g.get_eq_at _ hbv] at hbeside
    simp only at hempty hbeside
    refine ⟨(epFromRow g.player + forward g.player, g.top.enPassant), none, ?_,
      (Pos.valid_iff_onBoard ⟨_, _⟩).1 hv, ?_, ?_, ?_⟩
    · rw [toSpec_enPassant, her]
    · intro o ho; rw [hempty] at ho; cases ho
    · rw [if_neg]
      simp only; omega
    · refine .inr (.inr (.inr ⟨by simp only; omega, by simp only; omega, hempty, her, ?_, ?_⟩))
      · rw [abs_ep_rf, epOf, if_pos h8]
      · simp only [her]; exact hbeside

/-- **L2 for pawns**: for an own pawn on the valid square `p`, `get_pawn_moves` yields (up to
`toSpec`) exactly the pseudo-legal moves of the rules that start on `p`. The representation
invariant is used for en passant only (`EpInv`: the recorded file is backed by the enemy pawn and an
empty square behind it; `WF.ep`: the file is not negative). -/
theorem pawnMoves_pseudo_iff (g : Game) {pc : Piece} {p : Pos} (hw : g.WF) (hp : p.Valid)
    (hg : g.get p = some pc) (hown : pc.owner = g.player) (hty : pc.pieceType = .pawn)
    (u : UciMove) :
    (pseudo g.abs u = true ∧ u.src = (p.row, p.col)) ↔ ∃ m ∈ g.pawnMoves pc p, m.toSpec = u := by
  have hpc := piece_eq hty hown
  subst hpc
  constructor
  · rintro ⟨h1, h2⟩; exact pawn_pseudo_to_gen g hw hp hg u h1 h2
  · rintro ⟨m, hm, rfl⟩; exact pawn_gen_to_pseudo g hw hp hg m hm

end Game

/-! ## The rules' king clause, unfolded -/

/-- the rules' two castling clauses -/
def CastleS (a : APos) (u : UciMove) : Prop :=
  u.src = (homeRow a.side, 4) ∧ u.dst = (homeRow a.side, 6) ∧ sideK a = true
    ∧ a.at (homeRow a.side, 5) = none ∧ a.at (homeRow a.side, 6) = none
    ∧ attacked a (homeRow a.side, 4) a.side.other = false
    ∧ attacked a (homeRow a.side, 5) a.side.other = false
    ∧ attacked a (homeRow a.side, 6) a.side.other = false

def CastleL (a : APos) (u : UciMove) : Prop :=
  u.src = (homeRow a.side, 4) ∧ u.dst = (homeRow a.side, 2) ∧ sideQ a = true
    ∧ a.at (homeRow a.side, 1) = none ∧ a.at (homeRow a.side, 2) = none
    ∧ a.at (homeRow a.side, 3) = none
    ∧ attacked a (homeRow a.side, 4) a.side.other = false
    ∧ attacked a (homeRow a.side, 3) a.side.other = false
    ∧ attacked a (homeRow a.side, 2) a.side.other = false

theorem Spec.pseudo_king_iff (a : APos) (s d : Sq) (pr : Option PieceType) (pc : Piece)
    (hsrc : a.at s = some pc) (hty : pc.pieceType = .king) :
    pseudo a ⟨s, d, pr⟩ = true ↔
      onBoard d = true ∧ pc.owner = a.side ∧ (∀ o, a.at d = some o → o.owner ≠ a.side) ∧
        pr = none ∧
        (max (d.1 - s.1).natAbs (d.2 - s.2).natAbs = 1 ∨ CastleS a ⟨s, d, pr⟩ ∨ CastleL a ⟨s, d, pr⟩) := by
  have hb := APos.onBoard_of_at hsrc
  unfold pseudo CastleS CastleL sideK sideQ
  -- For each side, and `d` empty or not, `simp only` turns the Boolean clauses of `pseudo` into
  -- propositions. `grind` is left to regroup them: `pseudo` says `s = (row, 4)` once for both
  -- castlings and adds `dr = 0`, which follows from `s` and `d`.
  cases hs : a.side <;> cases hd : a.at d <;>
  simp only [hsrc, hb, hty, Bool.true_and, Bool.and_eq_true, decide_eq_true_eq, Bool.or_eq_true,
    Option.isNone_iff_eq_none, Bool.not_eq_true', attacksFrom, reduceCtorEq, false_implies,
    implies_true, Option.some.injEq, forall_eq', decide_eq_false_iff_not, ne_eq, true_and] <;>
  grind

/-! ## The engine's castling tests are the rules' clauses -/

namespace Game

theorem homeRow_eq (pl : Player) : Game.homeRow pl = Spec.homeRow pl := by cases pl <;> rfl

theorem get_home (g : Game) (c : Int) (h0 : 0 ≤ c) (h8 : c < 8) :
    g.get ⟨Game.homeRow g.player, c⟩ = g.abs.at (Spec.homeRow g.abs.side, c) := by
  rw [g.get_eq_at _ (homeRow_valid _ c h0 h8), homeRow_eq]; rfl

theorem targeted_home (g : Game) (c : Int) (h0 : 0 ≤ c) (h8 : c < 8) :
    g.isTargeted ⟨Game.homeRow g.player, c⟩ g.player
      = attacked g.abs (Spec.homeRow g.abs.side, c) g.abs.side.other := by
  rw [g.isTargeted_iff_attacked (homeRow_valid _ c h0 h8), homeRow_eq]; rfl

theorem castleShort_iff (g : Game) (m : Move) :
    m ∈ castleShort g (sideK g.abs) ↔
      CastleS g.abs ⟨(Spec.homeRow g.abs.side, 4), (Spec.homeRow g.abs.side, 6), none⟩
        ∧ m = .castlingShort g.player := by
  rw [mem_castleShort, get_home g 5 (by omega) (by omega), get_home g 6 (by omega) (by omega),
    targeted_home g 4 (by omega) (by omega), targeted_home g 5 (by omega) (by omega),
    targeted_home g 6 (by omega) (by omega)]
  unfold CastleS
  simp only [true_and]

theorem castleLong_iff (g : Game) (m : Move) :
    m ∈ castleLong g (sideQ g.abs) ↔
      CastleL g.abs ⟨(Spec.homeRow g.abs.side, 4), (Spec.homeRow g.abs.side, 2), none⟩
        ∧ m = .castlingLong g.player := by
  rw [mem_castleLong, get_home g 1 (by omega) (by omega), get_home g 2 (by omega) (by omega),
    get_home g 3 (by omega) (by omega),
    targeted_home g 4 (by omega) (by omega), targeted_home g 2 (by omega) (by omega),
    targeted_home g 3 (by omega) (by omega)]
  unfold CastleL
  simp only [true_and]
  -- the rules list the king's path d1, c1 in the order travelled; `get_king_moves` tests c1 before d1
  constructor
  · rintro ⟨⟨a, b, c, d, e, f, i⟩, h⟩; exact ⟨⟨a, b, c, d, e, i, f⟩, h⟩
  · rintro ⟨⟨a, b, c, d, e, i, f⟩, h⟩; exact ⟨⟨a, b, c, d, e, f, i⟩, h⟩

/-! ## Kings: generator ⊆ rules, and the exact converse -/

/-- a castling clause of the rules is a pseudo-legal move of the king, which a castling right puts
on the e-file of the home row -/
theorem castle_pseudo {g : Game} {p : Pos} (hw : g.WF) (hke : g.kingExists g.player = true)
    (hpk : g.kingPos g.player = p) {ks : Bool} (hr : g.top.right g.player ks = true)
    {c : Int} (h0 : 0 ≤ c) (h8 : c < 8)
    (hdst : g.abs.at (Spec.homeRow g.abs.side, c) = none)
    (hc : CastleS g.abs ⟨(Spec.homeRow g.abs.side, 4), (Spec.homeRow g.abs.side, c), none⟩ ∨
      CastleL g.abs ⟨(Spec.homeRow g.abs.side, 4), (Spec.homeRow g.abs.side, c), none⟩) :
    pseudo g.abs ⟨(Spec.homeRow g.abs.side, 4), (Spec.homeRow g.abs.side, c), none⟩ = true ∧
      ((Spec.homeRow g.abs.side, 4) : Sq) = (p.row, p.col) := by
  obtain ⟨_, hkp, hk4⟩ := rightsInv_right hw.rights hr
  have hk4 : g.get ⟨Game.homeRow g.player, 4⟩ = some ⟨.king, g.player⟩ := hk4 hke
  rw [hpk] at hkp
  rw [get_home g 4 (by omega) (by omega)] at hk4
  refine ⟨(pseudo_king_iff g.abs _ _ _ _ hk4 rfl).2 ⟨?_, rfl, fun o ho => ?_, rfl, .inr hc⟩, ?_⟩
  · have := (Pos.valid_iff_onBoard ⟨_, _⟩).1 (homeRow_valid g.player c h0 h8)
    rwa [homeRow_eq] at this
  · rw [hdst] at ho; cases ho
  · rw [hkp, kingHome, homeRow_eq]; rfl

theorem king_gen_to_pseudo (g : Game) {p : Pos} (hw : g.WF) (hke : g.kingExists g.player = true)
    (hp : p.Valid) (hg : g.get p = some ⟨.king, g.player⟩) (m : Move)
    (hm : m ∈ g.kingMoves ⟨.king, g.player⟩ p) :
    pseudo g.abs m.toSpec = true ∧ m.toSpec.src = (p.row, p.col) := by
  have hat : g.abs.at (p.row, p.col) = some ⟨.king, g.player⟩ := (g.get_eq_at p hp).symm.trans hg
  have hpk : g.kingPos g.player = p := hw.kings.unique p g.player hp hg
  rw [kingMoves_spec] at hm
  rcases hm with ⟨d, hd, hm⟩ | hm | hm
  · obtain ⟨q, hq, hno, _, rfl⟩ := (mem_kingStep ..).1 hm
    obtain ⟨rfl, hb⟩ := (Pos.add_eq_some_iff _ _ _).1 hq
    rw [mem_kingDeltas] at hd
    refine ⟨(pseudo_king_iff g.abs _ _ _ _ hat rfl).2
      ⟨hb, rfl, fun o ho => hno o ((g.get_mk hb).trans ho), rfl, .inl ?_⟩, rfl⟩
    rw [show p.row + d.1 - p.row = d.1 by omega, show p.col + d.2 - p.col = d.2 by omega]
    exact hd
  · obtain ⟨hc, rfl⟩ := (castleShort_iff g m).1 hm
    rw [show (Move.castlingShort g.player).toSpec
        = ⟨(Spec.homeRow g.abs.side, 4), (Spec.homeRow g.abs.side, 6), none⟩ from by
      simp only [Move.toSpec, homeRow_eq]; rfl]
    exact castle_pseudo hw hke hpk (sideK_eq g ▸ hc.2.2.1) (by omega) (by omega) hc.2.2.2.2.1 (.inl hc)
  · obtain ⟨hc, rfl⟩ := (castleLong_iff g m).1 hm
    rw [show (Move.castlingLong g.player).toSpec
        = ⟨(Spec.homeRow g.abs.side, 4), (Spec.homeRow g.abs.side, 2), none⟩ from by
      simp only [Move.toSpec, homeRow_eq]; rfl]
    exact castle_pseudo hw hke hpk (sideQ_eq g ▸ hc.2.2.1) (by omega) (by omega) hc.2.2.2.2.1 (.inr hc)

/-- a king step by the rules whose arrival square is within one step of the enemy king's cached
square: the one kind of pseudo-legal move the engine does not generate -/
def NearKingStep (g : Game) (u : UciMove) : Prop :=
  max (u.dst.1 - u.src.1).natAbs (u.dst.2 - u.src.2).natAbs = 1 ∧ g.NearEnemyKing ⟨u.dst.1, u.dst.2⟩

theorem king_pseudo_to_gen (g : Game) {p : Pos} (hp : p.Valid)
    (hg : g.get p = some ⟨.king, g.player⟩) (u : UciMove)
    (hps : pseudo g.abs u = true) (hsrc : u.src = (p.row, p.col)) :
    (∃ m ∈ g.kingMoves ⟨.king, g.player⟩ p, m.toSpec = u) ∨ NearKingStep g u := by
  have hat : g.abs.at (p.row, p.col) = some ⟨.king, g.player⟩ := (g.get_eq_at p hp).symm.trans hg
  obtain ⟨us, ud, upr⟩ := u
  obtain rfl : us = (p.row, p.col) := hsrc
  obtain ⟨hb, _, hno, rfl, hgeo⟩ := (pseudo_king_iff g.abs _ _ _ _ hat rfl).1 hps
  simp only at hgeo
  rcases hgeo with hstep | hc | hc
  · by_cases hnear : g.NearEnemyKing ⟨ud.1, ud.2⟩
    · exact .inr ⟨hstep, hnear⟩
    · left
      refine ⟨.normal ⟨.king, g.player⟩ p ⟨ud.1, ud.2⟩ (g.get ⟨ud.1, ud.2⟩), ?_, rfl⟩
      rw [kingMoves_spec]
      refine .inl ⟨(ud.1 - p.row, ud.2 - p.col), (mem_kingDeltas _).2 hstep, ?_⟩
      rw [mem_kingStep]
      refine ⟨_, ?_, ?_, hnear, rfl⟩
      · exact p.add_sub ⟨ud.1, ud.2⟩ (Pos.valid_mk hb)
      · exact fun o ho => hno o ((g.get_mk hb).symm.trans ho)
  · left
    obtain ⟨h1, h2⟩ := hc.1, hc.2.1
    simp only at h1 h2
    refine ⟨.castlingShort g.player, ?_, ?_⟩
    · rw [kingMoves_spec]
      refine .inr (.inl ((castleShort_iff g _).2 ⟨?_, rfl⟩))
      rw [← h1, ← h2]; exact hc
    · simp only [Move.toSpec, homeRow_eq, h1, h2]; rfl
  · left
    obtain ⟨h1, h2⟩ := hc.1, hc.2.1
    simp only at h1 h2
    refine ⟨.castlingLong g.player, ?_, ?_⟩
    · rw [kingMoves_spec]
      refine .inr (.inr ((castleLong_iff g _).2 ⟨?_, rfl⟩))
      rw [← h1, ← h2]; exact hc
    · simp only [Move.toSpec, homeRow_eq, h1, h2]; rfl

/-! ## Assembly: the unchecked list against the rules' pseudo-legal moves -/

/-- every move `Piece::get_moves` yields for an own piece on `p` is pseudo-legal by the rules and
starts on `p` -/
theorem pieceMoves_sound (g : Game) {pc : Piece} {p : Pos} (hw : g.WF)
    (hke : g.kingExists g.player = true) (hp : p.Valid) (hg : g.get p = some pc)
    (ho : pc.owner = g.player) {m : Move} (hm : m ∈ g.pieceMoves pc p) :
    pseudo g.abs m.toSpec = true ∧ m.toSpec.src = (p.row, p.col) := by
  rcases pieceMoves_cases g pc p with ⟨hk, e⟩ | ⟨hk, e⟩ | ⟨hnp, hnk⟩
  · obtain rfl := piece_eq hk ho
    exact pawn_gen_to_pseudo g hw hp hg m (e ▸ hm)
  · obtain rfl := piece_eq hk ho
    exact king_gen_to_pseudo g hw hke hp hg m (e ▸ hm)
  · exact (g.pieceMoves_pseudo_iff hp hg ho hnp hnk m.toSpec).2 ⟨m, hm, rfl⟩

/-- **C01, unchecked list ⊆ rules**: every move of the unchecked list is a pseudo-legal move of
the rules (right geometry, no capture of an own piece, promotion exactly on the last row, castling
with right, empty squares and unattacked king path) -/
theorem unchecked_subset_pseudo {g : Game} (hw : g.WF) {m : Move} (hm : m ∈ g.pseudoMoves) :
    pseudo g.abs m.toSpec = true := by
  obtain ⟨hke, p, pc, hp, hg, ho, hm⟩ := mem_pseudoMoves.1 hm
  exact (pieceMoves_sound g hw hke hp hg ho hm).1

theorem pseudo_src {a : APos} {u : UciMove} (h : pseudo a u = true) :
    ∃ pc, a.at u.src = some pc ∧ pc.owner = a.side := by
  unfold pseudo at h
  cases hs : a.at u.src with
  | none => rw [hs] at h; simp at h
  | some pc =>
    rw [hs] at h
    simp only [Bool.and_eq_true, decide_eq_true_eq] at h
    exact ⟨pc, rfl, h.2.1⟩

/-- **C01, rules ⊆ unchecked list, up to the documented filter**: every pseudo-legal move of the
rules is generated, except king steps onto a square within one step of the enemy king's cached
square -/
theorem pseudo_subset_unchecked {g : Game} (hw : g.WF) (hke : g.kingExists g.player = true)
    {u : UciMove} (hps : pseudo g.abs u = true) :
    (∃ m ∈ g.pseudoMoves, m.toSpec = u)
      ∨ (g.get ⟨u.src.1, u.src.2⟩ = some ⟨.king, g.player⟩ ∧ NearKingStep g u) := by
  obtain ⟨pc, hat, ho⟩ := pseudo_src hps
  have hb := APos.onBoard_of_at hat
  have hp : (Pos.mk u.src.1 u.src.2).Valid := Pos.valid_mk hb
  have hg : g.get ⟨u.src.1, u.src.2⟩ = some pc := (g.get_mk hb).trans hat
  have lift : (∃ m ∈ g.pieceMoves pc ⟨u.src.1, u.src.2⟩, m.toSpec = u) →
      ∃ m ∈ g.pseudoMoves, m.toSpec = u := by
    rintro ⟨m, hm, hts⟩
    exact ⟨m, mem_pseudoMoves.2 ⟨hke, _, pc, hp, hg, ho, hm⟩, hts⟩
  rcases pieceMoves_cases g pc ⟨u.src.1, u.src.2⟩ with ⟨hk, e⟩ | ⟨hk, e⟩ | ⟨hnp, hnk⟩
  · exact .inl (lift (e ▸ (pawnMoves_pseudo_iff g hw hp hg ho hk u).1 ⟨hps, rfl⟩))
  · obtain rfl := piece_eq hk ho
    exact (king_pseudo_to_gen g hp hg u hps rfl).imp (fun h => lift (e ▸ h)) fun h => ⟨hg, h⟩
  · exact .inl (lift ((g.pieceMoves_pseudo_iff hp hg ho hnp hnk u).1 ⟨hps, rfl⟩))

end Game

/-! ## The one documented difference is harmless: a king step next to the enemy king is illegal -/

theorem Spec.getD_set (b : Vector (Option Piece) 64) (i j : Nat) (v : Option Piece) :
    (b.setIfInBounds i v).toArray.getD j none
      = if i = j ∧ i < 64 then v else b.toArray.getD j none := by
  simp only [Vector.toArray_setIfInBounds, Array.getD_eq_getD_getElem?, Array.getElem?_setIfInBounds]
  by_cases h : i = j
  · subst h
    by_cases h2 : i < 64 <;> simp [h2]
  · simp [h]

theorem Spec.atB_rf_setSq (b : Vector (Option Piece) 64) (s t : Sq) (v : Option Piece) :
    atB_rf (setSq b s v) t = if s = t ∧ onBoard s = true then v else atB_rf b t := by
  unfold atB_rf setSq
  by_cases hs : onBoard s = true
  · by_cases ht : onBoard t = true
    · simp only [hs, ht, if_true, getD_set, and_true]
      have h1 := (Spec.onBoard_iff s).1 hs
      have h2 := (Spec.onBoard_iff t).1 ht
      have : ((s.1 * 8 + s.2).toNat = (t.1 * 8 + t.2).toNat ∧ (s.1 * 8 + s.2).toNat < 64) ↔ s = t := by
        obtain ⟨s1, s2⟩ := s
        obtain ⟨t1, t2⟩ := t
        simp only [Prod.mk.injEq] at *
        omega
      simp only [this]
    · have hne : s ≠ t := fun e => ht (e ▸ hs)
      simp [hs, ht, hne]
  · simp [hs]

/-- the board after a move of a king that is not a castling -/
theorem Spec.play_kingStep_at (a : APos) (u : UciMove) (pc : Piece) (hsrc : a.at u.src = some pc)
    (hk : pc.pieceType = .king) (hdc : (u.dst.2 - u.src.2).natAbs ≠ 2) (hpr : u.promo = none)
    (t : Sq) :
    (play a u).at t = if u.dst = t ∧ onBoard u.dst = true then some pc
      else if u.src = t ∧ onBoard u.src = true then none else a.at t := by
  have hb : (play a u).board = setSq (setSq a.board u.src none) u.dst (some pc) := by
    unfold play
    rw [hsrc]
    simp [hk, hdc, hpr]
  rw [APos.at_eq_atB, hb, atB_rf_setSq, atB_rf_setSq]
  rfl

namespace Game

/-- if the enemy king really stands on its cached square, a king step
onto a square within one step of it (other than that square itself) arrives on a square the enemy
king attacks in the position after the move -/
theorem adjacent_is_attacked (g : Game) {p : Pos} (hp : p.Valid)
    (hg : g.get p = some ⟨.king, g.player⟩) (u : UciMove) (hsrc : u.src = (p.row, p.col))
    (hpr : u.promo = none) (hnear : NearKingStep g u)
    (hekv : (g.kingPos g.player.other).Valid)
    (hek : g.get (g.kingPos g.player.other) = some ⟨.king, g.player.other⟩)
    (hne : u.dst ≠ ((g.kingPos g.player.other).row, (g.kingPos g.player.other).col)) :
    attacked (play g.abs u) u.dst g.player.other = true := by
  have hat : g.abs.at u.src = some ⟨.king, g.player⟩ := by
    rw [hsrc, ← g.get_eq_at p hp]; exact hg
  have hat2 := hek
  rw [g.get_eq_at _ hekv] at hat2
  obtain ⟨hstep, hn1, hn2⟩ := hnear
  simp only at hn1 hn2
  rw [Spec.attacked_iff]
  refine ⟨((g.kingPos g.player.other).row, (g.kingPos g.player.other).col),
    ⟨.king, g.player.other⟩, ?_, rfl, ?_⟩
  · rw [play_kingStep_at g.abs u _ hat rfl (by omega) hpr, if_neg (fun h => hne h.1), if_neg, hat2]
    rintro ⟨h, _⟩
    rw [h, hat2] at hat
    have := congrArg Piece.owner (Option.some.inj hat)
    exact Player.other_ne _ this
  · obtain ⟨us, ⟨d1, d2⟩, upr⟩ := u
    simp only [ne_eq, Prod.mk.injEq] at hne hn1 hn2 ⊢
    simp only [attacksFrom, decide_eq_true_eq]
    omega

/-- **the documented difference is harmless**: a pseudo-legal king step onto a square within one
step of the enemy king (standing on its cached square) is not legal — unless it captures that king,
which only happens when the side *not* to move is in check, i.e. in a position that is not sane -/
theorem near_king_step_illegal (g : Game) (hw : g.WF) {u : UciMove}
    (hg : g.get ⟨u.src.1, u.src.2⟩ = some ⟨.king, g.player⟩) (hps : pseudo g.abs u = true)
    (hnear : NearKingStep g u)
    (hek : g.get (g.kingPos g.player.other) = some ⟨.king, g.player.other⟩) :
    legal g.abs u = false ∨ inCheck g.abs g.player.other = true := by
  have hat : g.abs.at u.src = some ⟨.king, g.player⟩ := by
    obtain ⟨pc, h, _⟩ := pseudo_src hps
    exact (g.get_mk (APos.onBoard_of_at h)).symm.trans hg
  have hp : (Pos.mk u.src.1 u.src.2).Valid := Pos.valid_mk (APos.onBoard_of_at hat)
  have hekv := hw.kings.kvalid g.player.other
  obtain ⟨hb, _, _, hpr, _⟩ := (pseudo_king_iff g.abs _ _ _ _ hat rfl).1 hps
  by_cases hcap : u.dst = ((g.kingPos g.player.other).row, (g.kingPos g.player.other).col)
  · -- the step captures the enemy king: the side not to move was in check
    right
    unfold inCheck
    rw [g.kingSq_eq_kingPos _ hw.kings hek, Spec.attacked_iff]
    refine ⟨u.src, _, hat, by simp, ?_⟩
    rw [← hcap]
    simp only [attacksFrom, decide_eq_true_eq]
    exact hnear.1
  · left
    have hatt := adjacent_is_attacked g hp hg u rfl hpr hnear hekv hek hcap
    have hdc : (u.dst.2 - u.src.2).natAbs ≠ 2 := by have := hnear.1; omega
    have hks : kingSq (play g.abs u) g.player = some u.dst := by
      apply kingSq_eq_of_unique
      · rw [play_kingStep_at g.abs u _ hat rfl hdc hpr, if_pos ⟨rfl, hb⟩]
      · intro t ht
        rw [play_kingStep_at g.abs u _ hat rfl hdc hpr] at ht
        by_cases h1 : u.dst = t ∧ onBoard u.dst = true
        · exact h1.1.symm
        · rw [if_neg h1] at ht
          by_cases h2 : u.src = t ∧ onBoard u.src = true
          · rw [if_pos h2] at ht; cases ht
          · rw [if_neg h2] at ht
            exact absurd ⟨(g.king_at hw.kings hat).trans (g.king_at hw.kings ht).symm,
              APos.onBoard_of_at hat⟩ h2
    unfold legal inCheck
    show (pseudo g.abs u && !(match kingSq (play g.abs u) g.player with
      | some k => attacked (play g.abs u) k g.player.other
      | none => false)) = false
    rw [hks]
    simp only [hatt, Bool.not_true, Bool.and_false]

end Game

/-! ## `toSpec` is injective on the generated list -/

/-- what the generators guarantee about the *kind* of a move beyond `Fits`: a `Normal` king move is
a step (so it is never a castling in disguise) and a `Normal` pawn move that changes column captures
something (so it is never an en-passant capture in disguise) -/
def Shape : Move → Prop
  | .normal pc s e cap =>
    (pc.pieceType = .king → (e.col - s.col).natAbs ≤ 1) ∧
    (pc.pieceType = .pawn → e.col ≠ s.col → cap ≠ none)
  | _ => True

namespace Game

theorem generated_shape {g : Game} {m : Move} (hm : m ∈ g.pseudoMoves) : Chess.Shape m := by
  have h := generated_shape' hm
  cases m with
  | normal pc s e cap => exact ⟨fun hk => (h.2.2 hk).1, fun hp => (h.2.1 hp).1⟩
  | _ => trivial

/-- the move of the engine with text `u`, read off the board: the piece on the source square and the
text decide the kind (a king that moves two files castles; a pawn that changes file onto an empty
square captures en passant) -/
def decode (g : Game) (u : UciMove) : Move :=
  let s : Pos := ⟨u.src.1, u.src.2⟩
  let e : Pos := ⟨u.dst.1, u.dst.2⟩
  match g.get s, u.promo with
  | none, _ => default
  | some pc, some t => .promotion pc.owner t s e (g.get e)
  | some pc, none =>
    if pc.pieceType = .king ∧ (u.dst.2 - u.src.2).natAbs = 2 then
      if u.dst.2 = 6 then .castlingShort pc.owner else .castlingLong pc.owner
    else if pc.pieceType = .pawn ∧ u.dst.2 ≠ u.src.2 ∧ g.get e = none then
      .enPassant pc.owner u.src.2 u.dst.2
    else .normal pc s e (g.get e)

/-- a move that fits the game and has a generated shape is recovered from its text -/
theorem decode_toSpec {g : Game} {m : Move} (f : g.Fits m) (sh : Chess.Shape m) :
    decode g m.toSpec = m := by
  cases m with
  | normal pc s e cap =>
    obtain ⟨sr, sc⟩ := s
    obtain ⟨er, ec⟩ := e
    obtain ⟨_, _, _, hs, he, _⟩ := f
    have hk : ¬(pc.pieceType = .king ∧ (ec - sc).natAbs = 2) := fun h => by
      have := sh.1 h.1
      simp only at this; omega
    have hp : ¬(pc.pieceType = .pawn ∧ ec ≠ sc ∧ cap = none) := fun h => sh.2 h.1 h.2.1 h.2.2
    simp only [decode, Move.toSpec, hs, he, hk, hp, if_false]
  | promotion o t s e cap =>
    obtain ⟨_, _, _, hs, he⟩ := f
    simp only [decode, Move.toSpec, hs, he]
  | castlingShort o => simp [decode, Move.toSpec, f.2.2.1]
  | castlingLong o => simp [decode, Move.toSpec, f.2.2.1]
  | enPassant o sc ec =>
    obtain ⟨_, _, _, _, hne, hs, he, _⟩ := f
    cases o <;> simp only [epSquares] at hs he <;>
      simp [decode, Move.toSpec, hs, he, Ne.symm hne]

theorem toSpec_inj_of_fits (g : Game) (m₁ m₂ : Move) (f₁ : g.Fits m₁) (f₂ : g.Fits m₂)
    (s₁ : Chess.Shape m₁) (s₂ : Chess.Shape m₂) (h : m₁.toSpec = m₂.toSpec) : m₁ = m₂ :=
  (decode_toSpec f₁ s₁).symm.trans ((congrArg (decode g) h).trans (decode_toSpec f₂ s₂))

/-- **`toSpec` is injective on the generated list** -/
theorem toSpec_injective_on_generated {g : Game} (hw : g.WF) {m₁ m₂ : Move}
    (h₁ : m₁ ∈ g.pseudoMoves) (h₂ : m₂ ∈ g.pseudoMoves) (h : m₁.toSpec = m₂.toSpec) : m₁ = m₂ :=
  toSpec_inj_of_fits g m₁ m₂ (generated_fits hw h₁).1 (generated_fits hw h₂).1
    (generated_shape h₁) (generated_shape h₂) h

end Game

/-! ## The rules' enumerated list `Spec.pseudoList` -/

theorem Spec.mem_candidates (u : UciMove) :
    u ∈ candidates ↔ onBoard u.src = true ∧ onBoard u.dst = true ∧
      (u.promo = none ∨ ∃ t, u.promo = some t ∧ isPromoPiece t = true) := by
  obtain ⟨s, d, pr⟩ := u
  unfold candidates
  simp only [List.mem_flatMap, Spec.mem_allSqs, List.mem_cons, UciMove.mk.injEq, List.not_mem_nil,
    or_false]
  constructor
  · rintro ⟨s', hs, d', hd, h⟩
    rcases h with ⟨rfl, rfl, rfl⟩ | ⟨rfl, rfl, rfl⟩ | ⟨rfl, rfl, rfl⟩ | ⟨rfl, rfl, rfl⟩ | ⟨rfl, rfl, rfl⟩
    · exact ⟨hs, hd, .inl rfl⟩
    all_goals exact ⟨hs, hd, .inr ⟨_, rfl, rfl⟩⟩
  · rintro ⟨hs, hd, h⟩
    refine ⟨s, hs, d, hd, ?_⟩
    rcases h with rfl | ⟨t, rfl, ht⟩
    · exact .inl ⟨rfl, rfl, rfl⟩
    · cases t <;> simp [isPromoPiece] at ht ⊢

theorem Spec.pseudo_promo {a : APos} {u : UciMove} (h : pseudo a u = true) :
    u.promo = none ∨ ∃ t, u.promo = some t ∧ isPromoPiece t = true := by
  obtain ⟨pc, hat, _⟩ := Game.pseudo_src h
  by_cases hp : pc.pieceType = .pawn
  · have := ((pseudo_pawn_iff a _ _ _ pc hat hp).1 h).2.2.2.1
    unfold PromoOk_x at this
    split at this
    · exact .inr this
    · exact .inl this
  · by_cases hk : pc.pieceType = .king
    · exact .inl ((pseudo_king_iff a _ _ _ pc hat hk).1 h).2.2.2.1
    · exact .inl ((pseudo_simple_iff a _ _ _ pc hat hp hk).1 h).2.2.2.1

theorem Spec.pseudo_onBoard {a : APos} {u : UciMove} (h : pseudo a u = true) :
    onBoard u.src = true ∧ onBoard u.dst = true := by
  unfold pseudo at h
  simp only [Bool.and_eq_true] at h
  exact h.1

theorem Spec.mem_pseudoList (a : APos) (u : UciMove) : u ∈ pseudoList a ↔ pseudo a u = true := by
  unfold pseudoList
  rw [List.mem_filter, Spec.mem_candidates]
  constructor
  · exact fun h => h.2
  · exact fun h => ⟨⟨(pseudo_onBoard h).1, (pseudo_onBoard h).2, pseudo_promo h⟩, h⟩

namespace Game

/-- **C01 for the unchecked list, in one statement**: a text-level move is in the rules' list of
pseudo-legal moves iff it is (the text of) a generated move, or it is a pseudo-legal king step onto
a square within one step of the enemy king's cached square -/
theorem mem_pseudoList_iff {g : Game} (hw : g.WF) (hke : g.kingExists g.player = true)
    (u : UciMove) :
    u ∈ pseudoList g.abs ↔
      (∃ m ∈ g.pseudoMoves, m.toSpec = u)
      ∨ (pseudo g.abs u = true ∧ g.get ⟨u.src.1, u.src.2⟩ = some ⟨.king, g.player⟩
          ∧ NearKingStep g u) := by
  rw [Spec.mem_pseudoList]
  constructor
  · intro h
    rcases pseudo_subset_unchecked hw hke h with h' | h'
    · exact .inl h'
    · exact .inr ⟨h, h'⟩
  · rintro (⟨m, hm, rfl⟩ | ⟨h, _⟩)
    · exact unchecked_subset_pseudo hw hm
    · exact h

end Game

namespace Game

/-- **L2 for kings, generator ⊆ rules**: every generated king move, castling included, is
pseudo-legal by the rules -/
theorem kingMoves_pseudo_partial (g : Game) {pc : Piece} {p : Pos} (hw : g.WF)
    (hke : g.kingExists g.player = true) (hp : p.Valid) (hg : g.get p = some pc)
    (hown : pc.owner = g.player) (hty : pc.pieceType = .king) {m : Move}
    (hm : m ∈ g.kingMoves pc p) : pseudo g.abs m.toSpec = true := by
  have hpc := piece_eq hty hown
  subst hpc
  exact (king_gen_to_pseudo g hw hke hp hg m hm).1

/-- **L2 for kings, the exact converse**: a pseudo-legal move of the king on `p` is generated,
unless it is a step onto a square within one step of the enemy king's cached square -/
theorem kingMoves_pseudo_converse (g : Game) {pc : Piece} {p : Pos} (hp : p.Valid)
    (hg : g.get p = some pc) (hown : pc.owner = g.player) (hty : pc.pieceType = .king)
    (u : UciMove) (h : pseudo g.abs u = true ∧ u.src = (p.row, p.col)) :
    (∃ m ∈ g.kingMoves pc p, m.toSpec = u) ∨ NearKingStep g u := by
  have hpc := piece_eq hty hown
  subst hpc
  exact king_pseudo_to_gen g hp hg u h.1 h.2

end Game

/-! # The generated list has no duplicates (the "none repeated" part of C01) -/

theorem nodup_single {α : Type} (a : α) : [a].Nodup := List.pairwise_singleton _ a

theorem nodup_ite_single {α : Type} (c : Prop) [Decidable c] (a : α) :
    (if c then [a] else []).Nodup := by
  split
  · exact nodup_single a
  · exact List.nodup_nil

theorem nodup_map_inj {α β : Type} {l : List α} (f : α → β) (hf : ∀ a b, f a = f b → a = b)
    (hl : l.Nodup) : (l.map f).Nodup :=
  List.Pairwise.map f (fun a b hab e => hab (hf a b e)) hl

/-- a `flatMap` has no duplicates if the index list has none, each block has none, and a key
computed from an element determines its block -/
theorem nodup_flatMap_key {α β κ : Type} (l : List α) (f : α → List β) (key : β → κ) (k : α → κ)
    (hl : l.Nodup) (hf : ∀ x ∈ l, (f x).Nodup) (hk : ∀ x ∈ l, ∀ y ∈ f x, key y = k x)
    (hinj : ∀ x ∈ l, ∀ x' ∈ l, k x = k x' → x = x') : (l.flatMap f).Nodup := by
  unfold List.Nodup
  rw [List.pairwise_flatMap]
  refine ⟨hf, ?_⟩
  refine List.Pairwise.imp_of_mem ?_ hl
  intro a b ha hb hab x hx y hy e
  apply hab
  apply hinj a ha b hb
  rw [← hk a ha x hx, ← hk b hb y hy, e]

theorem nodup_append' {α : Type} {l₁ l₂ : List α} (h1 : l₁.Nodup) (h2 : l₂.Nodup)
    (h : ∀ a ∈ l₁, ∀ b ∈ l₂, a ≠ b) : (l₁ ++ l₂).Nodup :=
  List.nodup_append.2 ⟨h1, h2, h⟩

theorem ite_nil_cases {α : Type} (b : Bool) (l : List α) :
    (if b = true then [] else l) = [] ∨ (if b = true then [] else l) = l := by
  cases b
  · exact .inr rfl
  · exact .inl rfl

namespace Game

/-! ## Knights and the king's steps -/

theorem delta_inj (p : Pos) (d d' : Int × Int)
    (h : ((p.row + d.1, p.col + d.2) : Sq) = (p.row + d'.1, p.col + d'.2)) : d = d' := by
  obtain ⟨a, b⟩ := d
  obtain ⟨a', b'⟩ := d'
  simp only [Prod.mk.injEq] at h ⊢
  omega

theorem stepMove_cases (g : Game) (pc : Piece) (p : Pos) (bad : Pos → Bool) (d : Int × Int) :
    g.stepMove pc p bad d = [] ∨ g.stepMove pc p bad d =
      [.normal pc p ⟨p.row + d.1, p.col + d.2⟩ (g.get ⟨p.row + d.1, p.col + d.2⟩)] := by
  unfold stepMove
  cases hq : p.add d with
  | none => exact .inl rfl
  | some q =>
    obtain ⟨rfl, _⟩ := (Pos.add_eq_some_iff _ _ _).1 hq
    simp only
    rcases ite_nil_cases _ _ with h | h <;> rw [h]
    · exact .inl rfl
    · exact ite_nil_cases _ _

/-- the arrival square tells the delta -/
theorem stepMoves_nodup (g : Game) (pc : Piece) (p : Pos) (bad : Pos → Bool)
    {L : List (Int × Int)} (hL : L.Nodup) : (L.flatMap (g.stepMove pc p bad)).Nodup := by
  refine nodup_flatMap_key _ _ (fun m => m.toSpec.dst) (fun d => (p.row + d.1, p.col + d.2))
    hL ?_ ?_ (fun d _ d' _ h => delta_inj p d d' h)
  · intro d _
    rcases stepMove_cases g pc p bad d with h | h <;> rw [h]
    · exact List.nodup_nil
    · exact nodup_single _
  · intro d _ m hm
    rcases stepMove_cases g pc p bad d with h | h <;> rw [h] at hm
    · cases hm
    · simp only [List.mem_singleton] at hm; subst hm; rfl

theorem knightMoves_nodup (g : Game) (pc : Piece) (p : Pos) : (g.knightMoves pc p).Nodup :=
  g.knightMoves_eq pc p ▸ stepMoves_nodup g pc p _ (by decide)

theorem kingSteps_nodup (g : Game) (pc : Piece) (p : Pos) :
    (Gen.kingDeltas.flatMap (kingStep g pc p)).Nodup :=
  stepMoves_nodup g pc p _ (by decide)

theorem kingMoves_nodup (g : Game) (pc : Piece) (p : Pos) : (g.kingMoves pc p).Nodup := by
  rw [kingMoves_eq]
  refine nodup_append' (nodup_append' (kingSteps_nodup g pc p) ?_ ?_) ?_ ?_
  · unfold castleShort; exact nodup_ite_single _ _
  · intro a ha b hb
    simp only [List.mem_flatMap] at ha
    obtain ⟨d, _, ha⟩ := ha
    obtain ⟨q, _, _, _, rfl⟩ := (mem_kingStep ..).1 ha
    obtain ⟨_, rfl⟩ := (mem_castleShort ..).1 hb
    exact fun e => by cases e
  · unfold castleLong; exact nodup_ite_single _ _
  · intro a ha b hb
    obtain ⟨_, rfl⟩ := (mem_castleLong ..).1 hb
    rcases List.mem_append.1 ha with ha | ha
    · simp only [List.mem_flatMap] at ha
      obtain ⟨d, _, ha⟩ := ha
      obtain ⟨q, _, _, _, rfl⟩ := (mem_kingStep ..).1 ha
      exact fun e => by cases e
    · obtain ⟨_, rfl⟩ := (mem_castleShort ..).1 ha
      exact fun e => by cases e

/-! ## Pawns -/

theorem arrive_dst {g : Game} {pc : Piece} {p q : Pos} {cap : Option Piece} {lr : Int} {m : Move}
    (h : PawnArrive g pc p q cap lr m) : m.toSpec.dst = (q.row, q.col) := by
  obtain ⟨upr, hts, _⟩ := (arrive_iff ..).1 ⟨m, h, rfl⟩
  rw [hts]

theorem arrive_not_ep {g : Game} {pc : Piece} {p q : Pos} {cap : Option Piece} {lr : Int} {m : Move}
    (h : PawnArrive g pc p q cap lr m) (o : Player) (a b : Int) : m ≠ .enPassant o a b := by
  unfold PawnArrive at h
  split at h
  · obtain ⟨t, _, rfl⟩ := h; exact fun e => by cases e
  · subst h; exact fun e => by cases e

theorem promo_map_nodup (pl : Player) (p q : Pos) (cap : Option Piece) :
    (promoPieces.map (fun t => Move.promotion pl t p q cap)).Nodup :=
  nodup_map_inj _ (fun a b e => by cases e; rfl) (by decide)

theorem arrive_list_nodup (g : Game) (pc : Piece) (p q : Pos) (cap : Option Piece) (lr : Int) :
    (if lr = q.row then promoPieces.map (fun t => Move.promotion g.player t p q cap)
      else [Move.normal pc p q cap]).Nodup := by
  split
  · exact promo_map_nodup ..
  · exact nodup_single _

theorem pawnFwd_nodup (g : Game) (pc : Piece) (p : Pos) (lr : Int) (nd : Int × Int) :
    (pawnFwd g pc p lr nd).Nodup := by
  unfold pawnFwd
  cases p.add nd with
  | none => exact List.nodup_nil
  | some q =>
    simp only
    split
    · exact arrive_list_nodup ..
    · exact List.nodup_nil

theorem pawnCap_nodup (g : Game) (pc : Piece) (p : Pos) (lr : Int) (d : Int × Int) :
    (pawnCap g pc p lr d).Nodup := by
  unfold pawnCap
  cases p.add d with
  | none => exact List.nodup_nil
  | some q =>
    simp only
    cases g.get q with
    | none => exact List.nodup_nil
    | some o =>
      simp only
      split
      · exact arrive_list_nodup ..
      · exact List.nodup_nil

theorem pawnCap_dst {g : Game} {pc : Piece} {p : Pos} {lr : Int} {d : Int × Int} {m : Move}
    (h : m ∈ pawnCap g pc p lr d) : m.toSpec.dst = (p.row + d.1, p.col + d.2) := by
  obtain ⟨q, o, hq, _, _, harr⟩ := (mem_pawnCap ..).1 h
  obtain ⟨rfl, _⟩ := (Pos.add_eq_some_iff _ _ _).1 hq
  exact arrive_dst harr

theorem pawnFwd_dst {g : Game} {pc : Piece} {p : Pos} {lr : Int} {nd : Int × Int} {m : Move}
    (h : m ∈ pawnFwd g pc p lr nd) : m.toSpec.dst = (p.row + nd.1, p.col + nd.2) := by
  obtain ⟨q, hq, _, harr⟩ := (mem_pawnFwd ..).1 h
  obtain ⟨rfl, _⟩ := (Pos.add_eq_some_iff _ _ _).1 hq
  exact arrive_dst harr

theorem pawnDbl_dst {g : Game} {pc : Piece} {p : Pos} {fr : Int} {nd fd : Int × Int} {m : Move}
    (h : m ∈ pawnDbl g pc p fr nd fd) : m.toSpec.dst = (p.row + fd.1, p.col + fd.2) := by
  obtain ⟨_, _, _, rfl⟩ := (mem_pawnDbl ..).1 h
  rfl

theorem pawnMoves_nodup (g : Game) (pc : Piece) (p : Pos) : (g.pawnMoves pc p).Nodup := by
  rw [pawnMoves_eq]
  have hfw : forward pc.owner = 1 ∨ forward pc.owner = -1 := (side_consts pc.owner).imp (·.1) (·.1)
  refine nodup_append' (nodup_append' (nodup_append' ?_ (pawnFwd_nodup ..) ?_) ?_ ?_) ?_ ?_
  · unfold pawnDbl; exact nodup_ite_single _ _
  · -- double step vs single step: the arrival rows differ
    intro a ha b hb e
    have h1 := pawnDbl_dst ha
    have h2 := pawnFwd_dst hb
    rw [e, h2] at h1
    simp only [Prod.mk.injEq] at h1
    omega
  · -- the two capture directions
    refine nodup_flatMap_key _ _ (fun m => m.toSpec.dst) (fun d => (p.row + d.1, p.col + d.2))
      ?_ (fun d _ => pawnCap_nodup ..) (fun d _ m hm => pawnCap_dst hm)
      (fun d _ d' _ h => delta_inj p d d' h)
    refine List.nodup_cons.2 ⟨?_, nodup_single _⟩
    simp only [List.mem_singleton, Prod.mk.injEq]
    omega
  · -- straight moves vs captures: the arrival columns differ
    intro a ha b hb e
    simp only [List.mem_flatMap] at hb
    obtain ⟨d, hd, hb⟩ := hb
    have h2 := pawnCap_dst hb
    have hd2 : d.2 = 1 ∨ d.2 = -1 := by
      simp only [List.mem_cons, List.not_mem_nil, or_false] at hd
      rcases hd with rfl | rfl <;> simp
    rcases List.mem_append.1 ha with ha | ha
    · have h1 := pawnDbl_dst ha
      rw [e, h2] at h1
      simp only [Prod.mk.injEq] at h1
      omega
    · have h1 := pawnFwd_dst ha
      rw [e, h2] at h1
      simp only [Prod.mk.injEq] at h1
      omega
  · unfold pawnEp; exact nodup_ite_single _ _
  · -- en passant is its own kind of move
    intro a ha b hb
    obtain ⟨_, _, _, rfl⟩ := (mem_pawnEp ..).1 hb
    rcases List.mem_append.1 ha with ha | ha
    · rcases List.mem_append.1 ha with ha | ha
      · obtain ⟨_, _, _, rfl⟩ := (mem_pawnDbl ..).1 ha
        exact fun e => by cases e
      · obtain ⟨q, _, _, harr⟩ := (mem_pawnFwd ..).1 ha
        exact arrive_not_ep harr _ _ _
    · simp only [List.mem_flatMap] at ha
      obtain ⟨d, _, ha⟩ := ha
      obtain ⟨q, o, _, _, _, harr⟩ := (mem_pawnCap ..).1 ha
      exact arrive_not_ep harr _ _ _

/-! ## Sliding pieces -/

theorem unit_mul_ne {d : Int × Int} (hd : UnitDir d) {k : Nat} (hk : 1 ≤ k) :
    ¬ ((k : Int) * d.1 = 0 ∧ (k : Int) * d.2 = 0) := by
  obtain ⟨a, b⟩ := d
  obtain ⟨ha, hb, hne⟩ := hd
  simp only at ha hb hne ⊢
  rcases ha with rfl | rfl | rfl <;> rcases hb with rfl | rfl | rfl <;> omega

theorem rayMoves_nodup (g : Game) (pc : Piece) (start : Pos) {d : Int × Int} (hd : UnitDir d) :
    ∀ (n : Nat) (cur : Pos), (g.rayMoves pc start cur d n).Nodup := by
  intro n
  induction n with
  | zero => intro cur; exact List.nodup_nil
  | succ n ih =>
    intro cur
    unfold rayMoves
    cases hq : cur.add d with
    | none => exact List.nodup_nil
    | some q =>
      simp only
      cases hg : g.get q with
      | some o =>
        simp only
        split
        · exact nodup_single _
        · exact List.nodup_nil
      | none =>
        simp only
        refine List.nodup_cons.2 ⟨?_, ih q⟩
        intro hmem
        obtain ⟨k, hk, _, ⟨_, _, e⟩, _⟩ := (g.rayMoves_iff pc start d n q _).1 hmem
        simp only [Move.normal.injEq, true_and] at e
        have e1 := congrArg Pos.row e.1
        have e2 := congrArg Pos.col e.1
        simp only at e1 e2
        exact unit_mul_ne hd hk ⟨by omega, by omega⟩

theorem rayMoves_dir (g : Game) (pc : Piece) (p : Pos) {d : Int × Int} (hd : UnitDir d) (n : Nat)
    {m : Move} (hm : m ∈ g.rayMoves pc p p d n) :
    (sgn (m.toSpec.dst.1 - p.row), sgn (m.toSpec.dst.2 - p.col)) = d := by
  obtain ⟨k, hk, _, ⟨_, _, rfl⟩, _⟩ := (g.rayMoves_iff pc p d n p m).1 hm
  obtain ⟨a, b⟩ := d
  simp only [Move.toSpec, Prod.mk.injEq]
  exact ⟨sgn_unit p.row hk hd.1, sgn_unit p.col hk hd.2.1⟩

theorem slideMoves_nodup (g : Game) (pc : Piece) (p : Pos) (rays : List (Int × Int))
    (hr : ∀ d ∈ rays, UnitDir d) (hn : rays.Nodup) : (g.slideMoves pc p rays).Nodup := by
  unfold slideMoves
  exact nodup_flatMap_key _ _
    (fun m => (sgn (m.toSpec.dst.1 - p.row), sgn (m.toSpec.dst.2 - p.col))) id hn
    (fun d hd => rayMoves_nodup g pc p (hr d hd) 7 p)
    (fun d hd m hm => rayMoves_dir g pc p (hr d hd) 7 hm)
    (fun _ _ _ _ h => h)

/-! ## All pieces, all squares -/

theorem pieceMoves_nodup (g : Game) (pc : Piece) (p : Pos) : (g.pieceMoves pc p).Nodup := by
  unfold pieceMoves
  split
  · exact pawnMoves_nodup ..
  · exact kingMoves_nodup ..
  · exact knightMoves_nodup ..
  · exact slideMoves_nodup g pc p _ (fun d hd => ((mem_rookRays d).1 hd).1) (by decide)
  · exact slideMoves_nodup g pc p _ (fun d hd => ((mem_bishopRays d).1 hd).1) (by decide)
  · exact slideMoves_nodup g pc p _ (fun d hd => (mem_queenRays d).1 hd) (by decide)

theorem allSquares_nodup : allSquares.Nodup := by
  unfold allSquares
  refine nodup_map_inj _ ?_ List.nodup_range
  intro a b e
  unfold Pos.ofIdx at e
  simp only [Pos.mk.injEq] at e
  omega

/-- **C01, "none repeated"**: the unchecked list has no duplicates -/
theorem pseudoMoves_nodup {g : Game} (hw : g.WF) : g.pseudoMoves.Nodup := by
  unfold pseudoMoves
  cases hke : g.kingExists g.player
  · exact List.nodup_nil
  · simp only [Bool.not_true, Bool.false_eq_true, if_false]
    refine nodup_flatMap_key _ _ (fun m => m.toSpec.src) (fun p => (p.row, p.col))
      allSquares_nodup ?_ ?_ ?_
    · intro p _
      split
      · split
        · exact pieceMoves_nodup ..
        · exact List.nodup_nil
      · exact List.nodup_nil
    · intro p hp m hm
      split at hm
      · rename_i pc hg
        split at hm
        · rename_i ho
          exact (pieceMoves_sound g hw hke (allSquares_valid hp) hg ho hm).2
        · cases hm
      · cases hm
    · intro p _ q _ h
      exact (sq_eq_iff _ _ _).1 h

theorem pseudoMoves_toSpec_nodup {g : Game} (hw : g.WF) : (g.pseudoMoves.map Move.toSpec).Nodup := by
  have h := pseudoMoves_nodup hw
  unfold List.Nodup at h ⊢
  rw [List.pairwise_map]
  refine List.Pairwise.imp_of_mem ?_ h
  intro a b ha hb hab e
  exact hab (toSpec_injective_on_generated hw ha hb e)

end Game

end Chess

#print axioms Chess.Game.pawnMoves_pseudo_iff
#print axioms Chess.Game.king_gen_to_pseudo
#print axioms Chess.Game.king_pseudo_to_gen
#print axioms Chess.Game.unchecked_subset_pseudo
#print axioms Chess.Game.pseudo_subset_unchecked
#print axioms Chess.Game.adjacent_is_attacked
#print axioms Chess.Game.near_king_step_illegal
#print axioms Chess.Game.toSpec_injective_on_generated
#print axioms Chess.Spec.mem_pseudoList
#print axioms Chess.Game.mem_pseudoList_iff
#print axioms Chess.Game.kingMoves_pseudo_partial
#print axioms Chess.Game.kingMoves_pseudo_converse
#print axioms Chess.Game.knightMoves_nodup
#print axioms Chess.Game.kingMoves_nodup
#print axioms Chess.Game.pawnMoves_nodup
#print axioms Chess.Game.slideMoves_nodup
#print axioms Chess.Game.pseudoMoves_nodup
#print axioms Chess.Game.pseudoMoves_toSpec_nodup
