import Chess.Lemmas.Cache

/-!
# Take-back restores the game exactly (`pop (push g m) m = g`)
-/
namespace Chess
namespace Game

/-! ### `setKingPos` touches only the cached king squares -/

section kingpos
variable (g : Game) (pl : Player) (p : Pos)
@[simp] theorem setKingPos_player : (g.setKingPos pl p).player = g.player := by cases pl <;> rfl
@[simp] theorem setKingPos_state : (g.setKingPos pl p).state = g.state := by cases pl <;> rfl
@[simp] theorem setKingPos_moveStack : (g.setKingPos pl p).moveStack = g.moveStack := by cases pl <;> rfl
@[simp] theorem setKingPos_endgame : (g.setKingPos pl p).endgame = g.endgame := by cases pl <;> rfl
@[simp] theorem setKingPos_board : (g.setKingPos pl p).board = g.board := by cases pl <;> rfl
@[simp] theorem setKingPos_pastHashes : (g.setKingPos pl p).pastHashes = g.pastHashes := by cases pl <;> rfl
@[simp] theorem setKingPos_pastScores : (g.setKingPos pl p).pastScores = g.pastScores := by cases pl <;> rfl
@[simp] theorem setKingPos_hash : (g.setKingPos pl p).hash = g.hash := by cases pl <;> rfl
@[simp] theorem setKingPos_score : (g.setKingPos pl p).score = g.score := by cases pl <;> rfl
@[simp] theorem setKingPos_top : (g.setKingPos pl p).top = g.top := by cases pl <;> rfl
@[simp] theorem setKingPos_get (q : Pos) : (g.setKingPos pl p).get q = g.get q := by cases pl <;> rfl
theorem setKingPos_wking : (g.setKingPos pl p).wking = if pl = .white then p else g.wking := by
  cases pl <;> rfl
theorem setKingPos_bking : (g.setKingPos pl p).bking = if pl = .black then p else g.bking := by
  cases pl <;> rfl
theorem setKingPos_kingPos (pl' : Player) :
    (g.setKingPos pl p).kingPos pl' = if pl' = pl then p else g.kingPos pl' := by
  cases pl <;> cases pl' <;> rfl
end kingpos

/-- `CacheInv` only looks at the board, the two caches and the phase -/
theorem cacheInv_congr {g g' : Game} (hb : g'.board = g.board) (hh : g'.pastHashes = g.pastHashes)
    (hs : g'.pastScores = g.pastScores) (he : g'.endgame = g.endgame) (h : g.CacheInv) : g'.CacheInv := by
  constructor
  · intro i hi; rw [hh, hb]; exact h.hashes i hi
  · intro i hi; rw [hs, hb, he]; exact h.scores i hi

@[simp] theorem setKingPos_resHash (g : Game) (pl : Player) (p : Pos) :
    (g.setKingPos pl p).resHash = g.resHash := by simp [resHash]
@[simp] theorem setKingPos_resScore (g : Game) (pl : Player) (p : Pos) :
    (g.setKingPos pl p).resScore = g.resScore := by simp [resScore]

theorem board_ext {g g' : Game} (h : ∀ q : Pos, q.Valid → g.get q = g'.get q) : g.board = g'.board :=
  Vector.ext fun i hi => by
    rw [← get_ofIdx g hi, ← get_ofIdx g' hi]
    exact h _ (Pos.ofIdx_valid hi)

/-! ### squares used by the special moves are on the board -/

theorem homeRow_valid (o : Player) (c : Int) (h0 : 0 ≤ c) (h8 : c < 8) : (⟨homeRow o, c⟩ : Pos).Valid := by
  cases o <;> simp [homeRow, Pos.Valid] <;> omega

theorem epSquares_valid (o : Player) (sc ec : Int) (h1 : 0 ≤ sc) (h2 : sc < 8) (h3 : 0 ≤ ec) (h4 : ec < 8) :
    (epSquares o sc ec).1.Valid ∧ (epSquares o sc ec).2.1.Valid ∧ (epSquares o sc ec).2.2.Valid := by
  cases o <;> simp [epSquares, Pos.Valid] <;> omega

theorem epSquares_ne (o : Player) (sc ec : Int) (h : sc ≠ ec) :
    (epSquares o sc ec).1 ≠ (epSquares o sc ec).2.1 ∧ (epSquares o sc ec).1 ≠ (epSquares o sc ec).2.2
      ∧ (epSquares o sc ec).2.1 ≠ (epSquares o sc ec).2.2 := by
  cases o <;> simp [epSquares] <;> omega

/-! ### `push` and `pop` as a board update inside a wrapper -/

/-- the game part of `applyMove`, without the state byte -/
def applyMoveG (g : Game) (m : Move) : Game :=
  match m with
  | .normal piece start stop _ =>
    let g1 := (g.setPosition start none).setPosition stop (some piece)
    if piece.pieceType = .king then g1.setKingPos g1.player stop else g1
  | .promotion owner newPiece start stop _ =>
    (g.setPosition start none).setPosition stop (some ⟨newPiece, owner⟩)
  | .enPassant owner startCol endCol =>
    ((g.setPosition (epSquares owner startCol endCol).2.2 none).setPosition
      (epSquares owner startCol endCol).1 none).setPosition (epSquares owner startCol endCol).2.1
      (some ⟨.pawn, owner⟩)
  | .castlingLong owner =>
    let g1 := (((g.setPosition ⟨homeRow owner, 0⟩ none).setPosition ⟨homeRow owner, 4⟩ none).setPosition
      ⟨homeRow owner, 3⟩ (some ⟨.rook, owner⟩)).setPosition ⟨homeRow owner, 2⟩ (some ⟨.king, owner⟩)
    g1.setKingPos g1.player ⟨homeRow owner, 2⟩
  | .castlingShort owner =>
    let g1 := (((g.setPosition ⟨homeRow owner, 7⟩ none).setPosition ⟨homeRow owner, 4⟩ none).setPosition
      ⟨homeRow owner, 5⟩ (some ⟨.rook, owner⟩)).setPosition ⟨homeRow owner, 6⟩ (some ⟨.king, owner⟩)
    g1.setKingPos g1.player ⟨homeRow owner, 6⟩

theorem applyMove_fst (g : Game) (m : Move) (s0 : GState) : (applyMove g m s0).1 = applyMoveG g m := by
  cases m with
  | normal piece start stop captured =>
    simp only [applyMove, applyMoveG]
    split <;> (try split) <;> rfl
  | promotion owner newPiece start stop captured => rfl
  | enPassant owner sc ec => cases owner <;> rfl
  | castlingLong owner => rfl
  | castlingShort owner => rfl

/-- what `push` does around the board update -/
def wrapPush (g1 : Game) (s : GState) : Game :=
  { g1 with
    player := g1.player.other
    hash := g1.hash ^^^ Gen.blackToMove ^^^ g1.top.hash ^^^ s.hash
    state := s :: g1.state }

/-- what `pop` does before the board update -/
def wrapPop (g : Game) : Game :=
  { g with
    hash := g.hash ^^^ g.top.hash ^^^ (g.state.tail.headD GState.default).hash ^^^ Gen.blackToMove
    state := g.state.tail
    player := g.player.other }

theorem push_eq_wrap (g : Game) (m : Move) :
    g.push m = wrapPush (applyMove g m (g.top.setEnPassant 8)).1 (applyMove g m (g.top.setEnPassant 8)).2 := rfl

theorem pop_eq_wrap (g : Game) (m : Move) : g.pop m = unapplyMove (wrapPop g) m := rfl

/-- the wrappers of `push` and `pop` (side, state stack, side key, state keys) cancel -/
theorem wrapPop_wrapPush (g1 : Game) (s : GState) : wrapPop (wrapPush g1 s) = g1 := by
  cases g1 with
  | mk score player moveStack endgame hash board pastScores pastHashes wking bking state =>
  simp only [wrapPop, wrapPush, top, List.tail_cons, List.headD_cons, Player.other_other, Game.mk.injEq,
    and_true, true_and]
  generalize (state.headD GState.default).hash = a
  generalize s.hash = b
  generalize Gen.blackToMove = c
  have : hash ^^^ c ^^^ a ^^^ b ^^^ b ^^^ a ^^^ c = hash ^^^ ((a ^^^ a) ^^^ (b ^^^ b) ^^^ (c ^^^ c)) := by ac_rfl
  rw [this]; simp

theorem pop_push_eq (g : Game) (m : Move) :
    (g.push m).pop m = unapplyMove (applyMoveG g m) m := by
  rw [pop_eq_wrap, push_eq_wrap, wrapPop_wrapPush, applyMove_fst]

theorem setKingPos_setPosition (g : Game) (pl : Player) (p q : Pos) (x : Option Piece) :
    (g.setKingPos pl p).setPosition q x = (g.setPosition q x).setKingPos pl p := by
  cases pl <;> (unfold setPosition setKingPos; split <;> rfl)

theorem setKingPos_setKingPos (g : Game) (pl : Player) (p q : Pos) :
    (g.setKingPos pl p).setKingPos pl q = g.setKingPos pl q := by
  cases pl <;> rfl

theorem setKingPos_self (g : Game) (pl : Player) : g.setKingPos pl (g.kingPos pl) = g := by
  cases pl <;> rfl

/-- `eq_of_cacheInv` with the boards compared square by square -/
theorem restore {g g' : Game} (hc : g.CacheInv) (hc' : g'.CacheInv)
    (hget : ∀ q : Pos, q.Valid → g'.get q = g.get q)
    (hrh : g'.resHash = g.resHash) (hrs : g'.resScore = g.resScore)
    (hp : g'.player = g.player) (hm : g'.moveStack = g.moveStack) (he : g'.endgame = g.endgame)
    (hw : g'.wking = g.wking) (hk : g'.bking = g.bking) (hs : g'.state = g.state) : g' = g :=
  eq_of_cacheInv hc' hc (board_ext hget) hrh hrs hp hm he hw hk hs

/-! ### sequences of writes -/

def setMany (g : Game) : List (Pos × Option Piece) → Game
  | [] => g
  | (p, x) :: l => setMany (g.setPosition p x) l

/-- what a sequence of writes leaves on square `q` -/
def lookupLast (q : Pos) : List (Pos × Option Piece) → Option Piece → Option Piece
  | [], d => d
  | (p, x) :: l, d => lookupLast q l (if q = p then x else d)

theorem get_setMany (g : Game) (l : List (Pos × Option Piece)) (hv : ∀ e ∈ l, e.1.Valid) (q : Pos)
    (hq : q.Valid) : (g.setMany l).get q = lookupLast q l (g.get q) := by
  induction l generalizing g with
  | nil => rfl
  | cons e l ih =>
    obtain ⟨p, x⟩ := e
    rw [setMany, ih _ (fun e he => hv e (List.mem_cons_of_mem _ he)),
      get_setPosition g p x (hv _ (List.mem_cons_self ..)) q hq, lookupLast]

/-- what every write on the board preserves, a sequence of such writes preserves -/
theorem setMany_inv {P : Game → Prop} (hP : ∀ g p x, p.Valid → P g → P (g.setPosition p x)) :
    ∀ (l : List (Pos × Option Piece)) (g : Game), (∀ e ∈ l, e.1.Valid) → P g → P (g.setMany l)
  | [], _, _, h => h
  | (p, x) :: l, g, hv, h =>
    setMany_inv hP l _ (fun e he => hv e (List.mem_cons_of_mem _ he)) (hP g p x (hv _ (List.mem_cons_self ..)) h)

theorem setMany_cacheInv (g : Game) (l : List (Pos × Option Piece)) (hv : ∀ e ∈ l, e.1.Valid)
    (hc : g.CacheInv) : (g.setMany l).CacheInv :=
  setMany_inv (fun g p x => setPosition_cacheInv g p x) l g hv hc

/-- writes touch nothing but board, caches, hash and score, and of the last two only the placement -/
theorem setMany_frame (g : Game) (l : List (Pos × Option Piece)) (hv : ∀ e ∈ l, e.1.Valid) :
    (g.setMany l).resHash = g.resHash ∧ (g.setMany l).resScore = g.resScore
    ∧ (g.setMany l).player = g.player ∧ (g.setMany l).moveStack = g.moveStack
    ∧ (g.setMany l).endgame = g.endgame ∧ (g.setMany l).wking = g.wking ∧ (g.setMany l).bking = g.bking
    ∧ (g.setMany l).state = g.state :=
  setMany_inv (P := fun g' => g'.resHash = g.resHash ∧ g'.resScore = g.resScore ∧ g'.player = g.player
      ∧ g'.moveStack = g.moveStack ∧ g'.endgame = g.endgame ∧ g'.wking = g.wking ∧ g'.bking = g.bking
      ∧ g'.state = g.state)
    (fun g' p x hp ⟨h1, h2, h3, h4, h5, h6, h7, h8⟩ =>
      ⟨(setPosition_resHash g' p x hp).trans h1, (setPosition_resScore g' p x hp).trans h2,
        (setPosition_player ..).trans h3, (setPosition_moveStack ..).trans h4, (setPosition_endgame ..).trans h5,
        (setPosition_wking ..).trans h6, (setPosition_bking ..).trans h7, (setPosition_state ..).trans h8⟩)
    l g hv ⟨rfl, rfl, rfl, rfl, rfl, rfl, rfl, rfl⟩

end Game

/-! ### the writes of `push` and of `pop` -/

namespace Bounds
open Game

/-- the `set_position` calls of `push` (model: `applyMove` / `applyMoveG`), in order -/
def writes : Move → List (Pos × Option Piece)
  | .normal pc s e _ => [(s, none), (e, some pc)]
  | .promotion o t s e _ => [(s, none), (e, some ⟨t, o⟩)]
  | .enPassant o sc ec =>
    [((epSquares o sc ec).2.2, none), ((epSquares o sc ec).1, none),
      ((epSquares o sc ec).2.1, some ⟨.pawn, o⟩)]
  | .castlingLong o =>
    [(⟨homeRow o, 0⟩, none), (⟨homeRow o, 4⟩, none), (⟨homeRow o, 3⟩, some ⟨.rook, o⟩),
      (⟨homeRow o, 2⟩, some ⟨.king, o⟩)]
  | .castlingShort o =>
    [(⟨homeRow o, 7⟩, none), (⟨homeRow o, 4⟩, none), (⟨homeRow o, 5⟩, some ⟨.rook, o⟩),
      (⟨homeRow o, 6⟩, some ⟨.king, o⟩)]

/-- the `set_position` calls of `pop` (model: `unapplyMove`), in order -/
def unwrites : Move → List (Pos × Option Piece)
  | .normal pc s e cap => [(s, some pc), (e, cap)]
  | .promotion o _ s e cap => [(s, some ⟨.pawn, o⟩), (e, cap)]
  | .enPassant o sc ec =>
    [((epSquares o sc ec).2.1, none), ((epSquares o sc ec).2.2, some ⟨.pawn, o.other⟩),
      ((epSquares o sc ec).1, some ⟨.pawn, o⟩)]
  | .castlingLong o =>
    [(⟨homeRow o, 3⟩, none), (⟨homeRow o, 2⟩, none), (⟨homeRow o, 0⟩, some ⟨.rook, o⟩),
      (⟨homeRow o, 4⟩, some ⟨.king, o⟩)]
  | .castlingShort o =>
    [(⟨homeRow o, 5⟩, none), (⟨homeRow o, 6⟩, none), (⟨homeRow o, 7⟩, some ⟨.rook, o⟩),
      (⟨homeRow o, 4⟩, some ⟨.king, o⟩)]

/-- `Fits` says of the squares `pop` writes that they are on the board and hold what `pop` writes -/
theorem fits_unwrites {g : Game} {m : Move} (hf : g.Fits m) :
    ∀ e ∈ unwrites m, e.1.Valid ∧ g.get e.1 = e.2 := by
  cases m with
  | normal pc s e cap =>
    obtain ⟨hs, he, -, hgs, hge, -⟩ := hf
    simp [unwrites, *]
  | promotion o t s e cap =>
    obtain ⟨hs, he, -, hgs, hge⟩ := hf
    simp [unwrites, *]
  | enPassant o sc ec =>
    obtain ⟨h1, h2, h3, h4, -, hold, hnew, htaken⟩ := hf
    simp [unwrites, epSquares_valid o sc ec h1 h2 h3 h4, *]
  | castlingShort o | castlingLong o =>
    obtain ⟨-, -, hk, hr, h1, h2⟩ := hf
    simp [unwrites, homeRow_valid, *]

/-- `push` writes no square that `pop` does not write -/
theorem writes_sub (m : Move) : ∀ e ∈ writes m, ∃ e' ∈ unwrites m, e'.1 = e.1 := by
  cases m <;> simp [writes, unwrites]

theorem unwrites_valid {g : Game} {m : Move} (hf : g.Fits m) : ∀ e ∈ unwrites m, e.1.Valid :=
  fun e he => (fits_unwrites hf e he).1

theorem writes_valid {g : Game} {m : Move} (hf : g.Fits m) : ∀ e ∈ writes m, e.1.Valid := by
  intro e he
  obtain ⟨e', he', h⟩ := writes_sub m e he
  exact h ▸ unwrites_valid hf e' he'

end Bounds

namespace Game

/-- the board part of `push` is its writes; beyond them only the king cache of the side to move
changes -/
theorem applyMoveG_eq (g : Game) (m : Move) :
    applyMoveG g m = (g.setMany (Bounds.writes m)).setKingPos g.player ((applyMoveG g m).kingPos g.player) := by
  cases m with
  | normal pc s e cap =>
    simp only [applyMoveG, Bounds.writes, setMany]
    split
    · simp only [setPosition_player, setKingPos_kingPos, if_true]
    · exact (setKingPos_self _ _).symm
  | promotion o t s e cap => exact (setKingPos_self _ _).symm
  | enPassant o sc ec => exact (setKingPos_self _ _).symm
  | castlingShort o | castlingLong o =>
    simp only [applyMoveG, Bounds.writes, setMany, setPosition_player, setKingPos_kingPos, if_true]

theorem setMany_append (g : Game) (l₁ l₂ : List (Pos × Option Piece)) :
    g.setMany (l₁ ++ l₂) = (g.setMany l₁).setMany l₂ := by
  induction l₁ generalizing g with
  | nil => rfl
  | cons e l ih => exact ih _

theorem lookupLast_append (q : Pos) (l₁ l₂ : List (Pos × Option Piece)) (d : Option Piece) :
    lookupLast q (l₁ ++ l₂) d = lookupLast q l₂ (lookupLast q l₁ d) := by
  induction l₁ generalizing d with
  | nil => rfl
  | cons e l ih => exact ih _

/-- a square holds after a sequence of writes what the last write to it put there, or, if there was
none, what it held before -/
theorem lookupLast_cases (q : Pos) (l : List (Pos × Option Piece)) (d : Option Piece) :
    (∃ e ∈ l, e.1 = q ∧ lookupLast q l d = e.2) ∨ ((∀ e ∈ l, e.1 ≠ q) ∧ lookupLast q l d = d) := by
  induction l generalizing d with
  | nil => exact .inr ⟨fun _ h => (nomatch h), rfl⟩
  | cons e l ih =>
    rcases ih (if q = e.1 then e.2 else d) with ⟨e', he', h⟩ | ⟨hn, h⟩
    · exact .inl ⟨e', List.mem_cons_of_mem _ he', h⟩
    · by_cases hq : q = e.1
      · exact .inl ⟨e, List.mem_cons_self .., hq.symm, h.trans (if_pos hq)⟩
      · refine .inr ⟨fun e' he' => ?_, h.trans (if_neg hq)⟩
        rcases List.mem_cons.1 he' with rfl | he'
        · exact Ne.symm hq
        · exact hn e' he'

/-- writes `l₂` that put back what stood there, on every square that `l₁` wrote, restore the game -/
theorem setMany_restore (g : Game) (l₁ l₂ : List (Pos × Option Piece)) (hc : g.CacheInv)
    (h₂ : ∀ e ∈ l₂, e.1.Valid ∧ g.get e.1 = e.2) (h₁ : ∀ e ∈ l₁, ∃ e' ∈ l₂, e'.1 = e.1) :
    (g.setMany l₁).setMany l₂ = g := by
  have hv : ∀ e ∈ l₁ ++ l₂, e.1.Valid := by
    intro e he
    rcases List.mem_append.1 he with he | he
    · obtain ⟨e', he', h⟩ := h₁ e he
      exact h ▸ (h₂ e' he').1
    · exact (h₂ e he).1
  rw [← setMany_append]
  obtain ⟨h2, h3, h4, h5, h6, h7, h8, h9⟩ := setMany_frame g _ hv
  refine restore hc (setMany_cacheInv g _ hv hc) (fun q hq => ?_) h2 h3 h4 h5 h6 h7 h8 h9
  rw [get_setMany g _ hv q hq, lookupLast_append]
  rcases lookupLast_cases q l₂ (lookupLast q l₁ (g.get q)) with ⟨e, he, rfl, h⟩ | ⟨hn₂, h⟩
  · rw [h, (h₂ e he).2]
  · rcases lookupLast_cases q l₁ (g.get q) with ⟨e, he, hq, -⟩ | ⟨-, h'⟩
    · obtain ⟨e', he', h''⟩ := h₁ e he
      exact absurd (h''.trans hq) (hn₂ e' he')
    · rw [h, h']

/-- two writes: `a := x, b := y` then `a := x', b := y'` -/
theorem restore2 (g : Game) (a b : Pos) (x y : Option Piece) (ha : a.Valid) (hb : b.Valid) (hab : a ≠ b)
    (hc : g.CacheInv) :
    (((g.setPosition a x).setPosition b y).setPosition a (g.get a)).setPosition b (g.get b) = g :=
  setMany_restore g [(a, x), (b, y)] [(a, g.get a), (b, g.get b)] hc (by simp [ha, hb]) (by simp)

/-- **Take-back restores the game exactly**: equality of the whole structure — board, both
caches, score, hash, king squares, side, state stack, move record, phase. -/
theorem pop_push (g : Game) (m : Move) (hf : g.Fits m) (hc : g.CacheInv) : (g.push m).pop m = g := by
  have hr := setMany_restore g _ _ hc (Bounds.fits_unwrites hf) (Bounds.writes_sub m)
  rw [pop_push_eq]
  cases m with
  | normal pc start stop cap =>
    simp only [applyMoveG, unapplyMove]
    split
    · rename_i hk
      simp only [setKingPos_setPosition, setKingPos_setKingPos, setKingPos_player, setPosition_player]
      refine (congrArg (·.setKingPos g.player start) hr).trans ?_
      rw [← hf.2.2.2.2.2 hk]
      exact setKingPos_self g g.player
    · exact hr
  | promotion owner t start stop cap => exact hr
  | enPassant owner sc ec => cases owner <;> exact hr
  | castlingShort owner | castlingLong owner =>
    simp only [applyMoveG, unapplyMove, setKingPos_setPosition, setPosition_player]
    rw [← hf.1, setKingPos_setKingPos]
    refine (congrArg (·.setKingPos owner ⟨homeRow owner, 4⟩) hr).trans ?_
    rw [← hf.2.1]
    exact setKingPos_self g owner

end Game
end Chess
