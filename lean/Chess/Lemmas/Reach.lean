import Chess.Lemmas.Invariant
import Chess.Lemmas.Generated
import Chess.Lemmas.FenRead
import Chess.Lemmas.SearchDriver
import Chess.Model.Uci

/-!
# Reachable games are well formed; the chess instance of the search interface is closed under play
-/
namespace Chess

/-- What the UCI layer and the search can produce: import of a text (the reader checks that its
castling rights and en-passant file are backed by the board — `ofFen_rightsInv`, `ofFen_epInv`),
moves played into the record, search-style play of generated moves
(take-back returns to an earlier reachable game, `Game.pop_push`). -/
inductive Reach : Game → Prop
  | imported (s : List Char) (g : Game) : Game.ofFen s = .ok g → Reach g
  | played (g : Game) (m : Move) : Reach g → m ∈ (g.getMoves true).1 → Reach (g.pushHistory m)
  | searched (g : Game) (m : Move) (b : Bool) : Reach g → m ∈ (g.getMoves b).1 → Reach (g.push m)

/-- **every reachable game satisfies the representation invariant** (induction over the history) -/
theorem reach_wf {g : Game} (h : Reach g) : g.WF := by
  induction h with
  | imported s g hok => exact ofFen_wf hok
  | played g m _ hm ih =>
    have hf := Game.getMoves_fits ih true hm
    have hx := Game.getMoves_extraOk g true m hm
    exact Game.pushHistory_wf ih hf.1 hf.2 hx.1 hx.2
  | searched g m b _ hm ih => exact Game.push_wf_of_mem ih hm

/-- well-formed games are closed under the engine's checked moves -/
theorem chess_closed : Search.Closed Uci.chessOps Game.WF :=
  fun _ _ hw hm => Game.push_wf_of_mem (b := true) hw hm

/-- The Zobrist hypothesis for chess, a NAMED HYPOTHESIS of C06/C18 (never an axiom): no two
well-formed games with different checked move lists share a hash. -/
def ZobristOk : Prop := Search.HashOk Uci.chessOps Game.WF

end Chess

#print axioms Chess.reach_wf
#print axioms Chess.chess_closed
