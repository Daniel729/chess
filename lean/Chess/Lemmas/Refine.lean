import Chess.Lemmas.RefineSquare
import Chess.Lemmas.RefineCor
import Chess.Lemmas.RefineChecked

/-!
# C02 — "playing a move produces the position the rules prescribe": summary

`RefineBits` says what each write to the state byte does to its five fields (mask algebra);
`RefineShape` reads every move as a step and gives the facts that make `Spec.play`'s inference
of the move kind agree with the engine's; `RefineBase` computes both sides of the square field by
field; `RefineSquare` proves the square (`push_abs` and variants);
`RefineCor` and `RefineChecked` hold corollaries and the side condition discharged.

The headline statements are restated below as `example`s, so that this file fails to compile if
one of them changes.
-/
namespace Chess
namespace Game

variable {g : Game} {m : Move}

example (hw : g.WF) (hm : m ∈ g.pseudoMoves) : g.Shape m := generated_shape_rf hw hm

/-- the square, under the exact side condition -/
example (hw : g.WF) (hm : m ∈ g.pseudoMoves) (hh : g.HomeSafe m) :
    (g.push m).abs = Spec.play g.abs m.toSpec := push_abs hw hm hh

/-- the square without side condition: everything but the rights of the side not to move -/
example (hw : g.WF) (hm : m ∈ g.pseudoMoves) :
    (g.push m).abs.board = (Spec.play g.abs m.toSpec).board
    ∧ (g.push m).abs.side = (Spec.play g.abs m.toSpec).side
    ∧ (g.push m).abs.ep = (Spec.play g.abs m.toSpec).ep
    ∧ ∀ ks, (g.push m).abs.right g.player ks = (Spec.play g.abs m.toSpec).right g.player ks :=
  push_abs_weak hw hm

/-- the square for moves that do not capture a king -/
example (hw : g.WF) (hko : g.kingExists g.player.other = true) (hm : m ∈ g.pseudoMoves)
    (hn : g.NoKingCapture m) : (g.push m).abs = Spec.play g.abs m.toSpec :=
  push_abs_noKingCapture hw hko hm hn

/-- the square for the checked list -/
example (hw : g.WF) (hm : m ∈ (g.getMoves true).1) (hh : g.HomeSafe m) :
    (g.push m).abs = Spec.play g.abs m.toSpec := push_abs_checked hw hm hh

/-- the square for every generated move of a position whose side not to move is not in check -/
example (hw : g.WF) (hko : g.get (g.kingPos g.player.other) = some ⟨.king, g.player.other⟩)
    (hnc : Spec.inCheck g.abs g.abs.side.other = false) (hm : m ∈ g.pseudoMoves) :
    (g.push m).abs = Spec.play g.abs m.toSpec := push_abs_of_notInCheck hw hko hnc hm

example (hw : g.WF) (hko : g.get (g.kingPos g.player.other) = some ⟨.king, g.player.other⟩)
    (hnc : Spec.inCheck g.abs g.abs.side.other = false) (hm : m ∈ (g.getMoves true).1) :
    (g.push m).abs = Spec.play g.abs m.toSpec := push_abs_checked_of_notInCheck hw hko hnc hm

example (ms : List Move) (h : GeneratedSeq g ms) :
    (pushAll g ms).abs = Spec.playAll g.abs (ms.map Move.toSpec) := pushAll_abs ms g h

example (m : Move) : (m.toSpec).text = m.uci := toSpec_uci m

end Game
end Chess

#print axioms Chess.Game.generated_shape_rf
#print axioms Chess.Game.generated_refines
#print axioms Chess.Game.push_abs
#print axioms Chess.Game.push_abs_weak
#print axioms Chess.Game.push_abs_noKingCapture
#print axioms Chess.Game.push_abs_checked
#print axioms Chess.Game.push_abs_checked_noKingCapture
#print axioms Chess.Game.push_abs_of_safe
#print axioms Chess.Game.push_abs_checked_of_safe
#print axioms Chess.Game.push_abs_of_notInCheck
#print axioms Chess.Game.push_abs_checked_of_notInCheck
#print axioms Chess.Game.pushAll_abs
#print axioms Chess.Game.ep_after_double_push_iff
#print axioms Chess.Game.right_lost_on_rook_home
#print axioms Chess.Game.rights_after_rook_capture
#print axioms Chess.Game.king_capture_rights_differ
#print axioms Chess.Game.toSpec_uci
