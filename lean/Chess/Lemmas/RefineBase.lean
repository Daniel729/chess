import Chess.Lemmas.RefineBits
import Chess.Lemmas.RefineShape
import Chess.Lemmas.Invariant

/-!
# C02, part 2 — both sides of the refinement square, field by field

The four castling rights uniformly (`GState.right`, `APos.right`) and what the engine's `clear…`
functions do to them; the state byte `push` records, as a function of the step a move makes
(`pushState_eq`, `pushState_right`); the fields of `Spec.play` (`play_board`, `play_side`,
`play_right`, `play_ep`); the bridge between `Spec.setSq` on the bare vector and
`Game.setPosition`.
-/
namespace Chess

/-! ## The four castling rights, uniformly: `(owner, kingside?)` -/

namespace Spec
def APos.right (a : APos) : Player → Bool → Bool
  | .white, true => a.wk
  | .white, false => a.wq
  | .black, true => a.bk
  | .black, false => a.bq

theorem APos.ext' {a b : APos} (h1 : a.board = b.board) (h2 : a.side = b.side)
    (h3 : ∀ pl ks, a.right pl ks = b.right pl ks) (h4 : a.ep = b.ep) : a = b := by
  cases a; cases b
  simp only [APos.mk.injEq]
  exact ⟨h1, h2, h3 .white true, h3 .white false, h3 .black true, h3 .black false, h4⟩
end Spec

namespace Game

theorem abs_right (g : Game) (pl : Player) (ks : Bool) : g.abs.right pl ks = g.top.right pl ks := by
  cases pl <;> cases ks <;> rfl

/-- the right `(pl, ks)` in the engine's enumeration of the four -/
def crOf : Player → Bool → CR
  | .white, true => .wk
  | .white, false => .wq
  | .black, true => .bk
  | .black, false => .bq

theorem has_crOf (s : GState) (pl : Player) (ks : Bool) : (crOf pl ks).has s = s.right pl ks := by
  cases pl <;> cases ks <;> rfl

theorem rookSq_crOf (pl : Player) (ks : Bool) : (crOf pl ks).rookSq = rookHome pl ks := by
  cases pl <;> cases ks <;> rfl

theorem owner_crOf (pl : Player) (ks : Bool) : (crOf pl ks).owner = pl := by
  cases pl <;> cases ks <;> rfl

theorem setEnPassant_right (s : GState) (v : Int) (h0 : 0 ≤ v) (h8 : v ≤ 8) (pl : Player) (ks : Bool) :
    (s.setEnPassant v).right pl ks = s.right pl ks := by
  rw [← has_crOf, ← has_crOf, CR.has_setEnPassant _ _ _ h0 h8]

theorem midState_right (g : Game) (pc : Piece) (start stop : Pos) (cap : Option Piece)
    (pl : Player) (ks : Bool) :
    (midState g pc start stop cap).right pl ks =
      (g.top.right pl ks
        && !((if pc.pieceType = .king then decide (g.player = pl)
              else if pc.pieceType = .rook then decide (start = rookHome pl ks) else false)
             || (decide (cap = some ⟨.rook, pl⟩) && decide (stop = rookHome pl ks)))) := by
  have := has_midState_eq (crOf pl ks) g pc start stop cap
  rwa [has_crOf, has_crOf, rookSq_crOf, owner_crOf] at this

/-! ## A move as a step, and what `push` leaves behind -/

/-- what `Fits` says of every move alike -/
structure Step (g : Game) (m : Move) : Prop where
  vstart : m.start.Valid
  vstop : m.stop.Valid
  ne : m.start ≠ m.stop
  get_start : g.get m.start = some m.piece
  get_stop : g.get m.stop = m.cap
  king : m.piece.pieceType = .king → g.kingPos g.player = m.start

theorem Fits.step {g : Game} {m : Move} (hf : g.Fits m) : g.Step m := by
  cases m with
  | normal pc s e c => exact ⟨hf.1, hf.2.1, hf.2.2.1, hf.2.2.2.1, hf.2.2.2.2.1, hf.2.2.2.2.2⟩
  | promotion o t s e c => exact ⟨hf.1, hf.2.1, hf.2.2.1, hf.2.2.2.1, hf.2.2.2.2, nofun⟩
  | enPassant o sc ec =>
    obtain ⟨h1, h2, h3, h4, hne, hold, hnew, -⟩ := hf
    obtain ⟨v1, v2, -⟩ := epSquares_valid o sc ec h1 h2 h3 h4
    exact ⟨v1, v2, (epSquares_ne o sc ec hne).1, hold, hnew, nofun⟩
  | castlingShort o | castlingLong o =>
    exact ⟨homeRow_valid o 4 (by omega) (by omega), homeRow_valid o _ (by omega) (by omega),
      by simp [Move.start, Move.stop], hf.2.2.1, hf.2.2.2.2.2, fun _ => hf.1 ▸ hf.2.1⟩

theorem toSpec_src (m : Move) : m.toSpec.src = (m.start.row, m.start.col) := by
  cases m with
  | enPassant o _ _ => cases o <;> rfl
  | _ => rfl

theorem toSpec_dst (m : Move) : m.toSpec.dst = (m.stop.row, m.stop.col) := by
  cases m with
  | enPassant o _ _ => cases o <;> rfl
  | _ => rfl

variable {g : Game} {m : Move}

theorem abs_at_src (hf : g.Fits m) : g.abs.at m.toSpec.src = some m.piece := by
  rw [toSpec_src, ← g.get_eq_at _ hf.step.vstart]; exact hf.step.get_start

theorem abs_at_dst (hf : g.Fits m) : g.abs.at m.toSpec.dst = m.cap := by
  rw [toSpec_dst, ← g.get_eq_at _ hf.step.vstop]; exact hf.step.get_stop

theorem Shape.cap (hs : g.Shape m) : ∀ c, m.cap = some c → c.owner ≠ g.player := by
  cases m with
  | normal pc s e c => exact hs.1
  | promotion o t s e c => exact hs.1
  | _ => exact nofun

theorem forward_natAbs (pl : Player) : (Spec.forward pl).natAbs = 1 := by cases pl <;> rfl

/-- only a `Normal` move of a pawn, straight ahead onto an empty square, changes row by two -/
theorem double_step (hs : g.Shape m) (hp : m.piece.pieceType = .pawn)
    (hd : (m.stop.row - m.start.row).natAbs = 2) :
    ∃ pc s e, m = .normal pc s e none ∧ e.col = s.col := by
  cases m with
  | normal pc s e c =>
    have := forward_natAbs pc.owner
    rcases (hs.2.1 hp).2.1 with h | ⟨-, h2, rfl⟩
    · simp only [Move.stop, Move.start] at hd; omega
    · exact ⟨pc, s, e, rfl, h2⟩
  | promotion o t s e c =>
    have := forward_natAbs g.player
    have := hs.2.2.1
    simp only [Move.stop, Move.start] at hd; omega
  | enPassant o sc ec => cases o <;> simp [Move.stop, Move.start, epSquares] at hd
  | castlingShort o | castlingLong o => cases hp

theorem push_board (g : Game) (m : Move) : (g.push m).board = (applyMoveG g m).board := by
  rw [push_eq]; rfl

/-- the pawn-beside test of `push` after a double step -/
def besideTest (g1 : Game) (stop : Pos) (owner : Player) : Bool :=
  (if stop.col > 0 then isEnemyPawn (g1.get ⟨stop.row, stop.col - 1⟩) owner else false)
  || (if stop.col < 7 then isEnemyPawn (g1.get ⟨stop.row, stop.col + 1⟩) owner else false)

/-- `push` records the file of the move: a pawn's double step that lands beside an enemy pawn -/
def recordsFile (g : Game) (m : Move) : Bool :=
  decide (m.piece.pieceType = .pawn) && decide ((m.stop.row - m.start.row).natAbs = 2)
    && besideTest (applyMoveG g m) m.stop m.piece.owner

theorem pushState_normal_eq (g : Game) (pc : Piece) (start stop : Pos) (cap : Option Piece) :
    pushState g (.normal pc start stop cap) =
      if recordsFile g (.normal pc start stop cap) = true
      then (midState g pc start stop cap).setEnPassant start.col else midState g pc start stop cap := by
  unfold recordsFile pushState applyMove applyMoveG besideTest midState Move.piece Move.start Move.stop
  by_cases hk : pc.pieceType = .king
  · simp [hk]
  · by_cases hr : pc.pieceType = .rook
    · simp [hr]
    · simp only [hk, hr, if_false]
      -- left: `if a then (if b then x else y) else y` against `if a && b then x else y`
      split <;> simp_all

/-- **the state byte after a move**: the rights go by the step alone; the file is recorded for a
pawn's double step that lands beside an enemy pawn -/
theorem pushState_eq (hs : g.Shape m) :
    pushState g m =
      if recordsFile g m = true
      then (midState g m.piece m.start m.stop m.cap).setEnPassant m.start.col
      else midState g m.piece m.start m.stop m.cap := by
  split
  · rename_i hc
    have hd := hc
    simp only [recordsFile, Bool.and_eq_true, decide_eq_true_eq] at hd
    obtain ⟨pc, s, e, rfl, -⟩ := double_step hs hd.1.1 hd.1.2
    exact (pushState_normal_eq g pc s e none).trans (if_pos hc)
  · rename_i hc
    cases m with
    | normal pc s e c => exact (pushState_normal_eq g pc s e c).trans (if_neg hc)
    | promotion o t s e c => rfl
    | enPassant o sc ec => cases o <;> rfl
    | castlingShort o => rw [pushState_castlingShort]; rfl
    | castlingLong o => rw [pushState_castlingLong]; rfl

theorem pushState_right (hf : g.Fits m) (hs : g.Shape m) (pl : Player) (ks : Bool) :
    (pushState g m).right pl ks = (midState g m.piece m.start m.stop m.cap).right pl ks := by
  rw [pushState_eq hs]
  split
  · have := hf.step.vstart
    exact setEnPassant_right _ _ this.2.2.1 (by have := this.2.2.2; omega) pl ks
  · rfl

/-- the abstract en-passant file of a state byte -/
def epOf (s : GState) : Option Nat := if s.enPassant < 8 then some s.enPassant.toNat else none

theorem abs_ep_rf (g : Game) : g.abs.ep = epOf g.top := by rfl

theorem pushState_ep (hf : g.Fits m) (hs : g.Shape m) :
    epOf (pushState g m) = if recordsFile g m = true then some m.start.col.toNat else none := by
  rw [pushState_eq hs]
  unfold epOf
  split
  · have := hf.step.vstart
    rw [(GState.setEnPassant_spec _ _ this.2.2.1 (by have := this.2.2.2; omega)).2.2.2.2,
      if_pos this.2.2.2]
  · rw [midState_enPassant]; rfl

end Game

/-! ## What `Spec.play` prescribes, field by field -/

namespace Spec

def atB_rf (b : Vector (Option Piece) 64) (s : Sq) : Option Piece :=
  if onBoard s then b.toArray.getD (s.1 * 8 + s.2).toNat none else none

theorem APos.at_eq_atB (a : APos) (s : Sq) : a.at s = atB_rf a.board s := rfl

/-- the mover leaves its square and arrives, promoted if the move says so -/
def stepBoard (a : APos) (m : UciMove) (pc : Piece) : Vector (Option Piece) 64 :=
  setSq (setSq a.board m.src none) m.dst (some (match m.promo with
    | some t => ⟨t, pc.owner⟩
    | none => pc))

/-- the board `play` builds when the source square holds `pc` -/
def playBoard (a : APos) (m : UciMove) (pc : Piece) : Vector (Option Piece) 64 :=
  let dc := m.dst.2 - m.src.2
  let isCastle := pc.pieceType = .king && dc.natAbs = 2
  let isEp := pc.pieceType = .pawn && dc ≠ 0 && (a.at m.dst).isNone
  let b := if isEp then setSq (stepBoard a m pc) (m.src.1, m.dst.2) none else stepBoard a m pc
  if isCastle then
    if dc > 0 then setSq (setSq b (m.src.1, 7) none) (m.src.1, 5) (some ⟨.rook, pc.owner⟩)
    else setSq (setSq b (m.src.1, 0) none) (m.src.1, 3) (some ⟨.rook, pc.owner⟩)
  else b

variable {a : APos} {m : UciMove} {pc : Piece}

theorem play_board (h : a.at m.src = some pc) : (play a m).board = playBoard a m pc := by
  unfold play; rw [h]; rfl

theorem play_side (h : a.at m.src = some pc) : (play a m).side = a.side.other := by
  unfold play; rw [h]

/-- a right survives iff the move touches neither the king's nor that rook's home square -/
theorem play_right (h : a.at m.src = some pc) (pl : Player) (ks : Bool) :
    (play a m).right pl ks =
      (a.right pl ks
        && !(decide (m.src = (Game.homeRow pl, 4)) || decide (m.dst = (Game.homeRow pl, 4))
              || decide (m.src = (Game.homeRow pl, if ks then 7 else 0))
              || decide (m.dst = (Game.homeRow pl, if ks then 7 else 0)))) := by
  cases pl <;> cases ks <;>
    simp only [play, h, APos.right, Game.homeRow, Bool.not_or, Bool.and_assoc] <;> rfl

theorem play_ep (h : a.at m.src = some pc) :
    (play a m).ep =
      if (decide (pc.pieceType = .pawn) && decide ((m.dst.1 - m.src.1).natAbs = 2)
          && (decide (atB_rf (playBoard a m pc) (m.dst.1, m.dst.2 - 1) = some ⟨.pawn, pc.owner.other⟩)
              || decide (atB_rf (playBoard a m pc) (m.dst.1, m.dst.2 + 1) = some ⟨.pawn, pc.owner.other⟩)))
          = true
      then some m.src.2.toNat else none := by
  unfold play; rw [h]; rfl

theorem playBoard_plain
    (hc : (decide (pc.pieceType = .king) && decide ((m.dst.2 - m.src.2).natAbs = 2)) = false)
    (he : (decide (pc.pieceType = .pawn) && decide (m.dst.2 - m.src.2 ≠ 0) && (a.at m.dst).isNone) = false) :
    playBoard a m pc = stepBoard a m pc := by
  unfold playBoard
  simp only [hc, he, Bool.false_eq_true, if_false]

theorem playBoard_ep
    (hc : (decide (pc.pieceType = .king) && decide ((m.dst.2 - m.src.2).natAbs = 2)) = false)
    (he : (decide (pc.pieceType = .pawn) && decide (m.dst.2 - m.src.2 ≠ 0) && (a.at m.dst).isNone) = true) :
    playBoard a m pc = setSq (stepBoard a m pc) (m.src.1, m.dst.2) none := by
  unfold playBoard
  simp only [hc, he, Bool.false_eq_true, if_false, if_true]

theorem playBoard_castle (hk : pc.pieceType = .king) (hd : (m.dst.2 - m.src.2).natAbs = 2) :
    playBoard a m pc =
      if m.dst.2 - m.src.2 > 0 then
        setSq (setSq (stepBoard a m pc) (m.src.1, 7) none) (m.src.1, 5) (some ⟨.rook, pc.owner⟩)
      else setSq (setSq (stepBoard a m pc) (m.src.1, 0) none) (m.src.1, 3) (some ⟨.rook, pc.owner⟩) := by
  unfold playBoard
  simp [hk, hd]

end Spec

/-! ## Bridging the two board views -/

namespace Game

theorem setSq_board (g : Game) (p : Pos) (hp : p.Valid) (v : Option Piece) :
    Spec.setSq g.board (p.row, p.col) v = (g.setPosition p v).board := by
  rw [setPosition_board g p v hp]
  unfold Spec.setSq
  rw [if_pos ((Pos.valid_iff_onBoard p).1 hp)]
  show g.board.setIfInBounds p.idx v = _
  have := Pos.idx_lt hp
  apply Vector.ext
  intro i hi
  simp [Vector.getElem_setIfInBounds, Vector.getElem_set]

theorem atB_board (g : Game) (s : Spec.Sq) : Spec.atB_rf g.board s = g.abs.at s := rfl

theorem get_eq_atB (g : Game) (p : Pos) (hp : p.Valid) : g.get p = Spec.atB_rf g.board (p.row, p.col) :=
  g.get_eq_at p hp

theorem sq_eq_iff (p : Pos) (r c : Int) : ((p.row, p.col) = (r, c)) ↔ p = ⟨r, c⟩ := by
  cases p; simp

end Game
end Chess
