import Chess.Model.Basic

/-!
# C02, part 0 — the state byte: bit lemmas
-/
namespace Chess

namespace GState

theorem forall_uint8 {P : UInt8 → Prop} (h : ∀ n : Fin 256, P (UInt8.ofNat n.val)) : ∀ s, P s := by
  intro s
  have := h ⟨s.toNat, UInt8.toNat_lt s⟩
  simpa using this

/-- a test against a mask that is the zero byte fails -/
theorem and_zero_mask (s : GState) {m : UInt8} (h : m = 0) : (s &&& m != 0) = false := by
  subst h; rw [UInt8.and_zero]; rfl

/-! Clearing a right and then testing a bit is one mask: `(s &&& m) &&& k = s &&& (m &&& k)`, and `m &&& k` is a
closed byte (`rfl`): zero for the cleared bit, `k` for every other field. -/

theorem clearWk_spec : ∀ s : GState, (clearWk s).wk = false ∧ (clearWk s).wq = s.wq
    ∧ (clearWk s).bk = s.bk ∧ (clearWk s).bq = s.bq ∧ (clearWk s).enPassant = s.enPassant := by
  intro s
  simp only [clearWk, wk, wq, bk, bq, enPassant, UInt8.and_assoc]
  exact ⟨and_zero_mask s rfl, rfl, rfl, rfl, rfl⟩

theorem clearWq_spec : ∀ s : GState, (clearWq s).wk = s.wk ∧ (clearWq s).wq = false
    ∧ (clearWq s).bk = s.bk ∧ (clearWq s).bq = s.bq ∧ (clearWq s).enPassant = s.enPassant := by
  intro s
  simp only [clearWq, wk, wq, bk, bq, enPassant, UInt8.and_assoc]
  exact ⟨rfl, and_zero_mask s rfl, rfl, rfl, rfl⟩

theorem clearBk_spec : ∀ s : GState, (clearBk s).wk = s.wk ∧ (clearBk s).wq = s.wq
    ∧ (clearBk s).bk = false ∧ (clearBk s).bq = s.bq ∧ (clearBk s).enPassant = s.enPassant := by
  intro s
  simp only [clearBk, wk, wq, bk, bq, enPassant, UInt8.and_assoc]
  exact ⟨rfl, rfl, and_zero_mask s rfl, rfl, rfl⟩

theorem clearBq_spec : ∀ s : GState, (clearBq s).wk = s.wk ∧ (clearBq s).wq = s.wq
    ∧ (clearBq s).bk = s.bk ∧ (clearBq s).bq = false ∧ (clearBq s).enPassant = s.enPassant := by
  intro s
  simp only [clearBq, wk, wq, bk, bq, enPassant, UInt8.and_assoc]
  exact ⟨rfl, rfl, rfl, and_zero_mask s rfl, rfl⟩

theorem add_eq_or {a b : UInt8} (h : a &&& b = 0) : a + b = a ||| b :=
  UInt8.toBitVec_inj.1 (BitVec.add_eq_or_of_and_eq_zero _ _ (by rw [← UInt8.toBitVec_and, h]; rfl))

theorem or_and_mask (a b k : UInt8) : (a ||| b) &&& k = (a &&& k) ||| (b &&& k) :=
  UInt8.toBitVec_inj.1 BitVec.and_or_distrib_right

/-- setting the bits `b` is not seen through a mask that shares no bit with `b` -/
theorem or_and_disjoint (s : GState) {b k : UInt8} (h : b &&& k = 0) : (s ||| b) &&& k = s &&& k := by
  rw [or_and_mask, h, UInt8.or_zero]

theorem or_and_test (s : GState) {b : UInt8} (h : b ≠ 0) : ((s ||| b) &&& b != 0) = true := by
  rw [or_and_mask, UInt8.and_self]
  exact bne_iff_ne.2 fun e => h (UInt8.or_eq_zero_iff.1 e).2

theorem setWk_spec : ∀ s : GState, (setWk s).wk = true ∧ (setWk s).wq = s.wq
    ∧ (setWk s).bk = s.bk ∧ (setWk s).bq = s.bq ∧ (setWk s).enPassant = s.enPassant := by
  intro s
  simp (disch := decide) only [setWk, wk, wq, bk, bq, enPassant, or_and_disjoint, or_and_test, and_self]

theorem setWq_spec : ∀ s : GState, (setWq s).wk = s.wk ∧ (setWq s).wq = true
    ∧ (setWq s).bk = s.bk ∧ (setWq s).bq = s.bq ∧ (setWq s).enPassant = s.enPassant := by
  intro s
  simp (disch := decide) only [setWq, wk, wq, bk, bq, enPassant, or_and_disjoint, or_and_test, and_self]

theorem setBk_spec : ∀ s : GState, (setBk s).wk = s.wk ∧ (setBk s).wq = s.wq
    ∧ (setBk s).bk = true ∧ (setBk s).bq = s.bq ∧ (setBk s).enPassant = s.enPassant := by
  intro s
  simp (disch := decide) only [setBk, wk, wq, bk, bq, enPassant, or_and_disjoint, or_and_test, and_self]

theorem setBq_spec : ∀ s : GState, (setBq s).wk = s.wk ∧ (setBq s).wq = s.wq
    ∧ (setBq s).bk = s.bk ∧ (setBq s).bq = true ∧ (setBq s).enPassant = s.enPassant := by
  intro s
  simp (disch := decide) only [setBq, wk, wq, bk, bq, enPassant, or_and_disjoint, or_and_test, and_self]

theorem setEnPassant_spec' : ∀ s : GState, ∀ n : Fin 9,
    (setEnPassant s (n.val : Int)).wk = s.wk ∧ (setEnPassant s (n.val : Int)).wq = s.wq
    ∧ (setEnPassant s (n.val : Int)).bk = s.bk ∧ (setEnPassant s (n.val : Int)).bq = s.bq
    ∧ (setEnPassant s (n.val : Int)).enPassant = n.val := by
  intro s n
  -- the new nibble `v` (one of nine closed bytes) shares no bit with the kept high nibble, so `+` is `|||`;
  -- each field then masks `s &&& 0xF0` and `v` separately
  have hv : ∀ n : Fin 9, (0xF0 : UInt8) &&& UInt8.ofNat (n.val : Int).toNat = 0
      ∧ UInt8.ofNat (n.val : Int).toNat &&& 0x10 = 0 ∧ UInt8.ofNat (n.val : Int).toNat &&& 0x20 = 0
      ∧ UInt8.ofNat (n.val : Int).toNat &&& 0x40 = 0 ∧ UInt8.ofNat (n.val : Int).toNat &&& 0x80 = 0
      ∧ ((UInt8.ofNat (n.val : Int).toNat &&& 0x0F).toNat : Int) = n.val := by
    decide
  obtain ⟨h0, h1, h2, h3, h4, h5⟩ := hv n
  simp only [setEnPassant, wk, wq, bk, bq, enPassant]
  generalize UInt8.ofNat (n.val : Int).toNat = v at *
  have ho : s &&& 0xF0 &&& v = 0 := by rw [UInt8.and_assoc, h0, UInt8.and_zero]
  simp only [add_eq_or ho, or_and_mask, h1, h2, h3, h4, UInt8.or_zero, UInt8.and_assoc]
  refine ⟨rfl, rfl, rfl, rfl, ?_⟩
  rw [show (240 &&& 15 : UInt8) = 0 from rfl, UInt8.and_zero, UInt8.zero_or]
  exact h5
/-- writing a file `0..=8` into the low nibble keeps the four rights and reads back -/
theorem setEnPassant_spec (s : GState) (v : Int) (h0 : 0 ≤ v) (h8 : v ≤ 8) :
    (setEnPassant s v).wk = s.wk ∧ (setEnPassant s v).wq = s.wq
    ∧ (setEnPassant s v).bk = s.bk ∧ (setEnPassant s v).bq = s.bq
    ∧ (setEnPassant s v).enPassant = v := by
  have := setEnPassant_spec' s ⟨v.toNat, by omega⟩
  have e : ((v.toNat : Nat) : Int) = v := by omega
  simp only [e] at this
  exact this

@[simp] theorem wk_clearWk (s : GState) : (clearWk s).wk = false := (clearWk_spec s).1
@[simp] theorem wq_clearWk (s : GState) : (clearWk s).wq = s.wq := (clearWk_spec s).2.1
@[simp] theorem bk_clearWk (s : GState) : (clearWk s).bk = s.bk := (clearWk_spec s).2.2.1
@[simp] theorem bq_clearWk (s : GState) : (clearWk s).bq = s.bq := (clearWk_spec s).2.2.2.1
@[simp] theorem ep_clearWk (s : GState) : (clearWk s).enPassant = s.enPassant := (clearWk_spec s).2.2.2.2
@[simp] theorem wk_clearWq (s : GState) : (clearWq s).wk = s.wk := (clearWq_spec s).1
@[simp] theorem wq_clearWq (s : GState) : (clearWq s).wq = false := (clearWq_spec s).2.1
@[simp] theorem bk_clearWq (s : GState) : (clearWq s).bk = s.bk := (clearWq_spec s).2.2.1
@[simp] theorem bq_clearWq (s : GState) : (clearWq s).bq = s.bq := (clearWq_spec s).2.2.2.1
@[simp] theorem ep_clearWq (s : GState) : (clearWq s).enPassant = s.enPassant := (clearWq_spec s).2.2.2.2
@[simp] theorem wk_clearBk (s : GState) : (clearBk s).wk = s.wk := (clearBk_spec s).1
@[simp] theorem wq_clearBk (s : GState) : (clearBk s).wq = s.wq := (clearBk_spec s).2.1
@[simp] theorem bk_clearBk (s : GState) : (clearBk s).bk = false := (clearBk_spec s).2.2.1
@[simp] theorem bq_clearBk (s : GState) : (clearBk s).bq = s.bq := (clearBk_spec s).2.2.2.1
@[simp] theorem ep_clearBk (s : GState) : (clearBk s).enPassant = s.enPassant := (clearBk_spec s).2.2.2.2
@[simp] theorem wk_clearBq (s : GState) : (clearBq s).wk = s.wk := (clearBq_spec s).1
@[simp] theorem wq_clearBq (s : GState) : (clearBq s).wq = s.wq := (clearBq_spec s).2.1
@[simp] theorem bk_clearBq (s : GState) : (clearBq s).bk = s.bk := (clearBq_spec s).2.2.1
@[simp] theorem bq_clearBq (s : GState) : (clearBq s).bq = false := (clearBq_spec s).2.2.2.1
@[simp] theorem ep_clearBq (s : GState) : (clearBq s).enPassant = s.enPassant := (clearBq_spec s).2.2.2.2

end GState

theorem default_facts : GState.default.wk = false ∧ GState.default.wq = false
    ∧ GState.default.bk = false ∧ GState.default.bq = false ∧ GState.default.enPassant = 8 := by
  decide

end Chess
