import Chess.Lemmas.RefineSquare

/-!
# C02 — the side condition of the refinement square holds whenever the side not to move is not
in check

A generated move that arrives on an occupied square is, in the rules' sense, an attack of the
mover on that square. Hence, if the king of the side not to move is not attacked, no generated
move (checked or unchecked) captures it, and `push_abs` applies without side condition.
-/
namespace Chess
namespace Game

variable {g : Game} {m : Move}

/-- **a generated move that arrives on an occupied square is an attack of the mover on it** -/
theorem generated_capture_attacks (hw : g.WF) (hm : m ∈ g.pseudoMoves)
    (hocc : g.abs.at m.toSpec.dst ≠ none) :
    ∃ pc, g.abs.at m.toSpec.src = some pc ∧ pc.owner = g.player
      ∧ Spec.attacksFrom g.abs pc m.toSpec.src m.toSpec.dst = true := by
  have hf := (generated_fits hw hm).1
  have hs := generated_shape' hm
  have hat := abs_at_src hf
  refine ⟨m.piece, hat, generated_piece_owner hm, ?_⟩
  rw [abs_at_dst hf] at hocc
  by_cases hnp : m.piece.pieceType = .pawn
  · -- a pawn captures one row ahead, one file aside
    rw [toSpec_src, toSpec_dst]
    simp only [Spec.attacksFrom, hnp, Bool.and_eq_true, decide_eq_true_eq]
    cases m with
    | normal pc s e c =>
      obtain ⟨-, hstep, hdiag⟩ := hs.2.1 hnp
      rcases hstep with h | ⟨-, -, h⟩
      · exact ⟨by simp only [Move.stop, Move.start, Move.piece]; omega, hdiag hocc⟩
      · exact absurd h hocc
    | promotion o t s e c =>
      have ho : o = g.player := generated_piece_owner hm
      exact ⟨by simp only [Move.stop, Move.start, Move.piece, ho]; have := hs.2.2.1; omega, hs.2.2.2 hocc⟩
    | enPassant o sc ec => exact absurd rfl hocc
    | castlingShort o | castlingLong o => cases hnp
  · by_cases hnk : m.piece.pieceType = .king
    · -- a king steps onto a neighbouring square
      rw [toSpec_src, toSpec_dst]
      simp only [Spec.attacksFrom, hnk]
      cases m with
      | normal pc s e c =>
        obtain ⟨h1, h2⟩ := hs.2.2 hnk
        have : e.row ≠ s.row ∨ e.col ≠ s.col := by
          by_cases h : e.row = s.row
          · right; intro h'; apply hf.2.2.1; cases s; cases e; simp_all
          · left; exact h
        exact decide_eq_true (by simp only [Move.stop, Move.start]; omega)
      | promotion o t s e c | enPassant o sc ec => cases hnk
      | castlingShort o | castlingLong o => exact absurd rfl hocc
    · -- knights and sliders are generated for the squares they attack
      obtain ⟨-, p, pc', hp, -, ho, hmem⟩ := mem_pseudoMoves.1 hm
      have hpc := (pieceMoves_shape_rf hp ho m hmem).2
      obtain ⟨q, -, hatt, -, rfl⟩ := (g.pieceMoves_simple_iff hp (hpc ▸ hnp) (hpc ▸ hnk) m).1 hmem
      exact hatt

/-- **if the king of the side not to move is not attacked, no generated move captures a king** -/
theorem noKingCapture_of_safe (hw : g.WF) (hm : m ∈ g.pseudoMoves)
    (hsafe : g.isTargeted (g.kingPos g.player.other) g.player.other = false) :
    g.NoKingCapture m := by
  intro pc hat hking
  obtain ⟨hf, hmo⟩ := generated_fits hw hm
  have hs := generated_shape' hm
  have hown := hs.cap pc ((abs_at_dst hf).symm.trans hat)
  have hpc : pc = ⟨.king, g.player.other⟩ := piece_eq hking (owner_other hown)
  subst hpc
  have hb := Spec.APos.onBoard_of_at hat
  have hv : (Pos.mk m.toSpec.dst.1 m.toSpec.dst.2).Valid := Pos.valid_mk hb
  have hget : g.get ⟨m.toSpec.dst.1, m.toSpec.dst.2⟩ = some ⟨.king, g.player.other⟩ := by
    rw [g.get_eq_at _ hv]; exact hat
  have hkp := hw.kings.unique _ _ hv hget
  obtain ⟨mover, hsrc, hmown, hatt⟩ := generated_capture_attacks hw hm (by rw [hat]; simp)
  rw [hkp, g.isTargeted_iff_attacked hv, Player.other_other] at hsafe
  have : Spec.attacked g.abs (m.toSpec.dst.1, m.toSpec.dst.2) g.player = true :=
    (Spec.attacked_iff _ _ _).2 ⟨_, mover, hsrc, hmown, hatt⟩
  rw [hsafe] at this
  cases this

/-- **C02 without side condition on the move**: in a position where the side not to move has
its king and that king is not attacked, every generated move — checked or unchecked — leads to
the position the rules prescribe. -/
theorem push_abs_of_safe (hw : g.WF) (hko : g.kingExists g.player.other = true)
    (hsafe : g.isTargeted (g.kingPos g.player.other) g.player.other = false)
    (hm : m ∈ g.pseudoMoves) : (g.push m).abs = Spec.play g.abs m.toSpec :=
  push_abs_noKingCapture hw hko hm (noKingCapture_of_safe hw hm hsafe)

theorem push_abs_checked_of_safe (hw : g.WF) (hko : g.kingExists g.player.other = true)
    (hsafe : g.isTargeted (g.kingPos g.player.other) g.player.other = false)
    (hm : m ∈ (g.getMoves true).1) : (g.push m).abs = Spec.play g.abs m.toSpec :=
  push_abs_of_safe hw hko hsafe (getMoves_subset hw true hm)

/-- the same with the hypothesis in the rules' words (`Spec.sane` contains
`!inCheck a a.side.other`): the side not to move is not in check -/
theorem push_abs_of_notInCheck (hw : g.WF)
    (hko : g.get (g.kingPos g.player.other) = some ⟨.king, g.player.other⟩)
    (hnc : Spec.inCheck g.abs g.abs.side.other = false)
    (hm : m ∈ g.pseudoMoves) : (g.push m).abs = Spec.play g.abs m.toSpec := by
  have hex : g.kingExists g.player.other = true := by unfold kingExists; rw [hko]; simp
  have := g.kingSafe_iff g.player.other hex hw.kings (fun pc h => by rw [hko] at h; cases h; rfl)
  have hnc' : Spec.inCheck g.abs g.player.other = false := hnc
  rw [hnc'] at this
  exact push_abs_of_safe hw hex (by simpa using this) hm

/-- **C02 for the checked list of a position whose side not to move is not in check** -/
theorem push_abs_checked_of_notInCheck (hw : g.WF)
    (hko : g.get (g.kingPos g.player.other) = some ⟨.king, g.player.other⟩)
    (hnc : Spec.inCheck g.abs g.abs.side.other = false)
    (hm : m ∈ (g.getMoves true).1) : (g.push m).abs = Spec.play g.abs m.toSpec :=
  push_abs_of_notInCheck hw hko hnc (getMoves_subset hw true hm)

end Game
end Chess

#print axioms Chess.Game.generated_capture_attacks
#print axioms Chess.Game.noKingCapture_of_safe
#print axioms Chess.Game.push_abs_of_safe
#print axioms Chess.Game.push_abs_checked_of_safe
#print axioms Chess.Game.push_abs_of_notInCheck
#print axioms Chess.Game.push_abs_checked_of_notInCheck
