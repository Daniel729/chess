import Chess.Lemmas.RefineSquare

/-!
# C02 — corollaries of the refinement square
-/
namespace Chess

/-- the rules, move after move -/
def Spec.playAll (a : Spec.APos) (us : List Spec.UciMove) : Spec.APos := us.foldl Spec.play a

namespace Game

/-- the engine, move after move -/
def pushAll (g : Game) (ms : List Move) : Game := ms.foldl push g

/-- each move is generated in the game reached so far (which is well formed: `push_wf` proves
that, here it is carried along) and satisfies the side condition -/
def GeneratedSeq : Game → List Move → Prop
  | _, [] => True
  | g, m :: ms => g.WF ∧ m ∈ g.pseudoMoves ∧ g.HomeSafe m ∧ GeneratedSeq (g.push m) ms

/-- **the refinement square, iterated**: a whole line of generated moves -/
theorem pushAll_abs : ∀ (ms : List Move) (g : Game), GeneratedSeq g ms →
    (pushAll g ms).abs = Spec.playAll g.abs (ms.map Move.toSpec)
  | [], _, _ => rfl
  | m :: ms, g, ⟨hw, hm, hh, hrest⟩ => by
    show (pushAll (g.push m) ms).abs = Spec.playAll (Spec.play g.abs m.toSpec) (ms.map Move.toSpec)
    rw [pushAll_abs ms (g.push m) hrest, push_abs hw hm hh]

variable {g : Game} {m : Move}

/-! ### en passant after a double step -/

theorem push_abs_at (g : Game) (m : Move) (s : Spec.Sq) :
    (g.push m).abs.at s = Spec.atB_rf (applyMoveG g m).board s := by
  rw [← push_board]; rfl

/-- **the en-passant file is recorded exactly after a double pawn step that lands beside an
enemy pawn** -/
theorem ep_after_double_push_iff (hw : g.WF) (hm : m ∈ g.pseudoMoves) (f : Nat) :
    (g.push m).abs.ep = some f ↔
      ∃ start stop, m = .normal ⟨.pawn, g.player⟩ start stop none
        ∧ (stop.row - start.row).natAbs = 2 ∧ stop.col = start.col ∧ start.col = (f : Int)
        ∧ ((g.push m).abs.at (stop.row, stop.col - 1) = some ⟨.pawn, g.player.other⟩
            ∨ (g.push m).abs.at (stop.row, stop.col + 1) = some ⟨.pawn, g.player.other⟩) := by
  obtain ⟨hf, hmo⟩ := generated_fits hw hm
  have hs := generated_shape' hm
  have h0 := hf.step.vstart.2.2.1
  rw [abs_ep_rf, push_top, pushState_ep hf hs, recordsFile, besideTest_eq _ _ hf.step.vstop]
  simp only [push_abs_at]
  constructor
  · intro h
    split at h
    · rename_i hc
      simp only [Bool.and_eq_true, decide_eq_true_eq, Bool.or_eq_true] at hc
      obtain ⟨⟨hp, hd⟩, hbes⟩ := hc
      obtain ⟨pc, s, e, rfl, hcol⟩ := double_step hs hp hd
      obtain rfl : pc = ⟨.pawn, g.player⟩ := piece_eq hp hmo.1
      have := Option.some.inj h
      exact ⟨s, e, rfl, hd, hcol, by simp only [Move.start] at this h0; omega, hbes⟩
    · cases h
  · rintro ⟨s, e, rfl, hd, hcol, hfile, hbes⟩
    rw [if_pos]
    · simp only [Move.start] at h0 ⊢
      congr 1; omega
    · simp only [Bool.and_eq_true, decide_eq_true_eq, Bool.or_eq_true]
      exact ⟨⟨rfl, hd⟩, hbes⟩

/-! ### a rook captured on its home square takes the castling right with it -/

/-- **any generated move arriving on a rook's home square removes that right** — in the engine
(which looks at the captured piece) as in the rules (which look at the square) -/
theorem right_lost_on_rook_home (hw : g.WF) (hm : m ∈ g.pseudoMoves) (pl : Player) (ks : Bool)
    (hdst : m.toSpec.dst = (homeRow pl, if ks then 7 else 0)) :
    (g.push m).abs.right pl ks = false ∧ (Spec.play g.abs m.toSpec).right pl ks = false := by
  have hf := (generated_fits hw hm).1
  constructor
  · rw [abs_right, push_top, pushState_right hf (generated_shape' hm), midState_right]
    cases hr : g.top.right pl ks
    · rfl
    · -- the rook is still at home, so it is the piece captured
      have e : m.stop = rookHome pl ks := (sq_eq_iff _ _ _).1 ((toSpec_dst m).symm.trans hdst)
      have hc : m.cap = some ⟨.rook, pl⟩ := by
        rw [← hf.step.get_stop, e]; exact (rightsInv_right hw.rights hr).1
      simp [hc, e]
  · rw [Spec.play_right (abs_at_src hf), hdst]
    simp

/-- **a promoting pawn that captures a rook on its home square removes that right** -/
theorem rights_after_rook_capture (hw : g.WF) {o : Player} {t : PieceType} {start stop : Pos}
    {pl : Player} {ks : Bool}
    (hm : Move.promotion o t start stop (some ⟨.rook, pl⟩) ∈ g.pseudoMoves)
    (hstop : stop = rookHome pl ks) :
    (g.push (.promotion o t start stop (some ⟨.rook, pl⟩))).abs.right pl ks = false
    ∧ (Spec.play g.abs (Move.toSpec (.promotion o t start stop (some ⟨.rook, pl⟩)))).right pl ks = false :=
  right_lost_on_rook_home hw hm pl ks (by subst hstop; rfl)

/-! ### where the square does not commute: the capture of a king that never moved

`Spec.play` withdraws a castling right as soon as the king's home square is touched; the engine's
`clearCaptured` only looks at captured *rooks*. So when an unchecked search line captures a king
standing on its home square with a right still set, the engine keeps that (now meaningless) right
and the rules drop it. This is the only way the square can fail (`push_abs_weak`, `push_abs`);
the side that lost its king is to move next and `get_moves` answers with the empty list. -/

theorem king_capture_rights_differ (hw : g.WF) (hm : m ∈ g.pseudoMoves) (ks : Bool)
    (hr : g.top.right g.player.other ks = true)
    (hdst : m.toSpec.dst = (homeRow g.player.other, 4)) :
    (g.push m).abs.right g.player.other ks = true
    ∧ (Spec.play g.abs m.toSpec).right g.player.other ks = false := by
  have hf := (generated_fits hw hm).1
  constructor
  · rw [abs_right, push_top, pushState_right hf (generated_shape' hm), midState_right, hr]
    have h2 : m.stop ≠ rookHome g.player.other ks := by
      rw [(sq_eq_iff _ _ _).1 ((toSpec_dst m).symm.trans hdst)]
      cases ks <;> simp [rookHome]
    -- the rook at home there is the other side's, the piece that moves is the mover's
    have h1 : m.start ≠ rookHome g.player.other ks := by
      intro e1
      have := hf.step.get_start
      rw [e1, (rightsInv_right hw.rights hr).1] at this
      have ho := generated_piece_owner hm
      rw [← Option.some.inj this] at ho
      exact absurd ho (Player.other_ne _)
    simp [h1, h2, Player.ne_other]
  · rw [Spec.play_right (abs_at_src hf), hdst]
    simp

/-! ### the text of a move -/

/-- **the rules' text of a move is the engine's UCI text** (for every move, no hypothesis) -/
theorem toSpec_uci (m : Move) : (m.toSpec).text = m.uci := by
  cases m with
  | normal pc s e cap => rfl
  | promotion o t s e cap => cases t <;> rfl
  | castlingShort o => cases o <;> decide
  | castlingLong o => cases o <;> decide
  | enPassant o sc ec => cases o <;> rfl

end Game
end Chess

/-! ### The counterexample, executed

`4k3/8/8/8/8/8/4q3/4K2R b K -` (not a sane position: White, not to move, is in check). The
unchecked — and, the filter only protecting the mover's own king, also the checked — list
contains `e2e1`, the capture of the white king on its home square. Engine: `... w K -`,
rules: `... w - -`. Every other move of that position commutes. -/

def refineDemo (fen : String) : Nat × List (String × String × String) :=
  match Chess.Game.ofFen fen.toList with
  | .ok g =>
    (g.pseudoMoves.length, g.pseudoMoves.filterMap (fun m =>
      let a1 := (g.push m).abs
      let a2 := Chess.Spec.play g.abs m.toSpec
      if a1 ≠ a2 then
        some (String.ofList m.uci, String.ofList (Chess.Spec.render4 a1), String.ofList (Chess.Spec.render4 a2))
      else none))
  | _ => (0, [])

/-- info: (27, [("e2e1", "4k3/8/8/8/8/8/8/4q2R w K -", "4k3/8/8/8/8/8/8/4q2R w - -")]) -/
#guard_msgs in
#eval refineDemo "4k3/8/8/8/8/8/4q3/4K2R b K - 0 1"

/-- info: (31, []) -/
#guard_msgs in
#eval refineDemo "r3k2r/pPpp1ppp/8/3Pp3/8/8/P1PP2PP/R3K2R w KQkq e6 0 1"

#print axioms Chess.Game.king_capture_rights_differ
#print axioms Chess.Game.right_lost_on_rook_home
#print axioms Chess.Game.rights_after_rook_capture
#print axioms Chess.Game.toSpec_uci
#print axioms Chess.Game.pushAll_abs
#print axioms Chess.Game.ep_after_double_push_iff
