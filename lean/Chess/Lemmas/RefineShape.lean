import Chess.Lemmas.Generated
import Chess.Lemmas.Attack

/-!
# C02, part 1 — the shape of generated moves

What `Spec.play` infers from the squares of a move (en-passant capture: a pawn changing file onto
an empty square; castling: a king changing file by two; double step: a pawn changing row by two)
agrees with the *kind* of move the engine generated, because every generated move satisfies
`Shape` (`generated_shape'`).
-/
namespace Chess

/-! Every move takes one piece from one square to another, whatever its kind: the king when
castling, the capturing pawn in an en-passant capture. These four readings are what `Move.toSpec`
keeps of a move, in the engine's coordinates. -/
namespace Move
open Game

def piece : Move → Piece
  | .normal pc _ _ _ => pc
  | .promotion o _ _ _ _ => ⟨.pawn, o⟩
  | .enPassant o _ _ => ⟨.pawn, o⟩
  | .castlingShort o => ⟨.king, o⟩
  | .castlingLong o => ⟨.king, o⟩

def start : Move → Pos
  | .normal _ s _ _ => s
  | .promotion _ _ s _ _ => s
  | .enPassant o sc ec => (epSquares o sc ec).1
  | .castlingShort o => ⟨homeRow o, 4⟩
  | .castlingLong o => ⟨homeRow o, 4⟩

def stop : Move → Pos
  | .normal _ _ e _ => e
  | .promotion _ _ _ e _ => e
  | .enPassant o sc ec => (epSquares o sc ec).2.1
  | .castlingShort o => ⟨homeRow o, 6⟩
  | .castlingLong o => ⟨homeRow o, 2⟩

/-- what the move records as standing on its arrival square -/
def cap : Move → Option Piece
  | .normal _ _ _ c => c
  | .promotion _ _ _ _ c => c
  | _ => none

end Move

namespace Game

/-- Shape facts of a generated move (beyond `Fits`/`MoverOk`). -/
def Shape (g : Game) : Move → Prop
  | .normal pc start stop cap =>
    (∀ c, cap = some c → c.owner ≠ g.player)
    ∧ (pc.pieceType = .pawn →
        (stop.col ≠ start.col → cap ≠ none)
        ∧ (stop.row = start.row + Spec.forward pc.owner
            ∨ (stop.row = start.row + 2 * Spec.forward pc.owner ∧ stop.col = start.col ∧ cap = none))
        ∧ (cap ≠ none → (stop.col - start.col).natAbs = 1))
    ∧ (pc.pieceType = .king → (stop.col - start.col).natAbs ≤ 1 ∧ (stop.row - start.row).natAbs ≤ 1)
  | .promotion _ _ start stop cap =>
    (∀ c, cap = some c → c.owner ≠ g.player)
    ∧ (stop.col ≠ start.col → cap ≠ none)
    ∧ stop.row = start.row + Spec.forward g.player
    ∧ (cap ≠ none → (stop.col - start.col).natAbs = 1)
  | .enPassant _ _ _ => True
  | .castlingShort _ => True
  | .castlingLong _ => True

/-! Each generator, called for the piece `pc`, yields moves of that shape whose moving piece is
`pc` itself. -/

theorem kingMoves_shape_rf {g : Game} {pc : Piece} {p : Pos} (ho : pc.owner = g.player)
    (hk : pc.pieceType = .king) : ∀ m ∈ kingMoves g pc p, g.Shape m ∧ m.piece = pc := by
  intro m hm
  rcases (kingMoves_spec ..).1 hm with ⟨d, hd, hm⟩ | hm | hm
  · obtain ⟨q, hq, hown, _, rfl⟩ := (mem_kingStep ..).1 hm
    obtain ⟨_, hr, hc⟩ := Pos.add_spec hq
    rw [mem_kingDeltas] at hd
    refine ⟨⟨hown, fun e => ?_, fun _ => ⟨by omega, by omega⟩⟩, rfl⟩
    rw [hk] at e; cases e
  · obtain ⟨_, rfl⟩ := (mem_castleShort ..).1 hm
    exact ⟨trivial, (piece_eq hk ho).symm⟩
  · obtain ⟨_, rfl⟩ := (mem_castleLong ..).1 hm
    exact ⟨trivial, (piece_eq hk ho).symm⟩

section pawn
variable {g : Game} {pc : Piece} {p : Pos} {m : Move} (ho : pc.owner = g.player)
  (hk : pc.pieceType = .pawn)
include ho hk

/-- a single pawn step (`dr = fwd`) onto `q` holding `cap`, promoting on the last row -/
theorem arrive_shape_rf {q : Pos} {cap : Option Piece} {lr : Int}
    (hr : q.row = p.row + Spec.forward pc.owner)
    (hcap : ∀ x, cap = some x → x.owner ≠ g.player) (hcol : q.col ≠ p.col → cap ≠ none)
    (hdiag : cap ≠ none → (q.col - p.col).natAbs = 1)
    (h : PawnArrive g pc p q cap lr m) : g.Shape m ∧ m.piece = pc := by
  unfold PawnArrive at h
  split at h
  · obtain ⟨t, _, rfl⟩ := h
    exact ⟨⟨hcap, hcol, ho ▸ hr, hdiag⟩, (piece_eq hk ho).symm⟩
  · subst h
    exact ⟨⟨hcap, fun _ => ⟨hcol, .inl hr, hdiag⟩, fun e => by rw [hk] at e; cases e⟩, rfl⟩

theorem pawnMoves_shape_rf : ∀ m ∈ pawnMoves g pc p, g.Shape m ∧ m.piece = pc := by
  intro m hm
  rcases (pawnMoves_spec ..).1 hm with ⟨_, _, _, rfl⟩ | ⟨q, hq, _, harr⟩
      | ⟨d, hd, q, o, hq, _, hoo, harr⟩ | ⟨_, _, _, rfl⟩
  · refine ⟨⟨fun c hc => (nomatch hc), fun _ => ⟨fun h => absurd (Int.add_zero _) h,
      .inr ⟨rfl, Int.add_zero _, rfl⟩, fun h => absurd rfl h⟩,
      fun e => by rw [hk] at e; cases e⟩, rfl⟩
  · obtain ⟨_, hr, hc⟩ := Pos.add_spec hq
    exact arrive_shape_rf ho hk hr (fun x hx => by cases hx)
      (fun h => absurd (hc.trans (Int.add_zero _)) h) (fun h => absurd rfl h) harr
  · obtain ⟨_, hr, hc⟩ := Pos.add_spec hq
    have hd' : d.1 = Spec.forward pc.owner ∧ d.2.natAbs = 1 := by
      simp only [List.mem_cons, List.not_mem_nil, or_false] at hd
      rcases hd with rfl | rfl <;> exact ⟨rfl, rfl⟩
    exact arrive_shape_rf ho hk (hd'.1 ▸ hr) (fun x hx => by cases hx; exact ho ▸ hoo)
      (fun _ => by simp) (fun _ => by omega) harr
  · exact ⟨trivial, (piece_eq hk ho).symm⟩

end pawn

theorem pieceMoves_shape_rf {g : Game} {pc : Piece} {p : Pos} (hp : p.Valid) (ho : pc.owner = g.player) :
    ∀ m ∈ pieceMoves g pc p, g.Shape m ∧ m.piece = pc := by
  rcases pieceMoves_cases g pc p with ⟨hk, e⟩ | ⟨hk, e⟩ | ⟨hnp, hnk⟩
  · rw [e]; exact pawnMoves_shape_rf ho hk
  · rw [e]; exact kingMoves_shape_rf ho hk
  · -- knights and sliders: `Normal` moves of `pc` onto squares that hold no own piece
    intro m hm
    obtain ⟨q, -, -, hno, rfl⟩ := (g.pieceMoves_simple_iff hp hnp hnk m).1 hm
    exact ⟨⟨hno, fun e => absurd e hnp, fun e => absurd e hnk⟩, rfl⟩

/-- **every generated move has the shape its kind promises** (no invariant needed) -/
theorem generated_shape' {g : Game} {m : Move} (hm : m ∈ g.pseudoMoves) : g.Shape m := by
  obtain ⟨_, p, pc, hp, _, ho, hm⟩ := mem_pseudoMoves.1 hm
  exact (pieceMoves_shape_rf hp ho m hm).1

theorem generated_shape_rf {g : Game} (_hw : g.WF) {m : Move} (hm : m ∈ g.pseudoMoves) : g.Shape m :=
  generated_shape' hm

theorem generated_piece_owner {g : Game} {m : Move} (hm : m ∈ g.pseudoMoves) :
    m.piece.owner = g.player := by
  obtain ⟨_, p, pc, hp, _, ho, hm⟩ := mem_pseudoMoves.1 hm
  rw [(pieceMoves_shape_rf hp ho m hm).2]; exact ho

/-- a generated move was generated for a side that still has its king -/
theorem generated_kingExists {g : Game} {m : Move} (hm : m ∈ g.pseudoMoves) :
    g.kingExists g.player = true := (mem_pseudoMoves.1 hm).1

end Game
end Chess
