import Chess.Lemmas.RefineBase

/-!
# C02 — playing a move produces the position the rules prescribe (the refinement square)
-/
namespace Chess
namespace Game

/-- the move touches the home square of `pl`'s king neither with its start nor with its arrival -/
def HomeSafeAt (m : Move) (pl : Player) : Prop :=
  m.toSpec.src ≠ (homeRow pl, 4) ∧ m.toSpec.dst ≠ (homeRow pl, 4)

/-- The move does not touch the king's home square of the side *not* to move while that side
still carries a castling right. (With both kings on the board this says: the move does not
capture a king that has never moved — see `homeSafe_of_noKingCapture`.) -/
def HomeSafe (g : Game) (m : Move) : Prop :=
  ∀ ks, g.top.right g.player.other ks = true → HomeSafeAt m g.player.other

/-- **The refinement square, field by field.** Board, side to move, en-passant file and the
mover's own castling rights always come out as the rules prescribe; a right of the side not to
move comes out right as soon as the move does not touch that king's home square. -/
structure Refines (g : Game) (m : Move) : Prop where
  board : (g.push m).abs.board = (Spec.play g.abs m.toSpec).board
  side : (g.push m).abs.side = (Spec.play g.abs m.toSpec).side
  ep : (g.push m).abs.ep = (Spec.play g.abs m.toSpec).ep
  right : ∀ pl ks, (pl = g.player.other → g.top.right pl ks = true → HomeSafeAt m pl) →
    (g.push m).abs.right pl ks = (Spec.play g.abs m.toSpec).right pl ks

theorem player_eq_or (g : Game) (pl : Player) : pl = g.player ∨ pl = g.player.other := by
  cases pl <;> cases g.player <;> simp [Player.other]

/-! ## The board

Both sides write the same squares, in different orders. -/

theorem board3 (g : Game) {a b c : Pos} (va : a.Valid) (vb : b.Valid) (vc : c.Valid)
    (hab : a ≠ b) (hac : a ≠ c) (hbc : b ≠ c) (x y z : Option Piece) :
    (((g.setPosition c z).setPosition a x).setPosition b y).board
      = (((g.setPosition a x).setPosition b y).setPosition c z).board := by
  apply board_ext
  intro q hq
  rw [get_setPosition _ _ _ vb q hq, get_setPosition _ _ _ va q hq, get_setPosition _ _ _ vc q hq,
    get_setPosition _ _ _ vc q hq, get_setPosition _ _ _ vb q hq, get_setPosition _ _ _ va q hq]
  by_cases e1 : q = a
  · subst e1; simp [hab, hac]
  · by_cases e2 : q = b
    · subst e2; simp [hbc]
    · simp [e1, e2]

theorem board4 (g : Game) {a b c d : Pos} (va : a.Valid) (vb : b.Valid) (vc : c.Valid) (vd : d.Valid)
    (hab : a ≠ b) (hac : a ≠ c) (had : a ≠ d) (hbc : b ≠ c) (hbd : b ≠ d) (hcd : c ≠ d)
    (x y z w : Option Piece) :
    ((((g.setPosition a x).setPosition b y).setPosition c z).setPosition d w).board
      = ((((g.setPosition b y).setPosition d w).setPosition a x).setPosition c z).board := by
  apply board_ext
  intro q hq
  rw [get_setPosition _ _ _ vd q hq, get_setPosition _ _ _ vc q hq, get_setPosition _ _ _ vb q hq,
    get_setPosition _ _ _ va q hq, get_setPosition _ _ _ vc q hq, get_setPosition _ _ _ va q hq,
    get_setPosition _ _ _ vd q hq, get_setPosition _ _ _ vb q hq]
  by_cases e1 : q = a
  · subst e1; simp [hab, hac, had]
  · by_cases e2 : q = b
    · subst e2; simp [e1, hbc, hbd]
    · by_cases e3 : q = c
      · subst e3; simp [hcd]
      · simp [e1, e2, e3]

variable {g : Game} {m : Move}

theorem stepBoard_eq {s e : Pos} {promo : Option PieceType} {pc : Piece} (hv1 : s.Valid)
    (hv2 : e.Valid) :
    Spec.stepBoard g.abs ⟨(s.row, s.col), (e.row, e.col), promo⟩ pc
      = ((g.setPosition s none).setPosition e (some (match promo with
          | some t => ⟨t, pc.owner⟩
          | none => pc))).board := by
  show Spec.setSq (Spec.setSq g.board (s.row, s.col) none) (e.row, e.col) _ = _
  rw [setSq_board g s hv1, setSq_board _ e hv2]
  rfl

/-- a step the rules read neither as castling nor as an en-passant capture: two writes -/
theorem playBoard_two {s e : Pos} {promo : Option PieceType} {pc : Piece} (hv1 : s.Valid)
    (hv2 : e.Valid) (hc : pc.pieceType = .king → (e.col - s.col).natAbs ≠ 2)
    (he : pc.pieceType = .pawn → e.col ≠ s.col → g.get e ≠ none) :
    Spec.playBoard g.abs ⟨(s.row, s.col), (e.row, e.col), promo⟩ pc
      = ((g.setPosition s none).setPosition e (some (match promo with
          | some t => ⟨t, pc.owner⟩
          | none => pc))).board := by
  rw [Spec.playBoard_plain, stepBoard_eq hv1 hv2]
  · simpa using hc
  · show (_ && _ && (g.abs.at (e.row, e.col)).isNone) = false
    rw [← g.get_eq_at e hv2]
    by_cases hp : pc.pieceType = .pawn
    · by_cases hcol : e.col = s.col
      · simp [hcol]
      · cases h : g.get e
        · exact absurd h (he hp hcol)
        · simp
    · simp [hp]

/-- a pawn changing file onto an empty square: the rules take the pawn beside it -/
theorem playBoard_three {s e : Pos} {o : Player} (hv1 : s.Valid) (hv2 : e.Valid)
    (hv3 : (⟨s.row, e.col⟩ : Pos).Valid) (hcol : e.col ≠ s.col) (hrow : e.row ≠ s.row)
    (hempty : g.get e = none) :
    Spec.playBoard g.abs ⟨(s.row, s.col), (e.row, e.col), none⟩ ⟨.pawn, o⟩
      = (((g.setPosition ⟨s.row, e.col⟩ none).setPosition s none).setPosition e (some ⟨.pawn, o⟩)).board := by
  rw [Spec.playBoard_ep (by simp)
    (by simp [← g.get_eq_at e hv2, hempty, Int.sub_eq_zero, hcol]), stepBoard_eq hv1 hv2]
  show Spec.setSq _ (s.row, e.col) none = _
  rw [setSq_board _ ⟨s.row, e.col⟩ hv3]
  exact (board3 g hv1 hv2 hv3 (fun h => hcol (by rw [h])) (fun h => hcol (by rw [h]))
    (fun h => hrow (by rw [h])) none _ none).symm

theorem homeRow_ne_rf (o : Player) {c d : Int} (h : c ≠ d) : (⟨homeRow o, c⟩ : Pos) ≠ ⟨homeRow o, d⟩ := by
  simp [h]

/-- the king going two files aside: the rules move the rook of that side as well -/
theorem playBoard_four {o : Player} {kc rc rt : Int}
    (h : (kc = 6 ∧ rc = 7 ∧ rt = 5) ∨ (kc = 2 ∧ rc = 0 ∧ rt = 3)) :
    Spec.playBoard g.abs ⟨(homeRow o, 4), (homeRow o, kc), none⟩ ⟨.king, o⟩
      = ((((g.setPosition ⟨homeRow o, rc⟩ none).setPosition ⟨homeRow o, 4⟩ none).setPosition
          ⟨homeRow o, rt⟩ (some ⟨.rook, o⟩)).setPosition ⟨homeRow o, kc⟩ (some ⟨.king, o⟩)).board := by
  have v4 := homeRow_valid o 4 (by omega) (by omega)
  have vk := homeRow_valid o kc (by omega) (by omega)
  have vr := homeRow_valid o rc (by omega) (by omega)
  have vt := homeRow_valid o rt (by omega) (by omega)
  have hb := board4 g vr v4 vt vk (homeRow_ne_rf o (by omega)) (homeRow_ne_rf o (by omega))
    (homeRow_ne_rf o (by omega)) (homeRow_ne_rf o (by omega)) (homeRow_ne_rf o (by omega))
    (homeRow_ne_rf o (by omega)) none none (some ⟨.rook, o⟩) (some ⟨.king, o⟩)
  rw [hb, Spec.playBoard_castle rfl (by rcases h with ⟨rfl, -⟩ | ⟨rfl, -⟩ <;> rfl), stepBoard_eq v4 vk]
  rcases h with ⟨rfl, rfl, rfl⟩ | ⟨rfl, rfl, rfl⟩
  · rw [if_pos (by simp), setSq_board _ ⟨homeRow o, 7⟩ vr, setSq_board _ ⟨homeRow o, 5⟩ vt]
  · rw [if_neg (by simp), setSq_board _ ⟨homeRow o, 0⟩ vr, setSq_board _ ⟨homeRow o, 3⟩ vt]

theorem applyMoveG_board_play (hf : g.Fits m) (hs : g.Shape m) :
    (applyMoveG g m).board = Spec.playBoard g.abs m.toSpec m.piece := by
  cases m with
  | normal pc s e c =>
    obtain ⟨hv1, hv2, -, -, hg2, -⟩ := hf
    obtain ⟨-, hpawn, hking⟩ := hs
    refine Eq.trans ?_ (playBoard_two hv1 hv2 (fun hk => ?_) (fun hp hcol => ?_)).symm
    · simp only [applyMoveG]
      rw [apply_ite Game.board, setKingPos_board, ite_self]
      rfl
    · have := (hking hk).1; omega
    · rw [hg2]; exact (hpawn hp).1 hcol
  | promotion o t s e c =>
    obtain ⟨hv1, hv2, -, -, hg2⟩ := hf
    refine Eq.trans ?_ (playBoard_two (promo := some t) (pc := ⟨.pawn, o⟩) hv1 hv2 (by simp)
      (fun _ hcol => by rw [hg2]; exact hs.2.1 hcol)).symm
    rfl
  | enPassant o sc ec =>
    obtain ⟨h1, h2, h3, h4, hne, -, hnew, -⟩ := hf
    obtain ⟨v1, v2, v3⟩ := epSquares_valid o sc ec h1 h2 h3 h4
    cases o
    all_goals
      refine Eq.trans ?_ (playBoard_three v1 v2 v3 (Ne.symm hne) (by simp [epSquares]) hnew).symm
      rfl
  | castlingShort o =>
    refine Eq.trans ?_ (playBoard_four (.inl ⟨rfl, rfl, rfl⟩)).symm
    simp only [applyMoveG, setKingPos_board]
  | castlingLong o =>
    refine Eq.trans ?_ (playBoard_four (.inr ⟨rfl, rfl, rfl⟩)).symm
    simp only [applyMoveG, setKingPos_board]

/-! ## The en-passant file -/

theorem isEnemyPawn_eq (o : Option Piece) (owner : Player) :
    isEnemyPawn o owner = decide (o = some ⟨.pawn, owner.other⟩) := by
  cases o with
  | none => simp [isEnemyPawn]
  | some p =>
    obtain ⟨t, ow⟩ := p
    cases t <;> cases ow <;> cases owner <;> simp [isEnemyPawn, Player.other]

theorem atB_offBoard (b : Vector (Option Piece) 64) (s : Spec.Sq) (h : Spec.onBoard s = false) :
    Spec.atB_rf b s = none := by
  unfold Spec.atB_rf; simp [h]

/-- a guarded probe of the engine is an unguarded read of the rules -/
theorem probe_eq (g1 : Game) (r c : Int) (hr : 0 ≤ r ∧ r < 8) (owner : Player) (guard : Prop)
    [Decidable guard] (hg : guard ↔ 0 ≤ c ∧ c < 8) :
    (if guard then isEnemyPawn (g1.get ⟨r, c⟩) owner else false)
      = decide (Spec.atB_rf g1.board (r, c) = some ⟨.pawn, owner.other⟩) := by
  split
  · rename_i h
    rw [isEnemyPawn_eq, get_eq_atB g1 ⟨r, c⟩ ⟨hr.1, hr.2, (hg.1 h).1, (hg.1 h).2⟩]
  · rename_i h
    rw [atB_offBoard]
    · simp
    · rw [Bool.eq_false_iff]; exact fun h' => h (hg.2 ((Spec.onBoard_iff _).1 h').2.2)

theorem besideTest_eq (g1 : Game) (stop : Pos) (hv : stop.Valid) (owner : Player) :
    besideTest g1 stop owner =
      (decide (Spec.atB_rf g1.board (stop.row, stop.col - 1) = some ⟨.pawn, owner.other⟩)
        || decide (Spec.atB_rf g1.board (stop.row, stop.col + 1) = some ⟨.pawn, owner.other⟩)) := by
  unfold besideTest
  unfold Pos.Valid at hv
  rw [probe_eq g1 _ _ ⟨hv.1, hv.2.1⟩ owner _ (by omega), probe_eq g1 _ _ ⟨hv.1, hv.2.1⟩ owner _ (by omega)]

/-- both sides apply the same test to the same board -/
theorem push_ep (hf : g.Fits m) (hs : g.Shape m) :
    epOf (pushState g m) = (Spec.play g.abs m.toSpec).ep := by
  rw [Spec.play_ep (abs_at_src hf), ← applyMoveG_board_play hf hs, pushState_ep hf hs, recordsFile,
    besideTest_eq _ _ hf.step.vstop, toSpec_src, toSpec_dst]

/-! ## The castling rights -/

theorem and_not_congr {x a b : Bool} (h : x = true → (a = true ↔ b = true)) :
    (x && !a) = (x && !b) := by
  cases x
  · rfl
  · rw [Bool.eq_iff_iff.2 (h rfl)]

/-- the engine (clearing by kind of piece) and the rules (clearing by squares touched) agree on
every castling right -/
theorem push_right (hw : g.WF) (hke : g.kingExists g.player = true) (hf : g.Fits m) (hs : g.Shape m)
    (pl : Player) (ks : Bool)
    (hh : pl = g.player.other → g.top.right pl ks = true → HomeSafeAt m pl) :
    (pushState g m).right pl ks = (Spec.play g.abs m.toSpec).right pl ks := by
  rw [Spec.play_right (abs_at_src hf), abs_right, pushState_right hf hs, midState_right]
  apply and_not_congr
  intro hr
  obtain ⟨-, -, -, hg1, hg2, hk⟩ := hf.step
  obtain ⟨hR, hK, hKe⟩ := rightsInv_right hw.rights hr
  simp only [toSpec_src, toSpec_dst, Bool.or_eq_true, decide_eq_true_eq, sq_eq_iff, Bool.and_eq_true]
  show _ ↔ (((m.start = kingHome pl ∨ m.stop = kingHome pl) ∨ m.start = rookHome pl ks)
    ∨ m.stop = rookHome pl ks)
  constructor
  · rintro (h | ⟨-, h⟩)
    · by_cases hkk : m.piece.pieceType = .king
      · rw [if_pos hkk, decide_eq_true_eq] at h
        left; left; left
        rw [← hK, ← h]; exact (hk hkk).symm
      · by_cases hrr : m.piece.pieceType = .rook
        · rw [if_neg hkk, if_pos hrr, decide_eq_true_eq] at h
          left; right; exact h
        · simp [hkk, hrr] at h
    · right; exact h
  · rintro (((h | h) | h) | h)
    · -- the move starts on the king's home square
      rcases player_eq_or g pl with e | e
      · subst e
        have := hKe hke
        rw [← h, hg1] at this
        left; simp [Option.some.inj this]
      · exact absurd ((toSpec_src m).trans ((sq_eq_iff _ _ _).2 h)) (hh e hr).1
    · rcases player_eq_or g pl with e | e
      · subst e
        have := hKe hke
        rw [← h, hg2] at this
        exact absurd rfl (hs.cap _ this)
      · exact absurd ((toSpec_dst m).trans ((sq_eq_iff _ _ _).2 h)) (hh e hr).2
    · rw [← h, hg1] at hR
      left; simp [Option.some.inj hR, h]
    · rw [← h, hg2] at hR
      right; exact ⟨hR, h⟩

/-! ## The refinement square -/

/-- **every generated move (checked or not) refines the rules field by field** -/
theorem generated_refines (hw : g.WF) (hm : m ∈ g.pseudoMoves) : g.Refines m := by
  have hf := (generated_fits hw hm).1
  have hs := generated_shape' hm
  refine ⟨?_, ?_, ?_, fun pl ks hh => ?_⟩
  · show (g.push m).board = _
    rw [Spec.play_board (abs_at_src hf), push_board]; exact applyMoveG_board_play hf hs
  · show (g.push m).player = _
    rw [Spec.play_side (abs_at_src hf), push_player]; rfl
  · rw [abs_ep_rf, push_top]; exact push_ep hf hs
  · rw [abs_right, push_top]; exact push_right hw (generated_kingExists hm) hf hs pl ks hh

theorem Refines.abs_eq (h : g.Refines m) (hh : g.HomeSafe m) :
    (g.push m).abs = Spec.play g.abs m.toSpec :=
  Spec.APos.ext' h.board h.side (fun pl ks => h.right pl ks (fun e hr => by subst e; exact hh ks hr))
    h.ep

/-- **C02, the refinement square.** For every generated move — checked or unchecked — that does
not touch the home square of a king of the side not to move that still has a castling right,
the engine's successor position is the one the rules prescribe. -/
theorem push_abs (hw : g.WF) (hm : m ∈ g.pseudoMoves) (hh : g.HomeSafe m) :
    (g.push m).abs = Spec.play g.abs m.toSpec :=
  (generated_refines hw hm).abs_eq hh

/-- Without any side condition: board, side to move, en-passant file and the mover's own two
castling rights are the prescribed ones. (Only the rights of the side *not* to move can differ,
and only under `¬ HomeSafe`; see `king_capture_rights_differ` and the executed counterexample in
`RefineCor.lean`.) -/
theorem push_abs_weak (hw : g.WF) (hm : m ∈ g.pseudoMoves) :
    (g.push m).abs.board = (Spec.play g.abs m.toSpec).board
    ∧ (g.push m).abs.side = (Spec.play g.abs m.toSpec).side
    ∧ (g.push m).abs.ep = (Spec.play g.abs m.toSpec).ep
    ∧ ∀ ks, (g.push m).abs.right g.player ks = (Spec.play g.abs m.toSpec).right g.player ks :=
  have h := generated_refines hw hm
  ⟨h.board, h.side, h.ep, fun ks => h.right g.player ks (fun e => absurd e (Player.ne_other _))⟩

/-! ### The side condition in terms of king captures -/

/-- the arrival square of the move does not hold a king -/
def NoKingCapture (g : Game) (m : Move) : Prop :=
  ∀ pc, g.abs.at m.toSpec.dst = some pc → pc.pieceType ≠ .king

/-- with the other side's king on the board, "no king is captured" implies the side condition -/
theorem homeSafe_of_noKingCapture (hw : g.WF) (hko : g.kingExists g.player.other = true)
    (hm : m ∈ g.pseudoMoves) (hn : g.NoKingCapture m) : g.HomeSafe m := by
  intro ks hr
  obtain ⟨-, -, hKe⟩ := rightsInv_right hw.rights hr
  have hk : g.abs.at (homeRow g.player.other, 4) = some ⟨.king, g.player.other⟩ := by
    rw [← hKe hko]
    exact (g.get_eq_at ⟨homeRow g.player.other, 4⟩ (homeRow_valid _ 4 (by omega) (by omega))).symm
  constructor
  · intro e
    have h1 := abs_at_src (generated_fits hw hm).1
    rw [e, hk] at h1
    have h2 := generated_piece_owner hm
    rw [← Option.some.inj h1] at h2
    exact absurd h2 (Player.other_ne _)
  · intro e
    exact hn _ (e ▸ hk) rfl

/-- **C02 for moves that do not capture a king** (both kings on the board) -/
theorem push_abs_noKingCapture (hw : g.WF) (hko : g.kingExists g.player.other = true)
    (hm : m ∈ g.pseudoMoves) (hn : g.NoKingCapture m) :
    (g.push m).abs = Spec.play g.abs m.toSpec :=
  push_abs hw hm (homeSafe_of_noKingCapture hw hko hm hn)

/-- **C02 for the checked list** -/
theorem push_abs_checked (hw : g.WF) (hm : m ∈ (g.getMoves true).1) (hh : g.HomeSafe m) :
    (g.push m).abs = Spec.play g.abs m.toSpec :=
  push_abs hw (getMoves_subset hw true hm) hh

theorem push_abs_checked_noKingCapture (hw : g.WF) (hko : g.kingExists g.player.other = true)
    (hm : m ∈ (g.getMoves true).1) (hn : g.NoKingCapture m) :
    (g.push m).abs = Spec.play g.abs m.toSpec :=
  push_abs_noKingCapture hw hko (getMoves_subset hw true hm) hn

end Game
end Chess

#print axioms Chess.Game.generated_shape_rf
#print axioms Chess.Game.generated_refines
#print axioms Chess.Game.push_abs
#print axioms Chess.Game.push_abs_weak
#print axioms Chess.Game.push_abs_noKingCapture
#print axioms Chess.Game.push_abs_checked
#print axioms Chess.Game.push_abs_checked_noKingCapture
