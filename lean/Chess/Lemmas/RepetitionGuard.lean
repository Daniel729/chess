import Chess.Lemmas.RepetitionGuardAux2
import Chess.Lemmas.Pseudo
import Chess.Lemmas.ScoreRange
import Chess.Lemmas.Reach
import Chess.Lemmas.SearchF

/-!
# The root's repetition guard gives a forced mate up (the known finding of C10, on the model)

`get_best_move_entry` ("prevent threefold repetition"): when the last move of the record equals the
move four plies before it, the move in between that the side to move played four plies ago is taken
out of the root move list with `swap_remove`, before the root loop. With a record `x M x' M' x` (the
opponent has just repeated its move) the move `M` is removed EVEN WHEN IT IS THE ONLY MOVE THAT
KEEPS A FORCED MATE; the engine then plays something else. This is a defect of the engine, observed
on the implementation; here it is stated and proved about the model, for every game interface
`Ops G M`: property C10 ("a search to depth ≥ 5 plays a move that keeps a forced mate in two") is
false of the model in this situation, as it is of the code.

## The hypotheses, and why each is there

* FRESH TABLE. From `{}` the first depth is 1 and, by a depth argument, the root never answers from
  the table during the run: at the start of iteration `k` no entry is deeper than `k - 1`
  (`node_depthLe`: a node with `remaining` plies left stores `depth = remaining`, and below the root
  of iteration `k` that is at most `k - 1`; the root's own entries of earlier iterations have depth
  `< k`), whereas the root's table answer needs `depth ≥ k`. Hence NO HYPOTHESIS ON THE HASH: neither
  a collision nor a transposition back to the root position can smuggle the move back in. (With a
  table left by an earlier search the root can answer the cached move, whatever it is:
  `driver_returns_cached_move`.)
* `2 ≤ (o.checked g).length`: with exactly one legal move the only-move shortcut answers with it
  BEFORE the guard is applied (model and Rust alike: `moves.len() == 1` is tested first).
* `(o.checked g).Nodup`: `swap_remove` takes the first occurrence only; true in chess for
  well-formed games (`chess_checked_nodup`).
* `m0 ∈ o.checked g` is NOT needed for `found ≠ some m0`.
* the evaluation (`EvalOk`, or `Bounded`) together with the flag staying up: they make the FIRST
  iteration return some move. The driver starts from `best_move = moves.first()` — computed before
  the guard — and keeps it until an iteration returns a move; if every score of the first iteration
  is `≤ Score::MIN + 1` no move is returned, and the driver falls back on the first listed move,
  which may be the guarded one: `Example.exHuge` (evaluation `40000`; `#guard`). Alternatively
  (`found_ne_guarded_of_head`) the guarded move is not the first listed one; then nothing is needed
  on the evaluation or the flag.

## Not addressed

Tables left by earlier searches: the statement is false there without the Zobrist hypothesis, and
with it the cached root move of an earlier search of the SAME position, made with another record,
may be the guarded move (the guard is not applied to the table answer). A chess POSITION with such
a record and a mate in two is on the implementation side of the finding.
-/
namespace Chess.Search.Rep
open Chess Chess.Search Chess.Search.Mate Chess.Search.Mate2

/-- **What `repetition` is for chess**: the guard fires with the move `m0` exactly when the move
record (most recent move first) reads `x, M', x', m0, x, …` — the opponent's last move `x` equals
its move four plies earlier, and `m0` is the move the side to move played in between, four plies
ago. In game order: `… x m0 x' M' x`. -/
theorem chess_repetition_iff (g : Game) (m0 : Move) :
    Uci.chessOps.repetition g = some m0 ↔
      ∃ x M' x' rest, g.moveStack = x :: M' :: x' :: m0 :: x :: rest := by
  show (match Uci.listGet? g.moveStack 0, Uci.listGet? g.moveStack 4, Uci.listGet? g.moveStack 3 with
    | some a, some b, some c => if a = b then some c else none
    | _, _, _ => none) = some m0 ↔ _
  generalize g.moveStack = l
  rcases l with _ | ⟨a, _ | ⟨b, _ | ⟨c, _ | ⟨d, _ | ⟨e, rest⟩⟩⟩⟩⟩
  all_goals simp only [Uci.listGet?, List.getElem?_nil, List.getElem?_cons_zero,
    List.getElem?_cons_succ]
  · simp
  · simp
  · simp
  · simp
  · simp
  · constructor
    · intro h
      split at h
      · next hae =>
        cases h
        exact ⟨a, b, c, rest, by rw [hae]⟩
      · cases h
    · rintro ⟨x, M', x', rest', h⟩
      simp only [List.cons.injEq] at h
      obtain ⟨rfl, rfl, rfl, rfl, rfl, _⟩ := h
      simp

/-- the value of `repetition` on a record with at least five moves -/
theorem chess_repetition_of_record (g : Game) (x1 M' x' M x0 : Move) (rest : List Move)
    (h : g.moveStack = x1 :: M' :: x' :: M :: x0 :: rest) :
    Uci.chessOps.repetition g = if x1 = x0 then some M else none := by
  show (match Uci.listGet? g.moveStack 0, Uci.listGet? g.moveStack 4, Uci.listGet? g.moveStack 3 with
    | some a, some b, some c => if a = b then some c else none
    | _, _, _ => none) = _
  rw [h]
  rfl

/-- the checked move list of a well-formed game has no duplicates -/
theorem chess_checked_nodup {g : Game} (hw : g.WF) : (Uci.chessOps.checked g).Nodup := by
  have h := Game.checked_sublist_unchecked hw
  rw [Game.getMoves_false] at h
  exact List.Nodup.sublist h (Game.pseudoMoves_nodup hw)

/-- on reachable games the evaluation is within `±30565`, well inside `±31767`, and reachable games
are closed under the (unchecked) moves the quiescence search plays -/
theorem chess_evalOk : EvalOk Uci.chessOps Reach where
  step := fun x m hx hm => Reach.searched x m false hx hm
  bound := fun x hx => by
    have := Range.eval_range hx
    unfold Range.B at this
    rw [evalBound_eq]
    omega

/-- a reachable game whose record reads `x, M', x', m0, x, …`, with at least two legal moves -/
theorem chess_guarded {g : Game} (h : Reach g) {m0 : Move}
    (hrec : ∃ x M' x' rest, g.moveStack = x :: M' :: x' :: m0 :: x :: rest)
    (hl2 : 2 ≤ (g.getMoves true).1.length) : Guarded Uci.chessOps Reach g m0 :=
  ⟨chess_evalOk, fun m hm => Reach.searched g m true h hm, (chess_repetition_iff g m0).2 hrec,
    chess_checked_nodup (reach_wf h), hl2⟩

/-- **`found_ne_guarded` for chess**: fresh table, flag up, any hook, any depth argument: the
engine does not answer `m0`. -/
theorem chess_found_ne_guarded {g : Game} (h : Reach g) (m0 : Move)
    (hrec : ∃ x M' x' rest, g.moveStack = x :: M' :: x' :: m0 :: x :: rest)
    (hl2 : 2 ≤ (g.getMoves true).1.length) (runs : Nat → Bool) (hr : ∀ i, runs i = true)
    (off : Bool) (md : Option Nat) :
    (driver Uci.chessOps runs g {} off md).found ≠ some m0 :=
  found_ne_guarded _ (chess_guarded h hrec hl2) runs hr off md

/-- **The finding for chess** (both readings): in a reachable game with such a record in which `m0`
is the only move that keeps a forced mate, the engine answers a legal move that does not keep it. -/
theorem chess_guard_gives_up_the_mate {g : Game} (h : Reach g) (m0 : Move)
    (hrec : ∃ x M' x' rest, g.moveStack = x :: M' :: x' :: m0 :: x :: rest)
    (hl2 : 2 ≤ (g.getMoves true).1.length)
    (honly : ∀ m, KeepsForcedMate Uci.chessOps g m → m = m0)
    (runs : Nat → Bool) (hr : ∀ i, runs i = true) (off : Bool) (md : Option Nat) :
    ∃ m, (driver Uci.chessOps runs g {} off md).found = some m ∧ m ∈ (g.getMoves true).1 ∧
      m ≠ m0 ∧ ¬ KeepsForcedMate Uci.chessOps g m ∧ ¬ KeepsMate Uci.chessOps g m := by
  obtain ⟨_, _, m, h1, h2, h3, h4⟩ := guard_gives_up_the_mate _ (chess_guarded h hrec hl2) honly
    runs hr off md
  exact ⟨m, h1, h2, h3, h4, fun hk => h4 hk.weak.forced⟩

/-- the same when only the strong reading is assumed unique -/
theorem chess_guard_gives_up_the_mate_strong {g : Game} (h : Reach g) (m0 : Move)
    (hrec : ∃ x M' x' rest, g.moveStack = x :: M' :: x' :: m0 :: x :: rest)
    (hl2 : 2 ≤ (g.getMoves true).1.length)
    (honly : ∀ m, KeepsMate Uci.chessOps g m → m = m0)
    (runs : Nat → Bool) (hr : ∀ i, runs i = true) (off : Bool) (md : Option Nat) :
    ∃ m, (driver Uci.chessOps runs g {} off md).found = some m ∧ m ∈ (g.getMoves true).1 ∧
      m ≠ m0 ∧ ¬ KeepsMate Uci.chessOps g m :=
  (guard_gives_up_the_mate_strong _ (chess_guarded h hrec hl2) honly runs hr off md).2.2

/-- any flag (a search stopped at any poll, also the first), a well-formed game: if the guarded
move is not the first generated move, it is not answered -/
theorem chess_found_ne_guarded_of_head {g : Game} (hw : g.WF) (m0 : Move)
    (hrec : ∃ x M' x' rest, g.moveStack = x :: M' :: x' :: m0 :: x :: rest)
    (hl : (g.getMoves true).1.length ≠ 1) (hh : (g.getMoves true).1.head? ≠ some m0)
    (runs : Nat → Bool) (off : Bool) (md : Option Nat) :
    (driver Uci.chessOps runs g {} off md).found ≠ some m0 :=
  found_ne_guarded_of_head Uci.chessOps g m0 ((chess_repetition_iff g m0).2 hrec)
    (chess_checked_nodup hw) hl hh runs off md

/-- the faithful driver (`driverF`: the table survives an abort) answers the same move -/
theorem chess_found_ne_guarded_F {g : Game} (h : Reach g) (m0 : Move)
    (hrec : ∃ x M' x' rest, g.moveStack = x :: M' :: x' :: m0 :: x :: rest)
    (hl2 : 2 ≤ (g.getMoves true).1.length) (runs : Nat → Bool) (hr : ∀ i, runs i = true)
    (off : Bool) (md : Option Nat) :
    (driverF Uci.chessOps runs g {} off md).found ≠ some m0 := by
  rw [(F.driverF_agrees Uci.chessOps runs g {} off md).1]
  exact chess_found_ne_guarded h m0 hrec hl2 runs hr off md

end Chess.Search.Rep

#print axioms Chess.Search.Rep.not_mem_rootMoves
#print axioms Chess.Search.Rep.mem_rootMoves_iff
#print axioms Chess.Search.Rep.node_depthLe
#print axioms Chess.Search.Rep.rootSearch_guard
#print axioms Chess.Search.Rep.rootSearch_first
#print axioms Chess.Search.Rep.driver_found_mem_rootMoves
#print axioms Chess.Search.Rep.driver_found_mem_rootMoves_of_head
#print axioms Chess.Search.Rep.found_ne_guarded
#print axioms Chess.Search.Rep.found_ne_guarded_of_bounded
#print axioms Chess.Search.Rep.found_ne_guarded_of_head
#print axioms Chess.Search.Rep.found_legal_ne_guarded
#print axioms Chess.Search.Rep.guard_excludes
#print axioms Chess.Search.Rep.guard_gives_up_the_mate
#print axioms Chess.Search.Rep.guard_gives_up_the_mate_strong
#print axioms Chess.Search.Rep.c10_fails_under_guard
#print axioms Chess.Search.Rep.Example.ex2r_hyps
#print axioms Chess.Search.Rep.Example.ex2r_gives_up
#print axioms Chess.Search.Rep.Example.ex2r_c10_fails
#print axioms Chess.Search.Rep.Example.exHuge_hyps
#print axioms Chess.Search.Rep.chess_repetition_iff
#print axioms Chess.Search.Rep.chess_checked_nodup
#print axioms Chess.Search.Rep.chess_evalOk
#print axioms Chess.Search.Rep.chess_found_ne_guarded
#print axioms Chess.Search.Rep.chess_guard_gives_up_the_mate
#print axioms Chess.Search.Rep.chess_guard_gives_up_the_mate_strong
#print axioms Chess.Search.Rep.chess_found_ne_guarded_of_head
#print axioms Chess.Search.Rep.chess_found_ne_guarded_F
