import Chess.Lemmas.Mate

/-!
# The root's repetition guard: the driver answers a move the root has looped over

For every game interface. `DepthLe d tt` ("no entry deeper than `d`") is kept by every node with
`remaining ≤ d`; so in a run of the driver from the fresh table no entry is deeper than `k - 1` at
the start of iteration `k`, and THE ROOT NEVER ANSWERS FROM THE TABLE, whatever the hash does
(`rootSearch_guard`). With evaluations out of the mate range on a set `P` closed under the
quiescence moves (`EvalOk`) the first iteration returns SOME move (`rootSearch_first`).
-/
namespace Chess.Search.Rep
open Chess.Search Chess.Search.Mate

variable {G M : Type}

section
variable [DecidableEq M]

/-- `swap_remove` of the first occurrence removes the move altogether when the list has no
duplicates -/
theorem not_mem_swapRemoveFirst {x : M} {ms : List M} (h : ms.Nodup) : x ∉ swapRemoveFirst x ms := by
  intro hx
  have := (swapRemoveFirst_perm_erase x ms).mem_iff.1 hx
  exact ((List.Nodup.mem_erase_iff h).1 this).1 rfl

theorem mem_swapRemoveFirst_of_ne {x m : M} {ms : List M} (hm : m ∈ ms) (hne : m ≠ x) :
    m ∈ swapRemoveFirst x ms :=
  (swapRemoveFirst_perm_erase x ms).mem_iff.2 ((List.mem_erase_of_ne hne).2 hm)

/-- **what the guard does to the root move list**: with a duplicate-free move list the moves the
root loops over are exactly the legal moves other than the repetition move -/
theorem mem_rootMoves_iff {o : Ops G M} {g : G} {m0 : M} (hrep : o.repetition g = some m0)
    (hnd : (o.checked g).Nodup) (m : M) : m ∈ rootMoves o g ↔ m ∈ o.checked g ∧ m ≠ m0 := by
  unfold rootMoves
  rw [hrep]
  constructor
  · intro h
    refine ⟨mem_swapRemoveFirst h, ?_⟩
    rintro rfl
    exact not_mem_swapRemoveFirst hnd h
  · rintro ⟨h1, h2⟩
    exact mem_swapRemoveFirst_of_ne h1 h2

theorem not_mem_rootMoves {o : Ops G M} {g : G} {m0 : M} (hrep : o.repetition g = some m0)
    (hnd : (o.checked g).Nodup) : m0 ∉ rootMoves o g :=
  fun h => ((mem_rootMoves_iff hrep hnd m0).1 h).2 rfl

/-- a move other than the repetition move survives the guard (no `Nodup` needed) -/
theorem mem_rootMoves_of_ne {o : Ops G M} {g : G} {m0 m : M} (hrep : o.repetition g = some m0)
    (hm : m ∈ o.checked g) (hne : m ≠ m0) : m ∈ rootMoves o g := by
  unfold rootMoves
  rw [hrep]
  exact mem_swapRemoveFirst_of_ne hm hne

/-- `Nodup` cannot be dropped: only the first occurrence is removed -/
example : (1 : Nat) ∈ swapRemoveFirst 1 [1, 1] := by decide

theorem rootMoves_ne_nil {o : Ops G M} {g : G} (hl2 : 2 ≤ (o.checked g).length) :
    rootMoves o g ≠ [] := by
  intro h
  have := length_rootMoves o g
  rw [h] at this
  simp only [List.length_nil] at this
  omega

end

def DepthLe (d : Nat) (tt : Table M) : Prop :=
  ∀ (h : UInt64) (e : Entry M), tt[h]? = some e → e.depth ≤ d

theorem DepthLe_empty (d : Nat) : DepthLe d ({} : Table M) := forall_entries_empty

theorem DepthLe.mono {d d' : Nat} {tt : Table M} (h : DepthLe d tt) (hd : d ≤ d') :
    DepthLe d' tt :=
  fun k e he => Nat.le_trans (h k e he) hd

theorem DepthLe.insert {d : Nat} {tt : Table M} (h : DepthLe d tt) (k : UInt64) (e : Entry M)
    (hd : e.depth ≤ d) : DepthLe d (tt.insert k e) := forall_entries_insert h hd

theorem DepthLe.poll {d : Nat} {st : St M} (h : DepthLe d st.tt) : DepthLe d (pollSt st).tt :=
  entries_poll h

theorem DepthLe.nodeStore {d : Nat} {st : St M} (h : DepthLe d st.tt) (k : UInt64) (n : Nat)
    (e : Entry M) (hd : e.depth ≤ d) : DepthLe d (nodeStore k n e st).tt :=
  entries_nodeStore h n hd

theorem DepthLe.rootStore {d : Nat} {st : St M} (h : DepthLe d st.tt) (k : UInt64) (n : Nat)
    (e : Entry M) (hd : e.depth ≤ d) : DepthLe d (rootStore k n e st).tt :=
  entries_rootStore h n hd

theorem depthLe_frame (d : Nat) : Frame (fun s : St M => DepthLe d s.tt) := by
  intro st st' h ht _
  show DepthLe d st'.tt
  rw [ht]; exact h

variable [DecidableEq M]

/-- **a node with `remaining ≤ d` stores nothing deeper than `d`** (the entry an interior node
stores has `depth = remaining`, its descendants have less), whether it answers or is aborted -/
theorem nodeF_depthLe (o : Ops G M) (runs : Nat → Bool) (d : Nat) (remaining : Nat)
    (hrem : remaining ≤ d) (g : G) (α β rd : Int) (st : St M) (hQ : DepthLe d st.tt) :
    Res (fun _ s => DepthLe d s.tt) (fun _ => True) (nodeF o runs remaining g α β rd st) := by
  induction remaining using Nat.strongRecOn generalizing g α β rd st with
  | _ n ih =>
    rw [F.nodeF_eq]
    cases runs st.polls with
    | false => trivial
    | true =>
      exact nodeCases_ind (fun v => hQ.poll) fun r hn => (nodeLoopG_res
        (Q := fun s : St M => DepthLe d s.tt) (R := fun _ => True)
        (fun m _ s hs => depthLe_frame d _ _ hs (F.cutUpdF_frame ..).1 (F.cutUpdF_frame ..).2)
        (fun m _ a b s hs => ih (r + 1) (by omega) (by omega) _ _ _ _ _ hs)
        0 α scoreMin none hQ.poll).andThen fun s y hy => DepthLe.nodeStore hy.1 _ _ _ (hn ▸ hrem)

theorem node_depthLe (o : Ops G M) (runs : Nat → Bool) (d : Nat) (remaining : Nat)
    (hrem : remaining ≤ d) (g : G) (α β rd : Int) (st : St M) (hQ : DepthLe d st.tt)
    {v : Int} {st' : St M} (h : node o runs remaining g α β rd st = some (v, st')) :
    DepthLe d st'.tt :=
  (nodeF_depthLe o runs d remaining hrem g α β rd st hQ).of_some
    ((F.toOpt_eq_some _ _ _).1 ((F.node_sim o runs remaining g α β rd st).symm.trans h))

/-- **The root does not answer from the table, and answers a move it has looped over.** At
iteration `k ≥ 1`, in a state whose table has no entry deeper than `k - 1`, with a number of legal
moves other than one: if the root search answers, its move (if any) is one of `rootMoves o g`, and
the table afterwards has no entry deeper than `k`. No hypothesis on the hash. -/
theorem rootSearch_guard (o : Ops G M) (runs : Nat → Bool) (g : G) (k : Nat) (hk : 1 ≤ k)
    (st : St M) (hQ : DepthLe (k - 1) st.tt) (hl : (o.checked g).length ≠ 1)
    {bm : Option M} {sc : Int} {only : Bool} {st' : St M}
    (h : rootSearch o runs g k st = some ((bm, sc, only), st')) :
    DepthLe k st'.tt ∧ ∀ m, bm = some m → m ∈ rootMoves o g := by
  rcases rootSearch_some_cases h with ⟨hl1, _, _⟩ | ⟨_, e, he, hd, _, _, _⟩ |
      ⟨_, _, bs, bm', st2, hr, hr', hs⟩
  · exact absurd hl1 hl
  · have := hQ _ e he
    omega
  · cases hr'; subst hs
    have hQ0 : DepthLe k (rootSt st).tt := hQ.mono (by omega)
    rw [F.rootLoop_sim o (nodeF o runs (k - 1)) _ g _ (F.node_sim o runs _)] at hr
    obtain ⟨k1, k2⟩ := (rootLoopG_res (R := fun _ => True)
      (fun m _ a b s hs => nodeF_depthLe o runs k (k - 1) (by omega) _ _ _ _ _ hs)
      0 _ none hQ0).of_some ((F.rootOpt_eq_some ..).1 hr)
    refine ⟨DepthLe.rootStore k1 _ _ _ (Nat.le_refl _), fun m hm => ?_⟩
    rcases k2 m hm with h1 | h1
    · cases h1
    · exact (mem_sortMoves _ _ _).1 h1

/-- from a state whose table has no entry deeper than `depth - 1`, with a best-so-far that
survives the guard, everything the loop can answer survives the guard — whatever the flag does -/
theorem driverLoop_guard (o : Ops G M) (runs : Nat → Bool) (g : G)
    (hl : (o.checked g).length ≠ 1) (limit fuel depth : Nat) (hd : 1 ≤ depth)
    (found : Option M) (infos : List (Info M)) (st : St M) (hQ : DepthLe (depth - 1) st.tt)
    (hf : ∀ m, found = some m → m ∈ rootMoves o g) :
    ∀ m, (driverLoop o runs g limit fuel depth found infos st).found = some m →
      m ∈ rootMoves o g := by
  induction fuel generalizing depth found infos st with
  | zero => exact hf
  | succ f ih =>
    rw [driverLoop_succ]
    split
    · exact hf
    · next bm sc only st' hs =>
      obtain ⟨hQ', hbm⟩ := rootSearch_guard o runs g depth hd st hQ hl hs
      have hf' : ∀ m, bm.or found = some m → m ∈ rootMoves o g := by
        intro m hm
        cases bm with
        | none => exact hf m hm
        | some b => exact hbm m hm
      split
      · exact hf'
      · exact ih (depth + 1) (by omega) _ _ _ hQ' hf'

/-- **The driver from the fresh table, any flag, any evaluation**: with a number of legal moves
other than one, if the first listed move survives the guard, so does the answer. -/
theorem driver_found_mem_rootMoves_of_head (o : Ops G M) (runs : Nat → Bool) (g : G) (off : Bool)
    (md : Option Nat) (hl : (o.checked g).length ≠ 1)
    (hh : ∀ m, (o.checked g).head? = some m → m ∈ rootMoves o g) :
    ∀ m, (driver o runs g {} off md).found = some m → m ∈ rootMoves o g := by
  rw [driver_eq, startDepth_fresh]
  exact driverLoop_guard o runs g hl _ _ 1 (Nat.le_refl _) _ _ _ (DepthLe_empty _) hh

/-- `P` is closed under the moves the quiescence search plays, and on `P` the static evaluation is
not in the driver's mate range (`±31767`). `Mate.Bounded o` is the case `P = everything`. -/
structure EvalOk (o : Ops G M) (P : G → Prop) : Prop where
  step : ∀ x m, P x → m ∈ o.unchecked x → P (o.push x m)
  bound : ∀ x, P x → -evalBound ≤ o.eval x ∧ o.eval x ≤ evalBound

omit [DecidableEq M] in
theorem EvalOk.of_bounded {o : Ops G M} (hb : Bounded o) : EvalOk o (fun _ => True) :=
  ⟨fun _ _ _ _ => trivial, fun x _ => hb x⟩

omit [DecidableEq M] in
theorem pollSt_tt_empty {st : St M} (ht : st.tt = {}) : (pollSt st).tt = {} := by
  simp only [pollSt]
  split
  · rfl
  · exact ht

/-- a horizon node on an empty table is the quiescence search -/
theorem node0_empty (o : Ops G M) (runs : Nat → Bool) (hr : ∀ i, runs i = true) (c : G)
    (a b rd : Int) (st : St M) (ht : st.tt = {}) :
    node o runs 0 c a b rd st = some (qsearch o qFuel c a b rd, pollSt st) := by
  rw [node_eq_of_runs (hr _)]
  have : ttGet (pollSt st) (o.hash c) = none := by
    unfold ttGet
    rw [pollSt_tt_empty ht]
    exact Std.HashMap.getElem?_empty
  rw [this]
  rfl

/-- **The first iteration from an empty table**, flag up, evaluations of the root's children and
of their quiescence trees out of the mate range, at least two legal moves: the root search to depth
1 answers with SOME move, one of `rootMoves o g`, and leaves no entry deeper than 1. (Every score
lies within `±evalBound`, above the initial best score, so the loop ends with a best move.) -/
theorem rootSearch_first (o : Ops G M) (P : G → Prop) (hP : EvalOk o P) (runs : Nat → Bool)
    (hr : ∀ i, runs i = true) (g : G) (hroot : ∀ m ∈ o.checked g, P (o.push g m))
    (hl2 : 2 ≤ (o.checked g).length) (st : St M) (ht : st.tt = {}) :
    ∃ m sc st', rootSearch o runs g 1 st = some ((some m, sc, false), st') ∧
      m ∈ rootMoves o g ∧ DepthLe 1 st'.tt := by
  have hl : (o.checked g).length ≠ 1 := by omega
  have hQ : DepthLe (1 - 1) st.tt := by rw [ht]; exact DepthLe_empty _
  obtain ⟨bs, bm, st2, e, _, k3⟩ := rootSearch_RInv o runs g 1 st thresholds_eval
    (Q := fun s => s.tt = {}) (cr := False) (Wc := fun _ => False) (Lc := fun _ => False)
    (CWc := fun _ => False) (CLc := fun _ => False) hl
    (fun e he => by rw [ht, Std.HashMap.getElem?_empty] at he; cases he)
    (fun m hm a b s _ hs => ⟨_, _, node0_empty o runs hr (o.push g m) a b 1 s hs,
      pollSt_tt_empty hs, ValOk.of_rng (Int.le_refl _) (Int.le_refl _)
        (qsearch_rng_on o P hP.step hP.bound qFuel (o.push g m) a b 1
          (hroot m (mem_rootMoves hm)) (by decide) (by decide)) id id⟩)
    (Or.inr fun _ _ => ⟨id, id⟩) ht False.elim
  obtain ⟨k4, k5⟩ := rootSearch_guard o runs g 1 (Nat.le_refl _) st hQ hl e
  obtain ⟨m₀, hm₀⟩ := List.exists_mem_of_ne_nil _ (rootMoves_ne_nil hl2)
  have hlo : -evalBound ≤ bs := k3.low.elim (fun k => (k m₀ hm₀).elim) id
  have hs := k3.bmS (by simp only [evalBound_eq, scoreMin] at *; omega)
  cases bm with
  | none => cases hs
  | some m => exact ⟨m, bs, _, e, k5 m rfl, k4⟩

/-- **The driver from the fresh table, flag up**: with at least two legal moves and evaluations out
of the mate range below the root, the answer is one of the moves the root loops over — whatever the
first listed move is, whatever the hash does. -/
theorem driver_found_mem_rootMoves (o : Ops G M) (P : G → Prop) (hP : EvalOk o P) (g : G)
    (hroot : ∀ m ∈ o.checked g, P (o.push g m)) (hl2 : 2 ≤ (o.checked g).length)
    (runs : Nat → Bool) (hr : ∀ i, runs i = true) (off : Bool) (md : Option Nat) :
    ∀ m, (driver o runs g {} off md).found = some m → m ∈ rootMoves o g := by
  have hl : (o.checked g).length ≠ 1 := by omega
  rw [driver_eq, startDepth_fresh, driverLoop_succ]
  obtain ⟨m1, sc, st1, e1, hm1, hQ1⟩ :=
    rootSearch_first o P hP runs hr g hroot hl2 (initSt {} off) rfl
  rw [e1]
  simp only []
  have hf : ∀ m, (some m1).or (o.checked g).head? = some m → m ∈ rootMoves o g := by
    intro m hm
    cases hm
    exact hm1
  split
  · exact hf
  · exact driverLoop_guard o runs g hl _ _ 2 (by decide) _ _ _ hQ1 hf

end Chess.Search.Rep
