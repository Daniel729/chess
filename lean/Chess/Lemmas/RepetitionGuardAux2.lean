import Chess.Lemmas.RepetitionGuardAux1
import Chess.Lemmas.Mate2

/-!
# The root's repetition guard: the statements for every game, and two example games

`Example.ex2r`: all hypotheses hold and a forced mate in two exists through the guarded move only.
`Example.exHuge`: the hypothesis on the evaluation cannot simply be dropped. The overview is in
`RepetitionGuard.lean`.
-/
namespace Chess.Search.Rep
open Chess.Search Chess.Search.Mate Chess.Search.Mate2

variable {G M : Type} [DecidableEq M]

/-- The situation of the known finding of C10: the record says "repetition" with the move `m0`; the
legal moves of the root are at least two (with exactly one the only-move shortcut answers first,
before the guard) and have no duplicates; `P` is a set of positions closed under the quiescence moves, on which
the static evaluation is out of the driver's mate range, and contains the children of the root. No
hypothesis on the hash; `m0` need not even be legal. -/
structure Guarded (o : Ops G M) (P : G → Prop) (g : G) (m0 : M) : Prop where
  evalOk : EvalOk o P
  root : ∀ m ∈ o.checked g, P (o.push g m)
  rep : o.repetition g = some m0
  nodup : (o.checked g).Nodup
  two : 2 ≤ (o.checked g).length

/-- **The driver never answers the move its root guard removes.** Fresh table, flag up, hook on or
off, any depth argument. -/
theorem found_ne_guarded (o : Ops G M) {P : G → Prop} {g : G} {m0 : M} (h : Guarded o P g m0)
    (runs : Nat → Bool) (hr : ∀ i, runs i = true) (off : Bool) (md : Option Nat) :
    (driver o runs g {} off md).found ≠ some m0 :=
  fun hf => not_mem_rootMoves h.rep h.nodup
    (driver_found_mem_rootMoves o P h.evalOk g h.root h.two runs hr off md m0 hf)

/-- the same with `Mate.Bounded o` (all static evaluations within `±31767`) -/
theorem found_ne_guarded_of_bounded (o : Ops G M) (hb : Bounded o) (g : G) (m0 : M)
    (hrep : o.repetition g = some m0) (hnd : (o.checked g).Nodup)
    (hl2 : 2 ≤ (o.checked g).length) (runs : Nat → Bool) (hr : ∀ i, runs i = true) (off : Bool)
    (md : Option Nat) : (driver o runs g {} off md).found ≠ some m0 :=
  found_ne_guarded o ⟨EvalOk.of_bounded hb, fun _ _ => trivial, hrep, hnd, hl2⟩ runs hr off md

/-- **Any flag, any evaluation**: if the guarded move is not the first listed move (the move the
driver falls back on when no iteration produces one), it is not answered, even by a search that is
stopped at once. -/
theorem found_ne_guarded_of_head (o : Ops G M) (g : G) (m0 : M)
    (hrep : o.repetition g = some m0) (hnd : (o.checked g).Nodup)
    (hl : (o.checked g).length ≠ 1) (hh : (o.checked g).head? ≠ some m0)
    (runs : Nat → Bool) (off : Bool) (md : Option Nat) :
    (driver o runs g {} off md).found ≠ some m0 := by
  intro h
  refine not_mem_rootMoves hrep hnd
    (driver_found_mem_rootMoves_of_head o runs g off md hl (fun m hm => ?_) m0 h)
  refine mem_rootMoves_of_ne hrep (List.mem_of_mem_head? hm) ?_
  rintro rfl
  exact hh hm

/-- what IS answered: a legal move other than the guarded one (legality here needs no Zobrist
hypothesis: from the fresh table the root never answers from the table) -/
theorem found_legal_ne_guarded (o : Ops G M) {P : G → Prop} {g : G} {m0 : M}
    (h : Guarded o P g m0) (runs : Nat → Bool) (hr : ∀ i, runs i = true) (off : Bool)
    (md : Option Nat) :
    ∃ m, (driver o runs g {} off md).found = some m ∧ m ∈ o.checked g ∧ m ≠ m0 := by
  have hne : o.checked g ≠ [] := by
    intro h0; have := h.two; rw [h0] at this; simp at this
  have hs := driver_found_of_moves o runs g {} off md hne
  cases hf : (driver o runs g {} off md).found with
  | none => rw [hf] at hs; cases hs
  | some m =>
    have hm := driver_found_mem_rootMoves o P h.evalOk g h.root h.two runs hr off md m hf
    exact ⟨m, rfl, (mem_rootMoves_iff h.rep h.nodup m).1 hm⟩

/-- the general form of the known finding: whatever property of moves only the guarded move has, the
answer lacks it -/
theorem guard_excludes (o : Ops G M) {P : G → Prop} {g : G} {m0 : M} (h : Guarded o P g m0)
    (Good : M → Prop) (honly : ∀ m, Good m → m = m0)
    (runs : Nat → Bool) (hr : ∀ i, runs i = true) (off : Bool) (md : Option Nat) :
    (driver o runs g {} off md).found.isSome ∧
    (∀ m, (driver o runs g {} off md).found = some m → ¬ Good m) ∧
    ∃ m, (driver o runs g {} off md).found = some m ∧ m ∈ o.checked g ∧ m ≠ m0 ∧ ¬ Good m := by
  obtain ⟨m, h1, h2, h3⟩ := found_legal_ne_guarded o h runs hr off md
  have h4 : ¬ Good m := fun hg => h3 (honly m hg)
  refine ⟨by rw [h1]; rfl, fun m' hm' => ?_, m, h1, h2, h3, h4⟩
  rw [h1] at hm'; cases hm'; exact h4

/-- **The known finding (weak reading).** If the guarded move is the only move that keeps a forced
mate, the driver answers a legal move that does NOT keep it. -/
theorem guard_gives_up_the_mate (o : Ops G M) {P : G → Prop} {g : G} {m0 : M}
    (h : Guarded o P g m0) (honly : ∀ m, KeepsForcedMate o g m → m = m0)
    (runs : Nat → Bool) (hr : ∀ i, runs i = true) (off : Bool) (md : Option Nat) :
    (driver o runs g {} off md).found.isSome ∧
    (∀ m, (driver o runs g {} off md).found = some m → ¬ KeepsForcedMate o g m) ∧
    ∃ m, (driver o runs g {} off md).found = some m ∧ m ∈ o.checked g ∧ m ≠ m0 ∧
      ¬ KeepsForcedMate o g m :=
  guard_excludes o h (KeepsForcedMate o g) honly runs hr off md

/-- **The known finding (strong reading)**: if the guarded move is the only move that mates at once
or forces mate on the next move, the answer does neither. -/
theorem guard_gives_up_the_mate_strong (o : Ops G M) {P : G → Prop} {g : G} {m0 : M}
    (h : Guarded o P g m0) (honly : ∀ m, KeepsMate o g m → m = m0)
    (runs : Nat → Bool) (hr : ∀ i, runs i = true) (off : Bool) (md : Option Nat) :
    (driver o runs g {} off md).found.isSome ∧
    (∀ m, (driver o runs g {} off md).found = some m → ¬ KeepsMate o g m) ∧
    ∃ m, (driver o runs g {} off md).found = some m ∧ m ∈ o.checked g ∧ m ≠ m0 ∧
      ¬ KeepsMate o g m :=
  guard_excludes o h (KeepsMate o g) honly runs hr off md

/-- **C10 ("a search to depth ≥ 5 plays a move that keeps a forced mate in two") is false of the
model in this situation**: the premise of C10 holds (`ForcedMate2 o g m0`: the side to move can
force mate in two), and its conclusion fails at EVERY depth argument, in particular for `md = none`
and for every `md = some N` with `5 ≤ N`. -/
theorem c10_fails_under_guard (o : Ops G M) (P : G → Prop) (hP : EvalOk o P) (g : G)
    (hroot : ∀ m ∈ o.checked g, P (o.push g m)) (m0 : M) (_h2 : ForcedMate2 o g m0)
    (hrep : o.repetition g = some m0) (hnd : (o.checked g).Nodup)
    (hl2 : 2 ≤ (o.checked g).length) (honly : ∀ m, KeepsForcedMate o g m → m = m0)
    (runs : Nat → Bool) (hr : ∀ i, runs i = true) (off : Bool) (md : Option Nat) :
    ¬ ∃ m, (driver o runs g {} off md).found = some m ∧ KeepsForcedMate o g m := by
  rintro ⟨m, hm, hk⟩
  exact (guard_gives_up_the_mate o ⟨hP, hroot, hrep, hnd, hl2⟩ honly runs hr off md).2.1 m hm hk

omit [DecidableEq M] in
/-- a position with a legal move after which the opponent has no legal move is not lost (the
opponent is mated or stalemated there, it does not mate) -/
theorem not_lose_of_dead_reply {o : Ops G M} {x : G} {m : M} (hm : m ∈ o.checked x)
    (hd : o.checked (o.push x m) = []) : ¬ Lose o x := by
  rintro ⟨k, hk⟩
  have hne : ¬ Mated o x := by
    intro hM
    have : o.checked x = [] := hM.1
    rw [this] at hm; cases hm
  cases k with
  | zero => exact hne hk
  | succ k =>
    rcases hk with hk | ⟨_, hk⟩
    · exact hne hk
    · obtain ⟨m', hm', _⟩ := hk m hm
      rw [hd] at hm'; cases hm'

/-! ## Example games

As in `Mate.lean`/`Mate2.lean`: `Std.HashMap` does not reduce in the kernel, so what the driver does
is obtained by APPLYING the theorems (kernel-checked); the `#guard`s are side checks by evaluation
and are labelled as such; the facts about the games themselves are kernel-checked by `decide`. -/
namespace Example
open Chess.Search.Mate2.Example

/-- `Mate2.Example.ex2` (the move `m` leads from `g` to `3 * g + m`; the root `0` has the moves
`1, 2, 3`; after `2` both replies allow mate in one; after `1` or `3` every reply stalemates) with a
move record of the shape `x M x' M' x` at the root, `M` being the move `2` -/
def ex2r : Ops (Fin 27) Nat :=
  { ex2 with repetition := fun g => if g.val = 0 then some 2 else none }

theorem ex2r_rep : ex2r.repetition 0 = some 2 := by decide
theorem ex2r_checked : ex2r.checked 0 = [1, 2, 3] := by decide
theorem ex2r_nodup : (ex2r.checked 0).Nodup := by decide
theorem ex2r_len : 2 ≤ (ex2r.checked 0).length := by decide
theorem ex2r_bounded : Bounded ex2r := by unfold Bounded; decide
theorem ex2r_inj : ∀ x y, ex2r.hash x = ex2r.hash y → x = y := by decide
/-- what the root loops over: `swap_remove` puts the last move in the hole -/
theorem ex2r_rootMoves : rootMoves ex2r 0 = [1, 3] := by decide
/-- the side to move can force mate in two, through the move `2` -/
theorem ex2r_forced : ForcedMate2 ex2r 0 2 := by
  unfold ForcedMate2 Lost1 MateIn1 Mated; decide
theorem ex2r_no1 : ¬ MateIn1 ex2r 0 := by unfold MateIn1 Mated; decide

/-- `2` is the ONLY move that keeps a forced mate (of any length) -/
theorem ex2r_only (m : Nat) (h : KeepsForcedMate ex2r 0 m) : m = 2 := by
  have hm : m = 1 ∨ m = 2 ∨ m = 3 := by
    have := h.1
    rw [ex2r_checked] at this
    simpa using this
  rcases hm with rfl | rfl | rfl
  · exact absurd h.2 (not_lose_of_dead_reply (m := 1) (by decide) (by decide))
  · rfl
  · exact absurd h.2 (not_lose_of_dead_reply (m := 1) (by decide) (by decide))

/-- all hypotheses of `c10_fails_under_guard` hold in `ex2r` -/
theorem ex2r_hyps :
    Bounded ex2r ∧ ForcedMate2 ex2r 0 2 ∧ ex2r.repetition 0 = some 2 ∧ 2 ∈ ex2r.checked 0 ∧
      (ex2r.checked 0).Nodup ∧ 2 ≤ (ex2r.checked 0).length ∧
      (∀ m, KeepsForcedMate ex2r 0 m → m = 2) ∧ (∀ x y, ex2r.hash x = ex2r.hash y → x = y) :=
  ⟨ex2r_bounded, ex2r_forced, ex2r_rep, by decide, ex2r_nodup, ex2r_len, ex2r_only, ex2r_inj⟩

/-- **The known finding on a concrete game** (kernel-checked, by application of the theorem): for
every hook setting and every depth argument the engine answers `1` or `3`, which keeps no forced mate,
although the move `2` forces mate in two. -/
theorem ex2r_gives_up (off : Bool) (md : Option Nat) :
    ∃ m, (driver ex2r (fun _ => true) 0 {} off md).found = some m ∧ (m = 1 ∨ m = 3) ∧
      ¬ KeepsForcedMate ex2r 0 m := by
  obtain ⟨_, _, m, h1, h2, h3, h4⟩ := guard_gives_up_the_mate ex2r
    ⟨EvalOk.of_bounded ex2r_bounded, fun _ _ => trivial, ex2r_rep, ex2r_nodup, ex2r_len⟩ ex2r_only
    _ (fun _ => rfl) off md
  refine ⟨m, h1, ?_, h4⟩
  rw [ex2r_checked] at h2
  have : m = 1 ∨ m = 2 ∨ m = 3 := by simpa using h2
  rcases this with h | h | h
  · exact Or.inl h
  · exact absurd h h3
  · exact Or.inr h

/-- C10 fails for `ex2r` at every depth argument … -/
theorem ex2r_c10_fails (off : Bool) (md : Option Nat) :
    ¬ ∃ m, (driver ex2r (fun _ => true) 0 {} off md).found = some m ∧ KeepsForcedMate ex2r 0 m :=
  c10_fails_under_guard ex2r _ (EvalOk.of_bounded ex2r_bounded) 0 (fun _ _ => trivial) 2 ex2r_forced
    ex2r_rep ex2r_nodup ex2r_len ex2r_only _ (fun _ => rfl) off md

/-- … whereas the same game without the record (`ex2`) plays the mate (`Mate2.Example.ex2_plays`) -/
theorem ex2_contrast (off : Bool) : (driver ex2 (fun _ => true) 0 {} off none).found = some 2 :=
  (ex2_plays off none (Or.inl rfl)).1

-- side checks by EVALUATION (not kernel-checked): the engine answers `1`, never sees a mate score,
-- and searches on to the limit
#guard (driver ex2r (fun _ => true) 0 {} false none).found == some 1
#guard (driver ex2r (fun _ => true) 0 {} true none).found == some 1
#guard (driver ex2r (fun _ => true) 0 {} false (some 5)).found == some 1
#guard (driver ex2r (fun _ => true) 0 {} false (some 7)).infos.map (fun i => (i.depth, i.score)) ==
  [(1, 2), (2, 0), (3, 0), (4, 0), (5, 0), (6, 0), (7, 0)]
#guard (driver ex2 (fun _ => true) 0 {} false none).found == some 2

/-! ### the hypothesis on the evaluation cannot simply be dropped

Three positions; the root `0` has the moves `0, 1` (to the dead positions `1, 2`), the record says
"repetition" with the move `0`, every static evaluation is `40000`. The only root move looped over
gets the score `-32767`, which is not above the initial `best_score`: the iteration returns no move,
the driver leaves the loop (mate range) and falls back on the first listed move — the guarded one.
All other hypotheses of `found_ne_guarded` hold. (In chess the evaluation is within `±30565` on
reachable games, `Range.eval_range`, so this does not happen there.) -/

def exHuge : Ops (Fin 3) Nat :=
  { mk 2 [[1, 2], [], []] [[0, 1], [], []] [[0, 1], [], []] [40000, 40000, 40000]
      [true, true, true] [0, 1] [0, 1, 2] with
    repetition := fun g => if g.val = 0 then some 0 else none }

theorem exHuge_hyps : exHuge.repetition 0 = some 0 ∧ (exHuge.checked 0).Nodup ∧
    2 ≤ (exHuge.checked 0).length ∧ (exHuge.checked 0).head? = some 0 ∧
    (∀ x y, exHuge.hash x = exHuge.hash y → x = y) ∧ ¬ Bounded exHuge := by
  refine ⟨by decide, by decide, by decide, by decide, by decide, fun h => ?_⟩
  have := (h 0).2
  revert this
  decide

-- by EVALUATION: the guarded move is answered
#guard (driver exHuge (fun _ => true) 0 {} false none).found == some 0
#guard (driver exHuge (fun _ => true) 0 {} false none).infos.map (fun i => (i.depth, i.score)) ==
  [(1, -32767)]

end Example

end Chess.Search.Rep
