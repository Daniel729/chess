import Chess.Lemmas.Bounds

/-!
# The evaluation score never leaves `i16` (C16)

The Rust engine keeps `score : i16` and updates it incrementally: `set_position` does
`self.score -= old; … ; self.score += new`, `push` calls it 2–4 times, `update_phase` twice.
The model computes in `Int`.  This file shows that on every reachable game the score, and every
value the field `score` takes between two half-steps of `set_position`, lies in `[-B, B]`,
`B = 30565 < 32767`, so that the wrapping arithmetic of the code and the unbounded arithmetic of
the model cannot diverge.

* `MaterialInv` — per side at most one king, pawns + promoted surplus ≤ 8 (the reader's check, with
  "exactly one king" weakened to "at most one": unchecked search lines can capture a king); it holds
  after every single `set_position` of a fitting move (`take_material`)
* `Mid` — what holds between any two half-steps: score = sum of the cache, every cached contribution
  is a table entry of what stands on its square, `MaterialInv`
* `trace`, `pushTrace`, `phaseTrace`, `pushHistoryTrace` — the values `self.score` passes through
-/
namespace Chess.Range

open Chess Chess.Game

/-! ## 1. The material invariant survives every fitting move, half-step by half-step -/

/-- promotions to a king do not exist (the generator and the UCI reader only offer Q, R, B, N) -/
def PromoOk : Move → Prop
  | .promotion _ t _ _ _ => t ≠ .king
  | _ => True

theorem promoOk_of_moverOk {g : Game} {m : Move} (h : g.MoverOk m) : PromoOk m := by
  cases m with
  | promotion o t s e cap => exact (Bounds.promo_kind h).2
  | _ => trivial

/-- a man is of exactly one kind, and counts for its own side only -/
theorem ind_kinds (pl o : Player) (t : PieceType) :
    ind pl .king (some ⟨t, o⟩) + ind pl .queen (some ⟨t, o⟩) + ind pl .rook (some ⟨t, o⟩)
      + ind pl .bishop (some ⟨t, o⟩) + ind pl .knight (some ⟨t, o⟩) + ind pl .pawn (some ⟨t, o⟩)
      = ind pl .pawn (some ⟨.pawn, o⟩) := by
  cases t <;> cases o <;> cases pl <;> rfl

/-- the board after a promotion: the pawn that leaves pays for the officer that comes -/
theorem promo_material {b : Board} (h : MaterialOk b) {o : Player} {t : PieceType} {s e : Pos}
    (hs : s.Valid) (he : e.Valid) (hne : s ≠ e) (h1 : bget b s = some ⟨.pawn, o⟩) (ht : t ≠ .king) :
    MaterialOk (bsetMany b [(s, none), (e, some ⟨t, o⟩)]) := by
  generalize hb' : bsetMany b [(s, none), (e, some ⟨t, o⟩)] = b'
  have bal : ∀ pl t', countPieces b' pl t' + (ind pl t' (some ⟨.pawn, o⟩) + ind pl t' (bget b e))
      = countPieces b pl t' + ind pl t' (some ⟨t, o⟩) := by
    intro pl t'
    have := bsum_bsetMany (ind pl t') b [(s, none), (e, some ⟨t, o⟩)] (by simp [hs, he])
      (by simpa using hne)
    rw [hb'] at this
    simpa only [olds, lsum, List.map_cons, List.map_nil, List.sum_cons, List.sum_nil, h1, ind_none,
      Nat.add_zero, Nat.zero_add, ← countPieces_eq_bsum] using this
  have side : ∀ pl, SideOkB b pl → SideOkB b' pl := by
    intro pl h
    have k0 : ind pl .king (some ⟨t, o⟩) = 0 := by rw [ind_some, if_neg (fun h => ht h.1)]
    have hk := bal pl .king
    have hp := bal pl .pawn
    have one := ind_kinds pl o t
    exact h.of_le (by omega) (Nat.le.intro (bal pl .queen)) (Nat.le.intro (bal pl .rook))
      (Nat.le.intro (bal pl .bishop)) (Nat.le.intro (bal pl .knight)) (by omega)
  exact ⟨side _ h.1, side _ h.2⟩

/-- every move but a promotion puts only men it has taken from the board -/
def NoPromo : Move → Prop
  | .promotion .. => False
  | _ => True

/-- whatever a move other than a promotion has put after `k` of its writes, it has taken from the
board before (checked move kind by move kind, prefix by prefix) -/
theorem writes_take_le (f : Option Piece → Nat) (hf0 : f none = 0) {m : Move} (hn : NoPromo m) (k : Nat) :
    lsum f (((Bounds.writes m).take k).map (·.2)) ≤ lsum f ((Bounds.reads m).take k) := by
  cases m <;> first | exact hn.elim | skip
  all_goals
    rcases k with _ | _ | _ | _ | k <;>
      simp only [Bounds.writes, Bounds.reads, lsum, List.take_zero, List.take_succ_cons, List.take_nil,
        List.map_cons, List.map_nil, List.sum_cons, List.sum_nil, hf0] <;> omega

/-- **every board a fitting move passes through — after each of its `set_position` calls —
satisfies the material invariant** -/
theorem take_material {g : Game} {m : Move} (hf : g.Fits m) (hp : PromoOk m)
    (hm : MaterialOk g.board) (k : Nat) : MaterialOk (bsetMany g.board ((Bounds.writes m).take k)) := by
  by_cases hn : NoPromo m
  · refine materialOk_take hm _ (Bounds.writes_valid hf) (Bounds.writes_distinct hf) k fun pl t => ?_
    rw [Bounds.fits_reads hf]
    exact Nat.add_le_add_left (writes_take_le (ind pl t) (ind_none pl t) hn k) _
  · cases m with
    | promotion o t s e cap =>
      obtain ⟨hs, he, hne, h1, -⟩ := hf
      match k with
      | 0 => exact hm
      | 1 => exact materialOk_bset_none hm s
      | k + 2 =>
        rw [Bounds.writes, List.take_succ_cons, List.take_succ_cons, List.take_nil]
        exact promo_material hm hs he hne h1 hp
    | _ => exact absurd trivial hn

/-- **per side: at most one king, and pawns + promoted surplus at most 8**, where the surplus is
`(Q−1)⁺ + (R−2)⁺ + (B−2)⁺ + (N−2)⁺`; counts by the FEN reader's own `countPieces` -/
def MaterialInv (g : Game) : Prop := MaterialOk g.board

theorem materialInv_iff (g : Game) :
    MaterialInv g ↔ ∀ pl : Player,
      countPieces g.board pl .king ≤ 1 ∧
      countPieces g.board pl .pawn
        + ((countPieces g.board pl .queen - 1) + (countPieces g.board pl .rook - 2)
          + (countPieces g.board pl .bishop - 2) + (countPieces g.board pl .knight - 2)) ≤ 8 := by
  constructor
  · intro h pl; cases pl; exact h.1; exact h.2
  · intro h; exact ⟨h .white, h .black⟩

/-- the check of the reader (exactly one king) is the invariant with `= 1` for `≤ 1` -/
theorem ofFen_materialInv {s : List Char} {g : Game} (h : Game.ofFen s = .ok g) : MaterialInv g := by
  obtain ⟨hw, hb, -⟩ := Bounds.ofFen_material h
  exact ⟨sideOkB_of_check hw, sideOkB_of_check hb⟩

theorem push_material {g : Game} {m : Move} (hf : g.Fits m) (hp : PromoOk m) (hm : MaterialInv g) :
    MaterialInv (g.push m) := by
  have := take_material hf hp hm (Bounds.writes m).length
  rwa [List.take_length, ← Bounds.push_board_eq] at this

theorem push_material' {g : Game} {m : Move} (hf : g.Fits m) (hx : g.MoverOk m) (hm : MaterialInv g) :
    MaterialInv (g.push m) := push_material hf (promoOk_of_moverOk hx) hm

theorem pushHistory_material {g : Game} {m : Move} (hf : g.Fits m) (hp : PromoOk m)
    (hm : MaterialInv g) : MaterialInv (g.pushHistory m) := by
  unfold Game.pushHistory
  refine push_material (Bounds.fits_record hf) hp ?_
  unfold MaterialInv
  rw [Bounds.updatePhase_board']
  exact hm

theorem reach_material {g : Game} (h : Reach g) : MaterialInv g := by
  induction h with
  | imported s g hok => exact ofFen_materialInv hok
  | played g m hr hm ih =>
    have hf := Game.getMoves_fits (reach_wf hr) true hm
    exact pushHistory_material hf.1 (promoOk_of_moverOk hf.2) ih
  | searched g m b hr hm ih =>
    have hf := Game.getMoves_fits (reach_wf hr) b hm
    exact push_material hf.1 (promoOk_of_moverOk hf.2) ih

/-! ## 2. What holds between any two half-steps, and the numeric bound -/

/-- the state of the score bookkeeping that every half-step of `set_position` preserves — also in
the middle of `update_phase`, where the cache mixes the two king tables and `WF` is suspended -/
structure Mid (g : Game) : Prop where
  sum : g.score = sumAll g.pastScores
  bdd : CacheBounded g.board g.pastScores
  mat : MaterialOk g.board

theorem Mid.range {g : Game} (h : Mid g) : -B ≤ g.score ∧ g.score ≤ B := by
  rw [h.sum]; exact sum_range h.bdd h.mat

/-- the cache part of `WF`: every cached contribution is the table entry of the square's content
under the phase in force, and the score is their sum -/
structure Cache (g : Game) : Prop where
  inv : g.CacheInv
  res : g.resScore = 0

theorem Cache.mid {g : Game} (h : Cache g) (hm : MaterialOk g.board) : Mid g where
  sum := by have := h.res; unfold Game.resScore at this; omega
  bdd := by
    intro i hi
    rw [h.inv.scores i hi]
    exact placeScore_bounded _ _ _
  mat := hm

theorem mid_of_wf {g : Game} (hw : g.WF) (hm : MaterialInv g) : Mid g :=
  Cache.mid ⟨hw.cache, hw.resScore⟩ hm

theorem mid_congr {g g' : Game} (h : Mid g) (hs : g'.score = g.score)
    (hp : g'.pastScores = g.pastScores) (hb : g'.board = g.board) : Mid g' :=
  ⟨by rw [hs, hp]; exact h.sum, by rw [hb, hp]; exact h.bdd, by rw [hb]; exact h.mat⟩

theorem mid_setPosition {g : Game} (h : Mid g) (p : Pos) (x : Option Piece)
    (hm : MaterialOk (bset g.board p x)) : Mid (g.setPosition p x) := by
  rw [← setPosition_board_eq] at hm
  unfold setPosition at hm ⊢
  by_cases hp : p.idx < 64
  · rw [dif_pos hp] at hm ⊢
    refine ⟨?_, fun i hi => ?_, hm⟩
    · show g.score - g.pastScores[p.idx] + _ = sumAll (g.pastScores.set p.idx _ hp)
      rw [sumAll_set, h.sum]
    · show Bounded (g.board.set p.idx x hp)[i] (g.pastScores.set p.idx _ hp)[i]
      by_cases e : p.idx = i
      · subst e
        simp only [Vector.getElem_set_self]
        exact placeScore_bounded _ _ _
      · rw [Vector.getElem_set_ne _ _ e, Vector.getElem_set_ne _ _ e]
        exact h.bdd i hi
  · rw [dif_neg hp]
    exact h

/-! ## 3. The values `self.score` passes through -/

/-- the two values the field takes inside one `set_position`: after `self.score -= *place_score`
and after `self.score += *place_score` (nothing happens off the board; C15 shows that never occurs) -/
def setSteps (g : Game) (p : Pos) (x : Option Piece) : List Int :=
  if h : p.idx < 64 then
    [g.score - g.pastScores[p.idx], g.score - g.pastScores[p.idx] + placeScore p g.endgame x]
  else []

/-- the values the field takes during a sequence of `set_position` calls -/
def trace (g : Game) : List (Pos × Option Piece) → List Int
  | [] => []
  | (p, x) :: l => setSteps g p x ++ trace (g.setPosition p x) l

theorem setPosition_withMoveStack (g : Game) (ms : List Move) (p : Pos) (x : Option Piece) :
    Game.setPosition { g with moveStack := ms } p x = { g.setPosition p x with moveStack := ms } := by
  unfold Game.setPosition
  split <;> rfl

/-- the record of moves is not read by the score updates -/
theorem trace_moveStack (ms : List Move) : ∀ (l : List (Pos × Option Piece)) (g : Game),
    trace { g with moveStack := ms } l = trace g l
  | [], _ => rfl
  | (p, x) :: l, g => by
    show setSteps _ p x ++ trace (Game.setPosition { g with moveStack := ms } p x) l = _
    rw [setPosition_withMoveStack, trace_moveStack ms l]; rfl

theorem setSteps_eq (g : Game) (p : Pos) (x : Option Piece) (hp : p.idx < 64) :
    setSteps g p x = [(g.setPosition p none).score, (g.setPosition p x).score] := by
  unfold setSteps setPosition
  simp [hp, placeScore]

/-- the trace ends with the score the model computes (so it is the trace of *this* computation) -/
theorem trace_getLast (g : Game) (l : List (Pos × Option Piece)) :
    ((trace g l).getLast?).getD g.score = (g.setMany l).score := by
  induction l generalizing g with
  | nil => rfl
  | cons e l ih =>
    obtain ⟨p, x⟩ := e
    rw [trace, setMany, ← ih]
    by_cases hp : p.idx < 64
    · rw [setSteps_eq g p x hp]
      cases ht : trace (g.setPosition p x) l with
      | nil => simp
      | cons a t =>
        rw [List.getLast?_append, List.getLast?_eq_some_getLast (l := a :: t) (by simp)]
        simp
    · have : g.setPosition p x = g := by unfold setPosition; simp [hp]
      simp [setSteps, hp, this]

/-- **every value of a trace is in `[-B, B]`** provided the board after each complete write has
possible material (between the two half-steps of a write the square is empty, which never hurts) -/
theorem trace_range {g : Game} (h : Mid g) (l : List (Pos × Option Piece))
    (hm : ∀ k, MaterialOk (bsetMany g.board (l.take k))) :
    (∀ s ∈ trace g l, -B ≤ s ∧ s ≤ B) ∧ Mid (g.setMany l) := by
  induction l generalizing g with
  | nil => exact ⟨fun s hs => (List.not_mem_nil hs).elim, h⟩
  | cons e l ih =>
    obtain ⟨p, x⟩ := e
    have h1 := mid_setPosition h p none (materialOk_bset_none h.mat p)
    have h2 := mid_setPosition h p x (hm 1)
    obtain ⟨ih1, ih2⟩ := ih h2 (fun k => by rw [setPosition_board_eq]; exact hm (k + 1))
    refine ⟨?_, ih2⟩
    intro s hs
    simp only [trace, List.mem_append] at hs
    rcases hs with hs | hs
    · by_cases hp : p.idx < 64
      · rw [setSteps_eq g p x hp] at hs
        simp only [List.mem_cons, List.not_mem_nil, or_false] at hs
        rcases hs with rfl | rfl
        · exact h1.range
        · exact h2.range
      · simp [setSteps, hp] at hs
    · exact ih1 s hs

/-! ### `push` -/

/-- the values `self.score` takes during `push(m)` -/
def pushTrace (g : Game) (m : Move) : List Int := trace g (Bounds.writes m)

theorem pushTrace_getLast (g : Game) (m : Move) :
    ((pushTrace g m).getLast?).getD g.score = (g.push m).score := by
  rw [(Bounds.push_fields g m).1]; exact trace_getLast g _

theorem push_mid_range {g : Game} {m : Move} (h : Mid g) (hf : g.Fits m) (hp : PromoOk m) :
    (∀ s ∈ pushTrace g m, -B ≤ s ∧ s ≤ B) ∧ Mid (g.push m) := by
  obtain ⟨h1, h2⟩ := trace_range h (Bounds.writes m) (take_material hf hp h.mat)
  obtain ⟨f1, f2, f3⟩ := Bounds.push_fields g m
  exact ⟨h1, mid_congr h2 f1 f2 f3⟩

/-! ### `update_phase` -/

/-- the values `self.score` takes during `update_phase` (the two kings are re-scored when the
phase switches; nothing otherwise) -/
def phaseTrace (g : Game) : List Int :=
  if g.isEndgame then
    let g0 := { g with endgame := true }
    let g1 := g0.setPosition g0.wking (g0.get g0.wking)
    setSteps g0 g0.wking (g0.get g0.wking) ++ setSteps g1 g1.bking (g1.get g1.bking)
  else []

theorem bset_bget_self (b : Board) (p : Pos) : bset b p (bget b p) = b := by
  unfold bset bget
  split
  · simp
  · rfl

theorem updatePhase_mid_range {g : Game} (h : Mid g) :
    (∀ s ∈ phaseTrace g, -B ≤ s ∧ s ≤ B) ∧ Mid g.updatePhase := by
  unfold phaseTrace
  rw [Game.updatePhase_eq]
  split
  · have h0 : Mid { g with endgame := true } := ⟨h.sum, h.bdd, h.mat⟩
    -- both writes put back what they find: the board never changes
    have := trace_range h0
      [(g.wking, Game.get { g with endgame := true } g.wking),
       (g.bking, (Game.setPosition { g with endgame := true } g.wking
          (Game.get { g with endgame := true } g.wking)).get g.bking)]
      (fun k => by
        rcases k with _ | _ | k <;>
          simp only [List.take_zero, List.take_succ_cons, List.take_nil, bsetMany, get_eq_bget,
            setPosition_board_eq, bset_bget_self] <;> exact h.mat)
    refine ⟨by simpa [trace] using this.1, ?_⟩
    have h2 := this.2
    simp only [setMany] at h2
    unfold Game.phaseFlip
    simp only [setPosition_bking]
    exact h2
  · exact ⟨fun s hs => by simp at hs, h⟩

/-! ### `push_history` -/

/-- the values `self.score` takes during `push_history(m)`: those of `update_phase`, then those of
`push` on the game `update_phase` leaves -/
def pushHistoryTrace (g : Game) (m : Move) : List Int :=
  let g' : Game := { g with moveStack := m :: g.moveStack }
  phaseTrace g' ++ pushTrace g'.updatePhase m

theorem pushHistory_mid_range {g : Game} {m : Move} (h : Mid g) (hf : g.Fits m) (hp : PromoOk m) :
    (∀ s ∈ pushHistoryTrace g m, -B ≤ s ∧ s ≤ B) ∧ Mid (g.pushHistory m) := by
  have h0 : Mid { g with moveStack := m :: g.moveStack } := ⟨h.sum, h.bdd, h.mat⟩
  obtain ⟨a1, a2⟩ := updatePhase_mid_range h0
  obtain ⟨b1, b2⟩ := push_mid_range a2 (Bounds.fits_record hf) hp
  refine ⟨?_, b2⟩
  intro s hs
  simp only [pushHistoryTrace, List.mem_append] at hs
  rcases hs with hs | hs
  · exact a1 s hs
  · exact b1 s hs

/-! ## 4. Reachable games -/

theorem reach_mid {g : Game} (h : Reach g) : Mid g := mid_of_wf (reach_wf h) (reach_material h)

/-- **the score of every reachable game is in `[-30565, 30565]`** -/
theorem score_range {g : Game} (h : Reach g) : -B ≤ g.score ∧ g.score ≤ B := (reach_mid h).range

theorem fits_of_range {s : Int} (h : -B ≤ s ∧ s ≤ B) : -32768 ≤ s ∧ s ≤ 32767 := by
  unfold B at h; omega

theorem fits_all {l : List Int} (h : ∀ s ∈ l, -B ≤ s ∧ s ≤ B) : ∀ s ∈ l, -32768 ≤ s ∧ s ≤ 32767 :=
  fun s hs => fits_of_range (h s hs)

/-- **the score of every reachable game fits `i16`** -/
theorem score_fits_i16 {g : Game} (h : Reach g) : -32768 ≤ g.score ∧ g.score ≤ 32767 :=
  fits_of_range (score_range h)

/-- **every value `self.score` takes during the `push` of a generated move (checked or not) from a
reachable game fits `i16`** -/
theorem push_intermediate_fits {g : Game} {m : Move} {b : Bool} (h : Reach g)
    (hm : m ∈ (g.getMoves b).1) : ∀ s ∈ pushTrace g m, -32768 ≤ s ∧ s ≤ 32767 := by
  have hf := Game.getMoves_fits (reach_wf h) b hm
  exact fits_all (push_mid_range (reach_mid h) hf.1 (promoOk_of_moverOk hf.2)).1

/-- the general form: any fitting move without king promotion, from any game in the state `Mid` -/
theorem push_intermediate_fits' {g : Game} {m : Move} (h : Mid g) (hf : g.Fits m) (hp : PromoOk m) :
    ∀ s ∈ pushTrace g m, -32768 ≤ s ∧ s ≤ 32767 :=
  fits_all (push_mid_range h hf hp).1

/-- **every value `self.score` takes during `update_phase` on a reachable game fits `i16`** -/
theorem updatePhase_intermediate_fits {g : Game} (h : Reach g) :
    ∀ s ∈ phaseTrace g, -32768 ≤ s ∧ s ≤ 32767 :=
  fits_all (updatePhase_mid_range (reach_mid h)).1

/-- **every value `self.score` takes during `push_history` of a checked move fits `i16`** -/
theorem pushHistory_intermediate_fits {g : Game} {m : Move} (h : Reach g)
    (hm : m ∈ (g.getMoves true).1) : ∀ s ∈ pushHistoryTrace g m, -32768 ≤ s ∧ s ≤ 32767 := by
  have hf := Game.getMoves_fits (reach_wf h) true hm
  exact fits_all (pushHistory_mid_range (reach_mid h) hf.1 (promoOk_of_moverOk hf.2)).1

/-- the import: the score before `update_phase` (the reader sums in `i32` and narrows after the
material check) and every value during the `update_phase` that ends `Game::new` fit `i16` -/
theorem import_fits {g0 : Game} (hw : g0.WF) (hm : MaterialInv g0) :
    (-32768 ≤ g0.score ∧ g0.score ≤ 32767) ∧ ∀ s ∈ phaseTrace g0, -32768 ≤ s ∧ s ≤ 32767 :=
  ⟨fits_of_range (mid_of_wf hw hm).range, fits_all (updatePhase_mid_range (mid_of_wf hw hm)).1⟩

/-! ## 5. What the search does with the score -/

/-- `game.score() * game.player() as Score` -/
theorem eval_range {g : Game} (h : Reach g) :
    -B ≤ Uci.chessOps.eval g ∧ Uci.chessOps.eval g ≤ B := by
  have := score_range h
  show -B ≤ g.score * g.player.sign ∧ g.score * g.player.sign ≤ B
  cases g.player <;> simp only [Player.sign] <;> omega

theorem eval_fits {g : Game} (h : Reach g) :
    -32768 ≤ Uci.chessOps.eval g ∧ Uci.chessOps.eval g ≤ 32767 := fits_of_range (eval_range h)

/-- **its negation fits** (the bound is symmetric, so `-x` never meets `i16::MIN`) -/
theorem neg_eval_fits {g : Game} (h : Reach g) :
    -32768 ≤ -Uci.chessOps.eval g ∧ -Uci.chessOps.eval g ≤ 32767 := by
  have := eval_range h; unfold B at this; omega

theorem neg_score_fits {g : Game} (h : Reach g) : -32768 ≤ -g.score ∧ -g.score ≤ 32767 := by
  have := score_range h; unfold B at this; omega

/-- a single table entry times the owner's sign (`piece_score * self.owner as Score`) fits -/
theorem piece_score_fits (pc : Piece) (p : Pos) (e : Bool) :
    -32768 ≤ pc.score p e ∧ pc.score p e ≤ 32767 := by
  have := bounded_abs (score_bounded pc p e); omega

/-! ## 6. The reader's running sum (`let mut score: i32`) -/

theorem foldr_crude (l : List Int) (h : ∀ x ∈ l, -20040 ≤ x ∧ x ≤ 20040) :
    -(20040 * (l.length : Int)) ≤ l.foldr (· + ·) 0 ∧ l.foldr (· + ·) 0 ≤ 20040 * (l.length : Int) := by
  induction l with
  | nil => simp
  | cons a l ih =>
    have := ih (fun x hx => h x (by simp [hx]))
    have ha := h a (by simp)
    simp only [List.foldr_cons, List.length_cons]
    omega

/-- **every value of the running sum of the placement scan fits `i32`** (whatever the text: this
is before the material check; at most 64 squares, each worth at most 20040): every state the
scanner is in is the result of a successful run on the prefix read so far -/
theorem scan_score_fits_i32 {cs : List Char} {sc : Scan} (h : Scan.init.run cs = .ok sc) :
    -2147483648 ≤ sc.score ∧ sc.score ≤ 2147483647 := by
  obtain ⟨r, c, inv⟩ := cinv_run cs _ _ _ _ cinv_init h
  have hb : ∀ x ∈ sc.pastScores.toList, -20040 ≤ x ∧ x ≤ 20040 := by
    intro x hx
    obtain ⟨i, hi, rfl⟩ := List.mem_iff_getElem.mp hx
    have hi' : i < 64 := by simpa using hi
    rw [Vector.getElem_toList]
    by_cases hv : Visited r c i
    · rw [(inv.vis i hi' hv).2]
      exact bounded_abs (placeScore_bounded _ _ _)
    · rw [(inv.unv i hi' hv).2.1]; omega
  have := foldr_crude _ hb
  rw [inv.score, sumAll]
  simp only [Vector.length_toList] at this
  omega

/-- **the import, end to end**: the game `Game::new` builds is the `update_phase` of a game whose
score (`score as Score`, narrowed from the `i32` sum after the material check) fits `i16`, and
every value `self.score` takes during that `update_phase` fits `i16` -/
theorem ofFen_import_fits {s : List Char} {g : Game} (h : Game.ofFen s = .ok g) :
    ∃ g0 : Game, g = g0.updatePhase ∧ (-32768 ≤ g0.score ∧ g0.score ≤ 32767)
      ∧ ∀ v ∈ phaseTrace g0, -32768 ≤ v ∧ v ≤ 32767 := by
  obtain ⟨p, wk, bk, c, rfl⟩ := ofFen_parts h
  obtain ⟨c1, c2, -⟩ := mkGame_cache (cinv_final p.run p.row p.col) p.player p.st wk bk
  have hmid : Mid (mkGame p.sc p.player p.st wk bk) :=
    Cache.mid ⟨c1, c2⟩ ⟨sideOkB_of_check c.white, sideOkB_of_check c.black⟩
  exact ⟨_, rfl, fits_of_range hmid.range, fits_all (updatePhase_mid_range hmid).1⟩

/-! ## 7. The material total of `is_endgame` (`let mut total_piece_score: u32`) -/

/-- the running total of `is_endgame` -/
def endgameTotal (g : Game) (l : List Pos) : Nat :=
  l.foldl (fun acc p => acc + (placeScore p g.endgame (g.get p)).natAbs) 0

theorem foldl_total_le (g : Game) (l : List Pos) (a : Nat) :
    l.foldl (fun acc p => acc + (placeScore p g.endgame (g.get p)).natAbs) a ≤ a + 20040 * l.length := by
  induction l generalizing a with
  | nil => simp
  | cons p l ih =>
    have hb := bounded_abs (placeScore_bounded p g.endgame (g.get p))
    have := ih (a + (placeScore p g.endgame (g.get p)).natAbs)
    simp only [List.foldl_cons, List.length_cons]
    omega

theorem isEndgame_eq (g : Game) :
    g.isEndgame = decide (endgameTotal g allSquares < 2 * Gen.endgameThreshold) := rfl

/-- **every value of the running total of `is_endgame` fits `u32`**, on any board: every prefix of
the square loop sums at most `64 · 20040 = 1282560`, and that is below `2^32` -/
theorem endgameTotal_fits_u32 (g : Game) (k : Nat) :
    endgameTotal g (allSquares.take k) ≤ 1282560 ∧ (1282560 : Nat) < 4294967296 := by
  refine ⟨?_, by decide⟩
  have := foldl_total_le g (allSquares.take k) 0
  have hl : (allSquares.take k).length ≤ 64 := by
    rw [List.length_take]; unfold allSquares; simp; omega
  unfold endgameTotal
  omega

end Chess.Range

#print axioms Chess.Range.reach_material
#print axioms Chess.Range.score_fits_i16
#print axioms Chess.Range.push_intermediate_fits
#print axioms Chess.Range.updatePhase_intermediate_fits
#print axioms Chess.Range.pushHistory_intermediate_fits
#print axioms Chess.Range.eval_fits
#print axioms Chess.Range.neg_eval_fits
#print axioms Chess.Range.scan_score_fits_i32
#print axioms Chess.Range.ofFen_import_fits
