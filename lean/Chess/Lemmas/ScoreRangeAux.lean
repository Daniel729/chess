import Chess.Model.Text
import Chess.Lemmas.PushPop

/-!
# Score range: the generated tables, the arithmetic of a bounded material, and writes on a board

Everything here is about lists / vectors and the generated piece-square tables; nothing about
moves.
-/
namespace Chess.Range

open Chess

/-! ## 1. Extremes of the generated tables -/

/-- largest entry of the table(s) of a piece kind (the king: of both its tables) -/
def vmax : PieceType → Nat
  | .queen => 905 | .rook => 510 | .bishop => 340 | .knight => 340 | .pawn => 150 | .king => 20040

/-- smallest entry of the two king tables -/
def kingMin : Int := 19950

/-- `a` has 64 entries, all in `[lo, hi]` (over the list: the kernel walks it once, where
`Array.all` would index into it 64 times) -/
def tableWithin (a : Array Int) (lo hi : Int) : Bool :=
  a.size == 64 && a.toList.all fun x => decide (lo ≤ x) && decide (x ≤ hi)

/-- the finite facts about the seven generated tables, checked by the kernel over all 448 entries -/
theorem tables_within :
    tableWithin Gen.queenScores 0 905 = true ∧ tableWithin Gen.rookScores 0 510 = true
    ∧ tableWithin Gen.bishopScores 0 340 = true ∧ tableWithin Gen.knightScores 0 340 = true
    ∧ tableWithin Gen.pawnScores 0 150 = true ∧ tableWithin Gen.kingScoresMiddle 19950 20040 = true
    ∧ tableWithin Gen.kingScoresEnd 19950 20040 = true := by decide +kernel

/-- the six upper bounds are attained (nothing is said of the lower bounds) -/
theorem tables_extremes_attained :
    Gen.queenScores.contains 905 = true ∧ Gen.rookScores.contains 510 = true
    ∧ Gen.bishopScores.contains 340 = true ∧ Gen.knightScores.contains 340 = true
    ∧ Gen.pawnScores.contains 150 = true ∧ Gen.kingScoresEnd.contains 20040 = true := by
  decide +kernel

theorem tableWithin_iff {a : Array Int} {lo hi : Int} :
    tableWithin a lo hi = true ↔ a.size = 64 ∧ ∀ i (h : i < a.size), lo ≤ a[i] ∧ a[i] ≤ hi := by
  simp only [tableWithin, Bool.and_eq_true, beq_iff_eq, List.all_eq_true, decide_eq_true_eq,
    Array.mem_toList_iff, Array.forall_mem_iff_forall_getElem]

theorem getD_within {a : Array Int} {lo hi : Int} (h : tableWithin a lo hi = true) {i : Nat}
    (hi64 : i < 64) : lo ≤ a.getD i 0 ∧ a.getD i 0 ≤ hi := by
  obtain ⟨hs, h⟩ := tableWithin_iff.mp h
  rw [← Array.getElem_eq_getD (h := hs ▸ hi64)]
  exact h i _

theorem scoreTable_cases (t : PieceType) (e : Bool) :
    tableWithin (Piece.scoreTable t e) (if t = .king then kingMin else 0) (vmax t) = true := by
  obtain ⟨hq, hr, hb, hn, hp, hk, hk'⟩ := tables_within
  cases t
  case queen => exact hq
  case rook => exact hr
  case bishop => exact hb
  case knight => exact hn
  case pawn => exact hp
  case king => cases e; exact hk; exact hk'

theorem scoreTable_size (t : PieceType) (e : Bool) : (Piece.scoreTable t e).size = 64 :=
  (tableWithin_iff.mp (scoreTable_cases t e)).1

theorem scoreTable_within (t : PieceType) (e : Bool) (i : Nat) :
    0 ≤ (Piece.scoreTable t e).getD i 0 ∧ (Piece.scoreTable t e).getD i 0 ≤ (vmax t : Int) := by
  have h := scoreTable_cases t e
  have hlo : (0 : Int) ≤ if t = .king then kingMin else 0 := by split <;> decide
  by_cases hi : i < 64
  · have := getD_within h hi; omega
  · -- outside the table `getD` answers 0
    have := getD_within h (i := 0) (by decide)
    rw [Array.getD_eq_getD_getElem?, Array.getElem?_eq_none (by rw [scoreTable_size]; omega)]
    show (0 : Int) ≤ 0 ∧ (0 : Int) ≤ vmax t
    omega

/-! ## 2. What a cached contribution may be -/

/-- the cached contribution `s` of a square is compatible with its content `o`: zero for an empty
square, otherwise a table entry in `[0, vmax kind]` times the owner's sign -/
def Bounded (o : Option Piece) (s : Int) : Prop :=
  match o with
  | none => s = 0
  | some pc => 0 ≤ s * pc.owner.sign ∧ s * pc.owner.sign ≤ (vmax pc.pieceType : Int)

theorem score_mul_sign (pc : Piece) (p : Pos) (e : Bool) :
    ∃ i, pc.score p e * pc.owner.sign = (Piece.scoreTable pc.pieceType e).getD i 0
      ∧ (p.Valid → i < 64) := by
  have hs : pc.owner.sign * pc.owner.sign = 1 := by cases pc.owner <;> rfl
  refine ⟨_, by unfold Piece.score; rw [Int.mul_assoc, hs, Int.mul_one], fun hp => ?_⟩
  unfold Pos.Valid at hp
  cases pc.owner <;> simp only <;> omega

theorem score_bounded (pc : Piece) (p : Pos) (e : Bool) : Bounded (some pc) (pc.score p e) := by
  obtain ⟨i, h, -⟩ := score_mul_sign pc p e
  show 0 ≤ pc.score p e * pc.owner.sign ∧ pc.score p e * pc.owner.sign ≤ (vmax pc.pieceType : Int)
  rw [h]
  exact scoreTable_within _ _ _

/-- a king on a square of the board is worth at least `kingMin`, in either phase (used for
take-back, where the moving king stands on two squares for one half-step) -/
theorem king_score_lb (pl : Player) {p : Pos} (hp : p.Valid) (e : Bool) :
    kingMin ≤ (Piece.score ⟨.king, pl⟩ p e) * pl.sign := by
  obtain ⟨i, h, hi⟩ := score_mul_sign ⟨.king, pl⟩ p e
  rw [h]
  exact (getD_within (scoreTable_cases .king e) (hi hp)).1

theorem placeScore_bounded (p : Pos) (e : Bool) (x : Option Piece) : Bounded x (placeScore p e x) := by
  cases x with
  | none => rfl
  | some pc => exact score_bounded pc p e

theorem vmax_le (t : PieceType) : vmax t ≤ 20040 ∧ (t ≠ .king → vmax t ≤ 905) := by
  cases t <;> decide

/-- a single contribution fits `i16` with a wide margin (`piece_score * self.owner as Score`) -/
theorem bounded_abs {o : Option Piece} {s : Int} (h : Bounded o s) : -20040 ≤ s ∧ s ≤ 20040 := by
  cases o with
  | none => simp only [Bounded] at h; omega
  | some pc =>
    obtain ⟨t, pl⟩ := pc
    have := (vmax_le t).1
    simp only [Bounded] at h
    cases pl <;> simp only [Player.sign] at h <;> omega

/-! ## 3. Sums over (content, contribution) pairs -/

/-- indicator of "this square holds exactly `⟨t, pl⟩`" -/
def ind (pl : Player) (t : PieceType) (o : Option Piece) : Nat := if o = some ⟨t, pl⟩ then 1 else 0

@[simp] theorem ind_none (pl : Player) (t : PieceType) : ind pl t none = 0 := rfl

theorem ind_le_one (pl : Player) (t : PieceType) (o : Option Piece) : ind pl t o ≤ 1 := by
  unfold ind; split <;> omega

theorem ind_some (pl pl' : Player) (t t' : PieceType) :
    ind pl t (some ⟨t', pl'⟩) = if t' = t ∧ pl' = pl then 1 else 0 := by
  unfold ind
  simp only [Option.some.injEq, Piece.mk.injEq]

/-- a quantity that is the sum over squares of a weight `f` of their content -/
def lsum (f : Option Piece → Nat) (l : List (Option Piece)) : Nat := (l.map f).sum

theorem lsum_cons (f : Option Piece → Nat) (a : Option Piece) (l : List (Option Piece)) :
    lsum f (a :: l) = f a + lsum f l := rfl

/-- the number of squares holding exactly `⟨t, pl⟩` (the reader's `countPieces`) is such a sum -/
theorem filter_length_eq (l : List (Option Piece)) (pl : Player) (t : PieceType) :
    (l.filter (fun o => o = some ⟨t, pl⟩)).length = lsum (ind pl t) l := by
  induction l with
  | nil => rfl
  | cons a l ih =>
    rw [lsum_cons, ← ih, List.filter_cons, ind]
    by_cases h : a = some ⟨t, pl⟩
    · rw [if_pos (by simpa using h), if_pos h, List.length_cons, Nat.add_comm]
    · rw [if_neg (by simpa using h), if_neg h, Nat.zero_add]

abbrev Board := Vector (Option Piece) 64

def bsum (f : Option Piece → Nat) (b : Board) : Nat := lsum f b.toList

theorem countPieces_eq_bsum (b : Board) (pl : Player) (t : PieceType) :
    countPieces b pl t = bsum (ind pl t) b := filter_length_eq b.toList pl t

/-- the most side `pl` can be worth given how many men of each kind it has -/
def capL (l : List (Option Piece)) (pl : Player) : Int :=
  (vmax .king : Int) * lsum (ind pl .king) l + (vmax .queen : Int) * lsum (ind pl .queen) l
    + (vmax .rook : Int) * lsum (ind pl .rook) l + (vmax .bishop : Int) * lsum (ind pl .bishop) l
    + (vmax .knight : Int) * lsum (ind pl .knight) l + (vmax .pawn : Int) * lsum (ind pl .pawn) l

def sumL (l : List (Option Piece × Int)) : Int := (l.map (·.2)).foldr (· + ·) 0

/-- one square seen from `pl`: a man of `pl` is worth at most the cap of its kind, a man of the
other side at most 0, and the other king at most `-κ` if kings are worth at least `κ` -/
theorem square_le {o : Option Piece} {s κ : Int} (pl : Player) (h : Bounded o s)
    (hk : o = some ⟨.king, pl.other⟩ → κ ≤ s * pl.other.sign) :
    s * pl.sign + κ * ind pl.other .king o ≤ capL [o] pl := by
  cases o with
  | none => simp only [Bounded] at h; subst h; simp [capL, lsum]
  | some pc =>
    obtain ⟨t, pl'⟩ := pc
    have hc : capL [some ⟨t, pl'⟩] pl = if pl' = pl then (vmax t : Int) else 0 := by
      cases t <;> simp [capL, lsum, ind_some] <;> split <;> rfl
    rw [hc, ind_some]
    -- with the colours fixed the signs are `1` and `-1`, and `h`, `hk` are the linear bounds
    -- `0 ≤ ±s ≤ vmax t` and `κ ≤ ±s` (the latter only for the other side's king) that `omega` needs
    cases pl' <;> cases pl <;> by_cases ht : t = .king <;>
      simp [Bounded, Player.sign, Player.other, ht] at h hk ⊢ <;> omega

theorem pairs_le {κ : Int} (pl : Player) (l : List (Option Piece × Int))
    (h : ∀ e ∈ l, Bounded e.1 e.2)
    (hk : ∀ e ∈ l, e.1 = some ⟨.king, pl.other⟩ → κ ≤ e.2 * pl.other.sign) :
    sumL l * pl.sign + κ * lsum (ind pl.other .king) (l.map (·.1)) ≤ capL (l.map (·.1)) pl := by
  induction l with
  | nil => simp [sumL, capL, lsum]
  | cons a l ih =>
    have h1 := square_le pl (h a List.mem_cons_self) (hk a List.mem_cons_self)
    have h2 := ih (fun e he => h e (List.mem_cons_of_mem _ he)) (fun e he => hk e (List.mem_cons_of_mem _ he))
    have e0 : sumL (a :: l) = a.2 + sumL l := rfl
    simp only [capL, List.map_cons, lsum_cons, e0, Int.add_mul, Int.natCast_add, Int.mul_add] at h1 h2 ⊢
    simp only [lsum, List.map_nil, List.sum_nil, Int.natCast_zero, Int.mul_zero, Int.add_zero] at h1
    omega

/-! ## 4. The material invariant and the bound `B` -/

/-- one side's material in counts: at most one king, and pawns plus promoted surplus at most 8 -/
def SideOk (k q r b n p : Nat) : Prop :=
  k ≤ 1 ∧ p + ((q - 1) + (r - 2) + (b - 2) + (n - 2)) ≤ 8

/-- **the bound**: king on its best square, nine queens, two rooks, two bishops, two knights, each
on the best square of its kind: `20040 + 9·905 + 2·510 + 2·340 + 2·340` -/
def B : Int := 30565

theorem B_eq : B = (vmax .king : Int) + 9 * (vmax .queen : Int) + 2 * (vmax .rook : Int)
    + 2 * (vmax .bishop : Int) + 2 * (vmax .knight : Int) := by decide

theorem B_lt_i16 : B ≤ 32767 ∧ -32768 ≤ -B := by decide

/-- `SideOk` without truncated subtraction: the officers beyond the initial set (`q'`, `r'`, `b'`,
`n'` of them) are paid for by missing pawns -/
theorem SideOk.surplus {k q r b n p : Nat} (h : SideOk k q r b n p) :
    k ≤ 1 ∧ ∃ q' r' b' n', q ≤ q' + 1 ∧ r ≤ r' + 2 ∧ b ≤ b' + 2 ∧ n ≤ n' + 2
      ∧ p + (q' + r' + b' + n') ≤ 8 :=
  ⟨h.1, q - 1, r - 2, b - 2, n - 2, Nat.le_add_of_sub_le (Nat.le_refl _),
    Nat.le_add_of_sub_le (Nat.le_refl _), Nat.le_add_of_sub_le (Nat.le_refl _),
    Nat.le_add_of_sub_le (Nat.le_refl _), h.2⟩

/-- the arithmetic heart: under `SideOk` the cap is at most `B` -/
theorem cap_le_B {k q r b n p : Nat} (h : SideOk k q r b n p) :
    (20040 : Int) * k + 905 * q + 510 * r + 340 * b + 340 * n + 150 * p ≤ 30565 := by
  obtain ⟨_, q', r', b', n', _, _, _, _, _⟩ := h.surplus
  omega

theorem sub_le_of_le_add {a' a d : Nat} (c : Nat) (h : a' ≤ a + d) : a' - c ≤ (a - c) + d := by omega

/-- the invariant survives a change of the counts in which no king is added and every officer
added (`dq`, `dr`, `db`, `dn` of them) is paid for by a pawn -/
theorem SideOk.of_le {k q r b n p k' q' r' b' n' p' dq dr db dn : Nat} (h : SideOk k q r b n p)
    (hk : k' ≤ k) (hq : q' ≤ q + dq) (hr : r' ≤ r + dr) (hb : b' ≤ b + db) (hn : n' ≤ n + dn)
    (hp : p' + (dq + dr + db + dn) ≤ p) : SideOk k' q' r' b' n' p' := by
  obtain ⟨h1, h2⟩ := h
  have := sub_le_of_le_add 1 hq
  have := sub_le_of_le_add 2 hr
  have := sub_le_of_le_add 2 hb
  have := sub_le_of_le_add 2 hn
  exact ⟨Nat.le_trans hk h1, by omega⟩

/-! ## 5. Vectors: the material check on a board, and the range of the sum of a cache -/

/-- one side of a board passes the (weakened: at most one king) material check; the counts are the
reader's own `countPieces` -/
def SideOkB (b : Board) (pl : Player) : Prop :=
  SideOk (countPieces b pl .king) (countPieces b pl .queen) (countPieces b pl .rook)
    (countPieces b pl .bishop) (countPieces b pl .knight) (countPieces b pl .pawn)

/-- both sides: at most one king, pawns + promoted surplus at most 8 -/
def MaterialOk (b : Board) : Prop := SideOkB b .white ∧ SideOkB b .black

instance (b : Board) : Decidable (MaterialOk b) := by
  unfold MaterialOk SideOkB SideOk; infer_instance

/-- the reader's check implies the invariant (`= 1` king is weakened to `≤ 1`) -/
theorem sideOkB_of_check {b : Board} {pl : Player} (h : materialOkSide b pl = true) : SideOkB b pl := by
  unfold materialOkSide at h
  simp only [Bool.and_eq_true, decide_eq_true_eq] at h
  exact ⟨Nat.le_of_eq h.1, h.2⟩

theorem materialOk_of_count_le {b b' : Board} (h : MaterialOk b)
    (hle : ∀ pl t, countPieces b' pl t ≤ countPieces b pl t) : MaterialOk b' :=
  ⟨h.1.of_le (dq := 0) (dr := 0) (db := 0) (dn := 0) (hle _ _) (hle _ _) (hle _ _) (hle _ _) (hle _ _) (hle _ _),
   h.2.of_le (dq := 0) (dr := 0) (db := 0) (dn := 0) (hle _ _) (hle _ _) (hle _ _) (hle _ _) (hle _ _) (hle _ _)⟩

/-- every cached contribution is compatible with the content of its square -/
def CacheBounded (b : Board) (v : Vector Int 64) : Prop :=
  ∀ (i : Nat) (h : i < 64), Bounded b[i] v[i]

/-- every king recorded in the cache is recorded with at least `κ` -/
def KingLB (κ : Int) (b : Board) (v : Vector Int 64) : Prop :=
  ∀ (i : Nat) (h : i < 64) (pl : Player), b[i] = some ⟨.king, pl⟩ → κ ≤ v[i] * pl.sign

theorem CacheBounded.kingLB_zero {b : Board} {v : Vector Int 64} (hb : CacheBounded b v) :
    KingLB 0 b v := by
  intro i hi pl h
  have := hb i hi
  rw [h] at this
  exact this.1

/-- **a cache that is compatible with a board of possible material sums, seen from either side, to
at most `B`, less `κ` for every king of the other side if kings are recorded with at least `κ`** -/
theorem sum_le {b : Board} {v : Vector Int 64} {κ : Int} (hb : CacheBounded b v) (hk : KingLB κ b v)
    (hm : MaterialOk b) (pl : Player) :
    sumAll v * pl.sign + κ * countPieces b pl.other .king ≤ B := by
  have hlen : b.toList.length = v.toList.length := by simp
  have hz : ∀ e ∈ List.zip b.toList v.toList, Bounded e.1 e.2 ∧ ∀ pl', e.1 = some ⟨.king, pl'⟩ → κ ≤ e.2 * pl'.sign := by
    intro e he
    obtain ⟨i, hi, rfl⟩ := List.mem_iff_getElem.mp he
    have hi' : i < 64 := by simp at hi; omega
    rw [List.getElem_zip]
    simpa using ⟨hb i hi', hk i hi'⟩
  have e1 : sumL (List.zip b.toList v.toList) = sumAll v := by
    unfold sumL sumAll
    rw [show (fun x : Option Piece × Int => x.2) = Prod.snd from rfl, List.map_snd_zip (by omega)]
  have e2 : (List.zip b.toList v.toList).map (·.1) = b.toList := by
    rw [show (fun x : Option Piece × Int => x.1) = Prod.fst from rfl, List.map_fst_zip (by omega)]
  have := pairs_le pl _ (fun e he => (hz e he).1) (fun e he => (hz e he).2 _)
  rw [e1, e2, ← show countPieces b pl.other .king = lsum _ b.toList from countPieces_eq_bsum ..] at this
  have hs : SideOkB b pl := by cases pl; exact hm.1; exact hm.2
  have hc : capL b.toList pl ≤ B := by
    have := cap_le_B hs
    simp only [countPieces_eq_bsum] at this
    exact this
  omega

theorem sum_range {b : Board} {v : Vector Int 64} (hb : CacheBounded b v) (hm : MaterialOk b) :
    -B ≤ sumAll v ∧ sumAll v ≤ B := by
  have hw := sum_le hb hb.kingLB_zero hm .white
  have hk := sum_le hb hb.kingLB_zero hm .black
  simp only [Player.sign] at hw hk
  omega

/-! ## 6. Writes on a board and their effect on additive quantities -/

/-- the board part of `set_position` -/
def bset (b : Board) (p : Pos) (x : Option Piece) : Board :=
  if h : p.idx < 64 then b.set p.idx x else b

/-- `get_position` on a board -/
def bget (b : Board) (p : Pos) : Option Piece := if h : p.idx < 64 then b[p.idx] else none

def bsetMany (b : Board) : List (Pos × Option Piece) → Board
  | [] => b
  | (p, x) :: l => bsetMany (bset b p x) l

theorem setPosition_board_eq (g : Game) (p : Pos) (x : Option Piece) :
    (g.setPosition p x).board = bset g.board p x := by
  unfold Game.setPosition bset
  split <;> rfl

theorem get_eq_bget (g : Game) (p : Pos) : g.get p = bget g.board p := rfl

theorem setMany_board_eq (g : Game) (l : List (Pos × Option Piece)) :
    (g.setMany l).board = bsetMany g.board l := by
  induction l generalizing g with
  | nil => rfl
  | cons e l ih => rw [Game.setMany, ih, setPosition_board_eq]; rfl

theorem lsum_set (f : Option Piece → Nat) (l : List (Option Piece)) (i : Nat) (x : Option Piece)
    (h : i < l.length) : lsum f (l.set i x) + f l[i] = lsum f l + f x := by
  unfold lsum
  induction l generalizing i with
  | nil => simp at h
  | cons a l ih =>
    cases i with
    | zero => simp only [List.set_cons_zero, List.map_cons, List.sum_cons, List.getElem_cons_zero]; omega
    | succ i =>
      have := ih i (by simpa using h)
      simp only [List.set_cons_succ, List.map_cons, List.sum_cons, List.getElem_cons_succ]
      omega

/-- one write: the weight of what stood there goes, the weight of what is put comes -/
theorem bsum_bset (f : Option Piece → Nat) (b : Board) {p : Pos} (hp : p.idx < 64) (x : Option Piece) :
    bsum f (bset b p x) + f (bget b p) = bsum f b + f x := by
  unfold bsum bset bget
  simp only [hp, dite_true, Vector.toList_set]
  have := lsum_set f b.toList p.idx x (by simpa using hp)
  simpa using this

/-- what a list of writes overwrites on `b` -/
def olds (b : Board) (l : List (Pos × Option Piece)) : List (Option Piece) := l.map fun e => bget b e.1

/-- **balance of a sequence of writes to pairwise distinct squares of the board** -/
theorem bsum_bsetMany (f : Option Piece → Nat) (b : Board) (l : List (Pos × Option Piece))
    (hv : ∀ e ∈ l, e.1.Valid) (hd : l.Pairwise (fun a b => a.1 ≠ b.1)) :
    bsum f (bsetMany b l) + lsum f (olds b l) = bsum f b + lsum f (l.map (·.2)) := by
  induction l generalizing b with
  | nil => rfl
  | cons e l ih =>
    obtain ⟨p, x⟩ := e
    have hp : p.Valid := hv (p, x) List.mem_cons_self
    rw [List.pairwise_cons] at hd
    have h1 := ih (bset b p x) (fun e he => hv e (List.mem_cons_of_mem _ he)) hd.2
    have h2 := bsum_bset f b (Pos.idx_lt hp) x
    have h3 : olds (bset b p x) l = olds b l := by
      refine List.map_congr_left fun e he => ?_
      have hq := hv e (List.mem_cons_of_mem _ he)
      unfold bget bset
      simp only [Pos.idx_lt hp, Pos.idx_lt hq, dite_true]
      exact Vector.getElem_set_ne _ _ (Pos.idx_ne hp hq (hd.1 e he))
    rw [h3] at h1
    simp only [bsetMany, olds, lsum, List.map_cons, List.sum_cons] at h1 h2 ⊢
    omega

theorem materialOk_bset_none {b : Board} (h : MaterialOk b) (p : Pos) : MaterialOk (bset b p none) := by
  by_cases hp : p.idx < 64
  · apply materialOk_of_count_le h
    intro pl t
    have := bsum_bset (ind pl t) b hp none
    rw [countPieces_eq_bsum, countPieces_eq_bsum]
    rw [ind_none] at this
    omega
  · unfold bset; rw [dif_neg hp]; exact h

/-- after `k` of the writes `l` on `b` the material is possible if, kind by kind, what `b` holds
plus what has been put is at most what a board `b0` of possible material holds plus what has been
overwritten -/
theorem materialOk_take {b0 b : Board} (h0 : MaterialOk b0) (l : List (Pos × Option Piece))
    (hv : ∀ e ∈ l, e.1.Valid) (hd : l.Pairwise (fun a b => a.1 ≠ b.1)) (k : Nat)
    (hle : ∀ pl t, bsum (ind pl t) b + lsum (ind pl t) ((l.take k).map (·.2))
      ≤ bsum (ind pl t) b0 + lsum (ind pl t) ((olds b l).take k)) :
    MaterialOk (bsetMany b (l.take k)) := by
  apply materialOk_of_count_le h0
  intro pl t
  have bal := bsum_bsetMany (ind pl t) b (l.take k) (fun e he => hv e (List.mem_of_mem_take he))
    (hd.sublist (List.take_sublist _ _))
  rw [olds, List.map_take, ← olds] at bal
  have := hle pl t
  rw [countPieces_eq_bsum, countPieces_eq_bsum]
  omega

end Chess.Range
