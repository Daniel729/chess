import Chess.Lemmas.ScoreRangePop

/-!
# Score range: the hypotheses are satisfiable, and the material hypothesis is needed
-/
namespace Chess.Range

open Chess Chess.Game

/-! ## 1. Non-vacuity: the start position -/

def isOk : FenResult → Bool
  | .ok _ => true
  | _ => false

def okScore : FenResult → Option Int
  | .ok g => some g.score
  | _ => none

/-- the twenty first moves and the values `self.score` passes through in `push_history` -/
def startTraces : Option (List (List Int)) :=
  match Game.ofFen Uci.startFen with
  | .ok g => some ((g.getMoves true).1.map (pushHistoryTrace g))
  | _ => none

/-- the values during the take-back of the first four of them (the knight moves): the knight is
put back on its start square while it still stands on the arrival square (`50 + 280 = 330`) -/
def startPopTraces : Option (List (List Int)) :=
  match Game.ofFen Uci.startFen with
  | .ok g => some (((g.getMoves true).1.take 4).map (fun m => popTrace (g.push m) m))
  | _ => none

/-- outside the endgame `update_phase` does nothing, and `push_history` is `push` as far as the score goes -/
theorem pushHistoryTrace_of_not_endgame {g : Game} (h : g.isEndgame = false) (m : Move) :
    pushHistoryTrace g m = pushTrace g m := by
  have e : Game.isEndgame { g with moveStack := m :: g.moveStack } = false := h
  unfold pushHistoryTrace phaseTrace Game.updatePhase pushTrace
  simp only [e, Bool.false_eq_true, if_false, List.nil_append]
  exact trace_moveStack _ _ _

/-- everything that is evaluated on the start position, in one evaluation: the text is read once and its moves
are generated once -/
theorem startFacts : isOk (Game.ofFen Uci.startFen) = true ∧ okScore (Game.ofFen Uci.startFen) = some 0
    ∧ (match Game.ofFen Uci.startFen with | .ok g => some g.isEndgame | _ => none) = some false
    ∧ (match Game.ofFen Uci.startFen with
        | .ok g => some ((g.getMoves true).1.map (pushTrace g))
        | _ => none) = some
      [[-280, -280, -280, 50], [-280, -280, -280, 10], [-280, -280, -280, 10], [-280, -280, -280, 50],
       [-105, -105, -105, -5], [-105, -105, -105, 0], [-110, -110, -110, -10], [-110, -110, -110, -15],
       [-110, -110, -110, -10], [-110, -110, -110, -20], [-80, -80, -80, 40], [-80, -80, -80, 20],
       [-80, -80, -80, 40], [-80, -80, -80, 20], [-110, -110, -110, -10], [-110, -110, -110, -20],
       [-110, -110, -110, -10], [-110, -110, -110, -15], [-105, -105, -105, -5], [-105, -105, -105, 0]]
    ∧ startPopTraces = some [[50, 330, 0, 0], [10, 290, 0, 0], [10, 290, 0, 0], [50, 330, 0, 0]] := by
  decide +kernel

theorem startFen_ok : isOk (Game.ofFen Uci.startFen) = true := startFacts.1

theorem startFen_score : okScore (Game.ofFen Uci.startFen) = some 0 := startFacts.2.1

/-- the standard start position is read, is reachable, satisfies both hypotheses of the numeric
bound (`WF`, `MaterialInv`), and the conclusions hold of it -/
example : ∃ g, Game.ofFen Uci.startFen = .ok g ∧ Reach g ∧ g.WF ∧ MaterialInv g ∧ Mid g
    ∧ g.score = 0 ∧ (-32768 ≤ g.score ∧ g.score ≤ 32767) := by
  cases h : Game.ofFen Uci.startFen with
  | ok g =>
    have hr : Reach g := Reach.imported _ g h
    have hs := startFen_score
    rw [h] at hs
    simp only [okScore, Option.some.injEq] at hs
    exact ⟨g, rfl, hr, reach_wf hr, reach_material hr, reach_mid hr, hs, score_fits_i16 hr⟩
  | refused w => have := startFen_ok; rw [h] at this; cases this
  | fault w => have := startFen_ok; rw [h] at this; cases this

theorem startTraces_quiet : startTraces = match Game.ofFen Uci.startFen with
    | .ok g => some ((g.getMoves true).1.map (pushTrace g))
    | _ => none := by
  have he := startFacts.2.2.1
  unfold startTraces
  cases h : Game.ofFen Uci.startFen with
  | ok g =>
    rw [h] at he
    have he' : g.isEndgame = false := Option.some.inj he
    exact congrArg some (List.map_congr_left fun m _ => pushHistoryTrace_of_not_endgame he' m)
  | refused w => rfl
  | fault w => rfl

/-- the traces are not empty lists: four values per quiet move (e.g. `b1a3`: the knight leaves,
`0 − 280`; nothing is put, `+ 0`; the target is empty, `− 0`; the knight lands, `+ 330`) -/
theorem startTraces_eq : startTraces = some
    [[-280, -280, -280, 50], [-280, -280, -280, 10], [-280, -280, -280, 10], [-280, -280, -280, 50],
     [-105, -105, -105, -5], [-105, -105, -105, 0], [-110, -110, -110, -10], [-110, -110, -110, -15],
     [-110, -110, -110, -10], [-110, -110, -110, -20], [-80, -80, -80, 40], [-80, -80, -80, 20],
     [-80, -80, -80, 40], [-80, -80, -80, 20], [-110, -110, -110, -10], [-110, -110, -110, -20],
     [-110, -110, -110, -10], [-110, -110, -110, -15], [-105, -105, -105, -5], [-105, -105, -105, 0]] := by
  rw [startTraces_quiet]; exact startFacts.2.2.2.1

theorem startPopTraces_eq : startPopTraces = some
    [[50, 330, 0, 0], [10, 290, 0, 0], [10, 290, 0, 0], [50, 330, 0, 0]] := startFacts.2.2.2.2

/-! ## 2. The material hypothesis is needed -/

/-- forty white queens (and two kings in the corners) -/
def queens40 : List Char := "QQQQQQQQ/QQQQQQQQ/QQQQQQQQ/QQQQQQQQ/QQQQQQQQ/8/8/k6K".toList

/-- the game the reader would build from its scan if it did not check the material -/
def scanGame (sc : Scan) : Game :=
  { score := sc.score, player := .white, moveStack := [], endgame := false, hash := sc.hash,
    board := sc.board, pastScores := sc.pastScores, pastHashes := sc.pastHashes,
    wking := ⟨0, 7⟩, bking := ⟨0, 0⟩, state := [GState.default] }

def scanOf (s : List Char) : Option Game :=
  match Scan.init.run s with
  | .ok sc => some (scanGame sc)
  | .error _ => none

instance (o : Option Piece) (s : Int) : Decidable (Bounded o s) := by
  unfold Bounded; cases o <;> infer_instance

/-- the first two fields of `Mid` (everything but the material), and the score above `i16::MAX` -/
def overflowWitness (g : Game) : Bool :=
  decide (g.score = sumAll g.pastScores)
    && (List.range 64).all (fun i => if h : i < 64 then decide (Bounded g.board[i] g.pastScores[i]) else true)
    && decide (32767 < g.score) && decide (g.score = 35965)
    && !decide (MaterialOk g.board)

theorem queens40_witness : (scanOf queens40).map overflowWitness = some true := by decide +kernel

/-- **without the material hypothesis the bound fails**: there is a game whose score is the sum of
its cache, whose every cached contribution is the table entry of what stands on the square, and
whose score does not fit `i16`.  (The witness is the scan of
`QQQQQQQQ/QQQQQQQQ/QQQQQQQQ/QQQQQQQQ/QQQQQQQQ/8/8/k6K`, one king a side, score `35965`
(`queens40_witness`); of the fields of `Mid` only `MaterialInv` fails.) -/
theorem material_hypothesis_needed :
    ∃ g : Game, g.score = sumAll g.pastScores ∧ CacheBounded g.board g.pastScores
      ∧ ¬ MaterialInv g ∧ ¬ (g.score ≤ 32767) := by
  have h := queens40_witness
  cases hg : scanOf queens40 with
  | none => rw [hg] at h; cases h
  | some g =>
    rw [hg] at h
    simp only [Option.map_some, Option.some.injEq, overflowWitness, Bool.and_eq_true,
      decide_eq_true_eq, Bool.not_eq_true', decide_eq_false_iff_not, List.all_eq_true,
      List.mem_range] at h
    obtain ⟨⟨⟨⟨h1, h2⟩, h3⟩, -⟩, h5⟩ := h
    refine ⟨g, h1, ?_, h5, by omega⟩
    intro i hi
    have := h2 i hi
    rw [dif_pos hi] at this
    exact of_decide_eq_true this

def refusedWith : FenResult → String → Bool
  | .refused w, s => w == s
  | _, _ => false

/-- and the reader does refuse that text, for this reason -/
theorem queens40_refused :
    refusedWith (Game.ofFen (queens40 ++ " w - -".toList)) "Impossible material" = true := by
  decide +kernel

end Chess.Range

#print axioms Chess.Range.material_hypothesis_needed
#print axioms Chess.Range.startTraces_eq
#print axioms Chess.Range.queens40_refused
