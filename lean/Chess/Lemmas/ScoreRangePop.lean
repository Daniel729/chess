import Chess.Lemmas.ScoreRange
import Chess.Lemmas.RefineBase

/-!
# Score range: take-back (`pop`)

`pop` puts the moved piece back on its start square *before* it clears the arrival square, so for
one half-step the piece stands on two squares and the material invariant is suspended.  The value
still fits `i16`: a duplicated non-king is worth at most 905 (`30565 + 905 = 31470`); a duplicated
king is worth at most 20040 but then the other king is on the board and worth at least 19950
(`30565 − 19950 + 20040 = 30655`).  The second case needs: the side that is not to move has its
king (`KingsInv`), which in turn needs that generated moves do not capture own men (`Shape.cap`).
-/
namespace Chess.Range

open Chess Chess.Game

/-! ## 1. The side that is not to move has its king -/

/-- each side has exactly one king, except that the king of the side to move may have been captured
on an unchecked search line — and then that side is not given any move.  (How many kings there are;
`Game.KingInv` is about where the cache says they stand.) -/
def KingsInv (g : Game) : Prop :=
  ∀ pl, countPieces g.board pl .king = 1
    ∨ (countPieces g.board pl .king = 0 ∧ g.kingExists pl = false ∧ pl = g.player)

theorem kingsInv_other {g : Game} (h : KingsInv g) : countPieces g.board g.player.other .king = 1 := by
  rcases h g.player.other with h | ⟨-, -, h⟩
  · exact h
  · exact absurd h (by simp)

/-- how the number of kings changes under `push`: only by a captured king -/
theorem king_count_push {g : Game} {m : Move} (hf : g.Fits m) (hp : PromoOk m) (pl : Player) :
    countPieces (g.push m).board pl .king + ind pl .king m.cap = countPieces g.board pl .king := by
  have bal := Bounds.push_balance (ind pl .king) hf
  rw [← countPieces_eq_bsum, ← countPieces_eq_bsum] at bal
  cases m with
  | promotion o t s e cap =>
    have ht : ind pl .king (some ⟨t, o⟩) = 0 := by rw [ind_some, if_neg (fun h => hp h.1)]
    simp only [Bounds.reads, Bounds.writes, Move.cap, lsum, List.map_cons, List.map_nil, List.sum_cons,
      List.sum_nil, ind_none, ht, ind_some, reduceCtorEq, false_and, ↓reduceIte] at bal ⊢
    omega
  | _ =>
    simp only [Bounds.reads, Bounds.writes, Move.cap, lsum, List.map_cons, List.map_nil, List.sum_cons,
      List.sum_nil, ind_none, ind_some, reduceCtorEq, false_and, ↓reduceIte] at bal ⊢
    omega

/-- after the capture of a king the cached square of that king holds the capturing man, which is
not a king -/
theorem kingExists_after_capture {g : Game} {m : Move} (hk : g.KingInv) (hf : g.Fits m)
    (hx : g.MoverOk m) (pl : Player) (hpl : pl ≠ g.player) (hc : m.cap = some ⟨.king, pl⟩) :
    (g.push m).kingExists pl = false := by
  have hst := hf.step
  have hkp : g.kingPos pl = m.stop := hk.unique _ pl hst.vstop (hst.get_stop.trans hc)
  unfold Game.kingExists
  cases m with
  | normal pc s e cap =>
    rw [push_kingPos_normal, if_neg (fun h => hpl h.2), hkp, Move.stop,
      push_get_normal g pc s e _ hst.vstart hst.vstop e hst.vstop, if_pos rfl]
    simp only [decide_eq_false_iff_not]
    exact fun hpk => hx.2 hpk ⟨.king, pl⟩ hc rfl
  | promotion o t s e cap =>
    rw [push_kingPos_promotion, hkp, Move.stop,
      push_get_promotion g o t s e _ hst.vstart hst.vstop e hst.vstop, if_pos rfl]
    simp only [decide_eq_false_iff_not]
    exact (Bounds.promo_kind hx).2
  | _ => cases hc

theorem push_kingsInv {g : Game} {m : Move} (hki : g.KingInv) (hf : g.Fits m) (hx : g.MoverOk m)
    (hce : ∀ c, m.cap = some c → c.owner ≠ g.player) (hke : g.kingExists g.player = true) (hk : KingsInv g) :
    KingsInv (g.push m) := by
  have c1 : countPieces g.board g.player .king = 1 := by
    rcases hk g.player with h | ⟨-, h, -⟩
    · exact h
    · rw [hke] at h; cases h
  have c2 := kingsInv_other hk
  intro pl
  have bal := king_count_push hf (promoOk_of_moverOk hx) pl
  by_cases hcap : m.cap = some ⟨.king, pl⟩
  · have hpl : pl ≠ g.player := hce _ hcap
    right
    refine ⟨?_, kingExists_after_capture hki hf hx pl hpl hcap, by rw [Game.push_player, ← Game.owner_other hpl]⟩
    rw [hcap] at bal
    have : ind pl .king (some ⟨.king, pl⟩) = 1 := by simp [ind]
    rw [Game.owner_other hpl] at bal this ⊢
    omega
  · left
    have : ind pl .king m.cap = 0 := by
      unfold ind; rw [if_neg hcap]
    have hc : countPieces g.board pl .king = 1 := by
      by_cases e : pl = g.player
      · rw [e]; exact c1
      · rw [Game.owner_other e]; exact c2
    omega

theorem updatePhase_kingsInv {g : Game} (hk : KingsInv g) : KingsInv g.updatePhase := by
  obtain ⟨f1, f2, -, f4, f5⟩ := updatePhase_fields g
  intro pl
  rw [f1, kingExists_congr f1 f4 f5, f2]
  exact hk pl

theorem reach_kingsInv {g : Game} (h : Reach g) : KingsInv g := by
  induction h with
  | imported s g hok =>
    obtain ⟨hw, hb, -⟩ := Bounds.ofFen_material hok
    intro pl
    cases pl
    · exact .inl (countKing_one hw)
    · exact .inl (countKing_one hb)
  | played g m hr hm ih =>
    have hw := reach_wf hr
    have hps := Game.getMoves_subset hw true hm
    obtain ⟨hf, hx⟩ := generated_fits hw hps
    have hce := (generated_shape' hps).cap
    have hke := (mem_pseudoMoves.1 hps).1
    let g1 : Game := { g with moveStack := m :: g.moveStack }
    obtain ⟨f1, f2, f3, f4, f5⟩ := updatePhase_fields g1
    have hw1 : g1.updatePhase.WF := Game.updatePhase_wf (Game.recordMove_wf m hw)
    have hk1 : KingsInv g1.updatePhase := updatePhase_kingsInv (g := g1) ih
    have hx1 : g1.updatePhase.MoverOk m := (moverOk_congr (g := g) f3 f2 m).2 hx
    have hce1 : ∀ c, m.cap = some c → c.owner ≠ g1.updatePhase.player := by
      rw [f2]; exact hce
    have hke1 : g1.updatePhase.kingExists g1.updatePhase.player = true := by
      rw [kingExists_congr (g := g) f1 f4 f5, f2]; exact hke
    exact push_kingsInv hw1.kings (Bounds.fits_record hf) hx1 hce1 hke1 hk1
  | searched g m b hr hm ih =>
    have hw := reach_wf hr
    have hps := Game.getMoves_subset hw b hm
    exact push_kingsInv hw.kings (generated_fits hw hps).1 (generated_fits hw hps).2
      (generated_shape' hps).cap (mem_pseudoMoves.1 hps).1 ih

/-! ## 2. Games with a consistent cache -/

theorem Cache.setPosition {g : Game} (h : Cache g) {p : Pos} (hp : p.Valid) (x : Option Piece) :
    Cache (g.setPosition p x) :=
  ⟨setPosition_cacheInv g p x hp h.inv, by rw [setPosition_resScore g p x hp]; exact h.res⟩

/-- with the other king on the board the score seen from `pl` is at most `B − 19950` -/
theorem Cache.range_king {g : Game} (h : Cache g) (hm : MaterialOk g.board) (pl : Player)
    (h1 : countPieces g.board pl.other .king = 1) : g.score * pl.sign ≤ B - kingMin := by
  have hk : KingLB kingMin g.board g.pastScores := by
    intro i hi pl hb
    rw [h.inv.scores i hi, hb]
    exact king_score_lb pl (Pos.ofIdx_valid hi) g.endgame
  have := sum_le (h.mid hm).bdd hk hm pl
  rw [← (h.mid hm).sum, h1] at this
  omega

/-! ## 3. Two writes, the first of which duplicates a man -/

/-- The pattern of `pop` for a normal move and for a promotion: write `x1` on the (empty) start
square, then replace the man `pc'` on the arrival square by `x2`.  The boards after the first
half-step, after the third and after the fourth have possible material; the one after the second
may have `pc'` twice. -/
theorem two_writes_fit {G : Game} (hc : Cache G) {s e : Pos} (hs : s.Valid) (he : e.Valid)
    (hne : s ≠ e) (x1 x2 : Option Piece) (pc' : Piece) (hge : G.get e = some pc')
    (m1 : MaterialOk G.board)
    (m3 : MaterialOk (bsetMany G.board [(s, x1), (e, none)]))
    (m4 : MaterialOk (bsetMany G.board [(s, x1), (e, x2)]))
    (hk : pc'.pieceType = .king →
      countPieces (bsetMany G.board [(s, x1), (e, none)]) pc'.owner.other .king = 1) :
    ∀ v ∈ trace G [(s, x1), (e, x2)], -32768 ≤ v ∧ v ≤ 32767 := by
  have c1 : Cache (G.setPosition s none) := hc.setPosition hs none
  have c2 : Cache (G.setPosition s x1) := hc.setPosition hs x1
  have c3 : Cache ((G.setPosition s x1).setPosition e none) := c2.setPosition he none
  have c4 : Cache ((G.setPosition s x1).setPosition e x2) := c2.setPosition he x2
  have b3 : ((G.setPosition s x1).setPosition e none).board = bsetMany G.board [(s, x1), (e, none)] := by
    simp only [bsetMany, setPosition_board_eq]
  have b4 : ((G.setPosition s x1).setPosition e x2).board = bsetMany G.board [(s, x1), (e, x2)] := by
    simp only [bsetMany, setPosition_board_eq]
  have r1 := (c1.mid (by rw [setPosition_board_eq]; exact materialOk_bset_none m1 s)).range
  have r3 := (c3.mid (by rw [b3]; exact m3)).range
  have r4 := (c4.mid (by rw [b4]; exact m4)).range
  -- the second value is the third plus the cached contribution of `pc'` on `e`
  have hy : (G.setPosition s x1).pastScores[e.idx]'(Pos.idx_lt he)
      = pc'.score e (G.setPosition s x1).endgame := by
    rw [c2.inv.scores e.idx (Pos.idx_lt he), Pos.ofIdx_idx he, ← Bounds.get_eq_getElem _ he,
      get_setPosition_ne G s x1 hs e he (fun h => hne h.symm), hge]
    rfl
  have h23 : ((G.setPosition s x1).setPosition e none).score
      = (G.setPosition s x1).score - pc'.score e (G.setPosition s x1).endgame := by
    rw [setPosition_score _ e none he, hy]
    simp [placeScore]
  have hb := score_bounded pc' e (G.setPosition s x1).endgame
  intro v hv
  simp only [trace, setSteps_eq _ _ _ (Pos.idx_lt hs), setSteps_eq _ _ _ (Pos.idx_lt he),
    List.append_nil, List.cons_append, List.nil_append, List.mem_cons, List.not_mem_nil,
    or_false] at hv
  unfold B at r1 r3 r4
  rcases hv with rfl | rfl | rfl | rfl
  · omega
  · generalize pc'.score e (G.setPosition s x1).endgame = y at h23 hb
    by_cases hking : pc'.pieceType = .king
    · have hk1 := hk hking
      rw [← b3] at hk1
      have r3k := c3.range_king (by rw [b3]; exact m3) pc'.owner hk1
      obtain ⟨t, pl⟩ := pc'
      simp only at hking
      subst hking
      simp only [Bounded, vmax] at hb
      unfold B kingMin at r3k
      cases pl <;> simp only [Player.sign] at hb r3k <;> omega
    · have hv := (vmax_le _).2 hking
      obtain ⟨t, pl⟩ := pc'
      simp only [Bounded] at hb
      simp only at hv
      cases pl <;> simp only [Player.sign] at hb <;> omega
  · omega
  · omega

/-! ## 4. `pop` -/

/-- the values `self.score` takes during `pop(m)` (`wrapPop` is what `pop` does before it touches
the board: side, state stack, keys) -/
def popTrace (g' : Game) (m : Move) : List Int := trace (wrapPop g') (Bounds.unwrites m)

theorem popTrace_getLast (g' : Game) (m : Move) :
    ((popTrace g' m).getLast?).getD g'.score = (g'.pop m).score := by
  obtain ⟨wk, bk, h⟩ := Bounds.unapplyMove_eq_unwrites (wrapPop g') m
  rw [pop_eq_wrap, h]
  exact trace_getLast (wrapPop g') _

/-- what `pop` finds on the squares of `unwrites` after the `push` of a fitting move -/
def unreads : Move → List (Option Piece)
  | .normal pc _ _ _ => [none, some pc]
  | .promotion o t _ _ _ => [none, some ⟨t, o⟩]
  | .enPassant o _ _ => [some ⟨.pawn, o⟩, none, none]
  | .castlingLong o => [some ⟨.rook, o⟩, some ⟨.king, o⟩, none, none]
  | .castlingShort o => [some ⟨.rook, o⟩, some ⟨.king, o⟩, none, none]

theorem fits_unreads {g : Game} {m : Move} (hf : g.Fits m) :
    olds (g.push m).board (Bounds.unwrites m) = unreads m := by
  have v := fun o c h0 h8 => homeRow_valid o c h0 h8
  unfold olds
  simp only [← get_eq_bget]
  cases m with
  | normal pc s e cap =>
    obtain ⟨hs, he, hne, -⟩ := hf
    simp [Bounds.unwrites, unreads, push_get_normal g pc s e cap hs he, hs, he, hne]
  | promotion o t s e cap =>
    obtain ⟨hs, he, hne, -⟩ := hf
    simp [Bounds.unwrites, unreads, push_get_promotion g o t s e cap hs he, hs, he, hne]
  | enPassant o sc ec =>
    obtain ⟨q1, q2, q3, q4, hne, -⟩ := hf
    obtain ⟨v1, v2, v3⟩ := epSquares_valid o sc ec q1 q2 q3 q4
    obtain ⟨n1, n2, n3⟩ := epSquares_ne o sc ec hne
    simp [Bounds.unwrites, unreads, push_get_enPassant g o sc ec q1 q2 q3 q4, v1, v2, v3, n1, n2.symm,
      n3.symm]
  | castlingLong o => simp [Bounds.unwrites, unreads, push_get_castlingLong g o, v]
  | castlingShort o => simp [Bounds.unwrites, unreads, push_get_castlingShort g o, v]

theorem pop_balance (f : Option Piece → Nat) {g : Game} {m : Move} (hf : g.Fits m)
    (l : List (Pos × Option Piece)) (hv : ∀ e ∈ l, e.1.Valid) (hd : l.Pairwise (fun a b => a.1 ≠ b.1)) :
    bsum f (bsetMany (g.push m).board l) + (lsum f (Bounds.reads m) + lsum f (olds (g.push m).board l))
      = bsum f g.board + (lsum f ((Bounds.writes m).map (·.2)) + lsum f (l.map (·.2))) := by
  have := Bounds.push_balance f hf
  have := bsum_bsetMany f (g.push m).board l hv hd
  omega

/-- en passant and castling: the moves whose take-back never puts a man on a square before the
square it left has been cleared -/
def Special : Move → Prop
  | .normal .. => False
  | .promotion .. => False
  | _ => True

/-- en passant and castling, taken back: whatever is on the board after `k` writes of `pop` was on
it before the move (checked move kind by move kind, prefix by prefix) -/
theorem unwrites_take_le (f : Option Piece → Nat) (hf0 : f none = 0) {m : Move} (hq : Special m) (k : Nat) :
    lsum f ((Bounds.writes m).map (·.2)) + lsum f (((Bounds.unwrites m).take k).map (·.2))
      ≤ lsum f (Bounds.reads m) + lsum f ((unreads m).take k) := by
  cases m <;> first | exact hq.elim | skip
  all_goals
    rcases k with _ | _ | _ | _ | k <;>
      simp only [Bounds.writes, Bounds.unwrites, Bounds.reads, unreads, lsum, List.take_zero,
        List.take_succ_cons, List.take_nil, List.map_cons, List.map_nil, List.sum_cons, List.sum_nil,
        hf0] <;> omega

theorem pop_take_material {g : Game} {m : Move} (hf : g.Fits m) (hq : Special m) (hmat : MaterialInv g)
    (k : Nat) : MaterialOk (bsetMany (g.push m).board ((Bounds.unwrites m).take k)) := by
  refine materialOk_take hmat _ (Bounds.unwrites_valid hf) (Bounds.unwrites_distinct hf) k fun pl t => ?_
  have := Bounds.push_balance (ind pl t) hf
  have := unwrites_take_le (ind pl t) (ind_none pl t) hq k
  rw [fits_unreads hf]
  omega

/-- a normal move or a promotion, taken back except that `x` is put where the captured man `cap`
stood: fine if `x` is nothing or `cap` -/
theorem pop_two_material {g : Game} {m : Move} (hf : g.Fits m) (hmat : MaterialInv g) {s e : Pos}
    {p0 pc' : Piece} {cap x : Option Piece} (hs : s.Valid) (he : e.Valid) (hne : s ≠ e)
    (hr : Bounds.reads m = [some p0, cap]) (hw : (Bounds.writes m).map (·.2) = [none, some pc'])
    (hu : olds (g.push m).board [(s, some p0), (e, x)] = [none, some pc'])
    (hx : ∀ pl t, ind pl t x ≤ ind pl t cap) :
    MaterialOk (bsetMany (g.push m).board [(s, some p0), (e, x)]) := by
  apply materialOk_of_count_le hmat
  intro pl t
  have bal := pop_balance (ind pl t) hf [(s, some p0), (e, x)] (by simp [hs, he]) (by simpa using hne)
  rw [hr, hw, hu, ← countPieces_eq_bsum, ← countPieces_eq_bsum] at bal
  simp only [lsum, List.map_cons, List.map_nil, List.sum_cons, List.sum_nil, ind_none] at bal
  have := hx pl t
  omega

/-- **every value `self.score` takes during the take-back of a generated move fits `i16`** (the
general form: from the invariants) -/
theorem pop_fits_of {g : Game} {m : Move} (hw' : (g.push m).WF) (hf : g.Fits m)
    (hx : g.MoverOk m) (hmat : MaterialInv g) (hkings : KingsInv g) :
    ∀ v ∈ popTrace (g.push m) m, -32768 ≤ v ∧ v ≤ 32767 := by
  have hG : Cache (wrapPop (g.push m)) :=
    ⟨cacheInv_congr (g := g.push m) rfl rfl rfl rfl hw'.cache, hw'.resScore⟩
  have m1 : MaterialOk (g.push m).board := push_material hf (promoOk_of_moverOk hx) hmat
  have hu := fits_unreads hf
  by_cases hq : Special m
  · exact fits_all (trace_range (hG.mid m1) _ (pop_take_material hf hq hmat)).1
  · cases m with
    | normal pc s e cap =>
      have ⟨hs, he, hne, _⟩ := hf
      have hge := (push_get_normal g pc s e cap hs he e he).trans (if_pos rfl)
      have mm := fun x => pop_two_material (x := x) hf hmat hs he hne rfl rfl hu
      apply two_writes_fit hG hs he hne (some pc) cap pc hge m1
        (mm none fun pl t => by simp) (mm cap fun pl t => Nat.le_refl _)
      intro hking
      have bal := pop_balance (ind pc.owner.other .king) hf [(s, some pc), (e, none)]
        (by simp [hs, he]) (by simpa using hne)
      -- `olds` looks at the squares of the writes only, and these are the squares of `unwrites`
      rw [show olds (g.push _).board [(s, some pc), (e, none)] = _ from hu,
        ← countPieces_eq_bsum, ← countPieces_eq_bsum] at bal
      have hcap : ind pc.owner.other .king cap = 0 := by
        cases hc : cap with
        | none => rfl
        | some c =>
          obtain ⟨ct, co⟩ := c
          rw [ind_some, if_neg (fun h => hx.2 hking _ hc h.1)]
      have := kingsInv_other hkings
      rw [hx.1] at bal hcap ⊢
      simp only [Bounds.reads, Bounds.writes, unreads, lsum, List.map_cons, List.map_nil, List.sum_cons,
        List.sum_nil, ind_none, hcap] at bal
      -- `wrapPop` leaves the board alone
      change countPieces (bsetMany (g.push (.normal pc s e cap)).board _) _ _ = 1
      omega
    | promotion o t s e cap =>
      have ⟨hs, he, hne, _⟩ := hf
      have hge := (push_get_promotion g o t s e cap hs he e he).trans (if_pos rfl)
      have mm := fun x => pop_two_material (x := x) hf hmat hs he hne rfl rfl hu
      exact two_writes_fit hG hs he hne (some ⟨.pawn, o⟩) cap ⟨t, o⟩ hge m1
        (mm none fun pl t => by simp) (mm cap fun pl t => Nat.le_refl _)
        (fun hking => absurd hking (promoOk_of_moverOk hx))
    | _ => exact absurd trivial hq

/-- **every value `self.score` takes during the take-back of a generated move (checked or not)
that was made on a reachable game fits `i16`** — the search's `pop`, and the `pop` of the
legality filter inside `get_moves` -/
theorem pop_intermediate_fits {g : Game} {m : Move} {b : Bool} (h : Reach g)
    (hm : m ∈ (g.getMoves b).1) : ∀ v ∈ popTrace (g.push m) m, -32768 ≤ v ∧ v ≤ 32767 := by
  have hw := reach_wf h
  have hf := Game.getMoves_fits hw b hm
  exact pop_fits_of (reach_wf (Reach.searched g m b h hm)) hf.1 hf.2 (reach_material h)
    (reach_kingsInv h)

end Chess.Range

#print axioms Chess.Range.reach_kingsInv
#print axioms Chess.Range.pop_intermediate_fits
#print axioms Chess.Range.popTrace_getLast
