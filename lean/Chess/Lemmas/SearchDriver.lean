import Chess.Lemmas.SearchFAux

/-!
# The search driver: legality of the answer (C06), stop semantics (C07), depth limit (C08),
principal variations (C18), reset (C19)

Everything is proved for every game interface `Ops G M`, every stop oracle `runs : Nat → Bool` (the
value of the flag at the `k`-th poll) and every transposition table. The Zobrist hypothesis `HashOk`
(no collision between admissible positions with different move lists) is a named hypothesis of the
theorems that need it, never an axiom; it cannot be dropped, since the root entry is used
un-validated (`driver_returns_cached_move`).

The lower bound `1 ≤ info.depth` of C08 needs a hypothesis on the table, in the model as in the Rust
loop `for depth in starting_depth..=limit`: an exact root entry of depth 0 makes the first iteration
run, and be reported, with depth 0 (`driver_depth_zero_of_entry`). The engine never stores such an
entry (`DepthPos` is an invariant), so `session_depths` has no hypothesis for tables reached from
the empty one, and `driver_depths_partial` is the part that holds of every table.
-/
namespace Chess.Search

variable {G M : Type} [DecidableEq M]

/-! ## Definitions -/

/-- every cached best move is a checked (legal) move in every admissible position with that hash -/
def TTInv (o : Ops G M) (P : G → Prop) (tt : Table M) : Prop :=
  ∀ h e m, tt[h]? = some e → e.pv = some m → ∀ g, P g → o.hash g = h → m ∈ o.checked g

/-- the Zobrist hypothesis: admissible positions with the same hash have the same move list -/
def HashOk (o : Ops G M) (P : G → Prop) : Prop :=
  ∀ g g', P g → P g' → o.hash g = o.hash g' → o.checked g = o.checked g'

def Closed (o : Ops G M) (P : G → Prop) : Prop :=
  ∀ g m, P g → m ∈ o.checked g → P (o.push g m)

def LegalLine (o : Ops G M) : G → List M → Prop
  | _, [] => True
  | g, m :: ms => m ∈ o.checked g ∧ LegalLine o (o.push g m) ms

/-- no entry of depth 0 (the engine never stores one) -/
def DepthPos (tt : Table M) : Prop := ∀ (h : UInt64) (e : Entry M), tt[h]? = some e → 1 ≤ e.depth

/-! ## The driver, unfolded -/

/-- `max_depth.unwrap_or(MAX_DEPTH).clamp(1, MAX_DEPTH)` -/
def limitOf (md : Option Nat) : Nat := min (max (md.getD maxDepth) 1) maxDepth

/-- `starting_depth` before it is capped: the depth of the exact root entry, else 1 -/
def cachedDepth (o : Ops G M) (g : G) (tt : Table M) : Nat :=
  match tt[o.hash g]? with
  | some e => if e.flag = .exact then e.depth else 1
  | none => 1

/-- `starting_depth.min(limit)` -/
def startDepth (o : Ops G M) (g : G) (tt : Table M) (md : Option Nat) : Nat :=
  min (cachedDepth o g tt) (limitOf md)

def initSt (tt : Table M) (off : Bool) : St M :=
  { tt := tt, killers := Array.replicate Gen.killerLen none,
    history := Array.replicate Gen.historyLen 0, polls := 0, ttOff := off }

/-- the score is in the mate range: the driver stops deepening -/
def mateRange (sc : Int) : Prop := sc > scoreMax - Gen.exitHi ∨ sc < scoreMin + Gen.exitLo

def exitCond (limit depth : Nat) (only : Bool) (sc : Int) : Bool :=
  depth = limit || only || sc > scoreMax - Gen.exitHi || sc < scoreMin + Gen.exitLo

/-- the report of one iteration -/
def mkInfo (o : Ops G M) (g : G) (depth : Nat) (sc : Int) (st : St M) : Info M :=
  ⟨depth, sc, st.tt.size, pvWalk o st.tt depth g⟩

theorem driver_eq (o : Ops G M) (runs : Nat → Bool) (g : G) (tt : Table M) (off : Bool)
    (md : Option Nat) :
    driver o runs g tt off md =
      driverLoop o runs g (limitOf md) (limitOf md - startDepth o g tt md + 1)
        (startDepth o g tt md) (o.checked g).head? [] (initSt tt off) := rfl

theorem driverLoop_zero (o : Ops G M) (runs : Nat → Bool) (g : G) (limit depth : Nat)
    (found : Option M) (infos : List (Info M)) (st : St M) :
    driverLoop o runs g limit 0 depth found infos st = ⟨found, infos.reverse, st, false⟩ := rfl

theorem driverLoop_succ (o : Ops G M) (runs : Nat → Bool) (g : G) (limit fuel depth : Nat)
    (found : Option M) (infos : List (Info M)) (st : St M) :
    driverLoop o runs g limit (fuel + 1) depth found infos st =
      match rootSearch o runs g depth st with
      | none => ⟨found, infos.reverse, st, true⟩
      | some ((bm, sc, only), st') =>
        if exitCond limit depth only sc then
          ⟨bm.or found, (mkInfo o g depth sc st' :: infos).reverse, st', false⟩
        else driverLoop o runs g limit fuel (depth + 1) (bm.or found)
          (mkInfo o g depth sc st' :: infos) st' := rfl

theorem exitCond_iff {limit depth : Nat} {only : Bool} {sc : Int} :
    exitCond limit depth only sc = true ↔ depth = limit ∨ only = true ∨ mateRange sc := by
  simp only [exitCond, mateRange, Bool.or_eq_true, decide_eq_true_eq, or_assoc]

theorem exitCond_false {limit depth : Nat} {only : Bool} {sc : Int}
    (h : ¬ exitCond limit depth only sc = true) :
    depth ≠ limit ∧ only = false ∧ ¬ mateRange sc := by
  simpa only [exitCond_iff, not_or, Bool.not_eq_true] using h

theorem one_le_limitOf (md : Option Nat) : 1 ≤ limitOf md := by
  unfold limitOf maxDepth Gen.maxDepth; omega

theorem limitOf_le_maxDepth (md : Option Nat) : limitOf md ≤ maxDepth := by
  unfold limitOf; omega

theorem limitOf_le_arg {N : Nat} (h : 1 ≤ N) : limitOf (some N) ≤ N := by
  unfold limitOf; simp only [Option.getD_some]; omega

omit [DecidableEq M] in
theorem startDepth_le_limit (o : Ops G M) (g : G) (tt : Table M) (md : Option Nat) :
    startDepth o g tt md ≤ limitOf md := by
  unfold startDepth; omega

omit [DecidableEq M] in
theorem cachedDepth_of_exact {o : Ops G M} {g : G} {tt : Table M} {e : Entry M}
    (he : tt[o.hash g]? = some e) (hf : e.flag = Flag.exact) : cachedDepth o g tt = e.depth := by
  simp only [cachedDepth, he, hf, if_true]

omit [DecidableEq M] in
theorem one_le_startDepth (o : Ops G M) (g : G) (tt : Table M) (md : Option Nat)
    (h : ∀ e, tt[o.hash g]? = some e → e.flag = Flag.exact → 1 ≤ e.depth) :
    1 ≤ startDepth o g tt md := by
  have h1 := one_le_limitOf md
  unfold startDepth cachedDepth
  split
  · next e he =>
    split
    · next hf => have := h e he hf; omega
    · omega
  · omega

/-- arithmetic on the constants: a ply `rd` with `remaining + rd = depth ≤ MAX_DEPTH` and
`remaining ≥ 2` lies inside the killer table; that the interior nodes of every run are called with
such `remaining`, `rd` is `Shape.driverF_calls_sum` -/
theorem killer_index_ok : ∀ depth remaining rd : Nat, depth ≤ maxDepth → remaining + rd = depth →
    2 ≤ remaining → rd < Gen.killerLen := by
  intro depth remaining rd h1 h2 h3
  unfold maxDepth Gen.maxDepth at h1
  unfold Gen.killerLen
  omega

/-- the arithmetic behind the history table: the largest bonus plus the saturation level fits in
16 bits -/
theorem history_bound : Gen.maxDepth ^ 3 + 10000 < 65536 := by decide

/-- a history cell at most 10000 that receives at most `d ^ 3` with `d ≤ MAX_DEPTH` does not
overflow `u16` -/
theorem history_no_overflow : ∀ d h : Nat, d ≤ Gen.maxDepth → h ≤ 10000 → h + d ^ 3 < 65536 := by
  intro d h hd hh
  have := Nat.pow_le_pow_left hd 3
  have := history_bound
  omega

/-! ## Nodes and the root search: only a cleared flag aborts (C07) -/

/-- between poll number `n` and the current one, every poll saw the flag set -/
def Polled (runs : Nat → Bool) (n : Nat) (st : St M) : Prop :=
  n ≤ st.polls ∧ ∀ i, n ≤ i → i < st.polls → runs i = true

omit [DecidableEq M] in
theorem polled_nodeInv (o : Ops G M) (runs : Nat → Bool) (n : Nat) :
    NodeInv o runs (fun _ => True) (fun _ => True) (Polled (M := M) runs n) where
  frame := by
    intro st st' h _ hp
    unfold Polled at *
    rw [hp]; exact h
  poll := by
    intro st h hr
    refine ⟨Nat.le_succ_of_le h.1, fun i h1 h2 => ?_⟩
    by_cases hi : i = st.polls
    · rw [hi]; exact hr
    · exact h.2 i h1 (by simp only [pollSt] at h2; omega)
  store := fun _ _ _ _ h _ _ => h
  closed := fun _ _ _ _ => trivial
  deep := fun _ => trivial

omit [DecidableEq M] in
theorem polled_refl (runs : Nat → Bool) (st : St M) : Polled runs st.polls st :=
  ⟨Nat.le_refl _, fun _ h1 h2 => absurd h1 (by omega)⟩

theorem node_some_polled_true (o : Ops G M) (runs : Nat → Bool) (remaining : Nat) (g : G)
    (α β rd : Int) (st : St M) {v : Int} {st' : St M}
    (h : node o runs remaining g α β rd st = some (v, st')) :
    st.polls ≤ st'.polls ∧ ∀ i, st.polls ≤ i → i < st'.polls → runs i = true :=
  node_inv (polled_nodeInv o runs st.polls) remaining g α β rd st trivial (polled_refl runs st) h

theorem node_polls_mono (o : Ops G M) (runs : Nat → Bool) (remaining : Nat) (g : G)
    (α β rd : Int) (st : St M) {v : Int} {st' : St M}
    (h : node o runs remaining g α β rd st = some (v, st')) : st.polls ≤ st'.polls :=
  (node_some_polled_true o runs remaining g α β rd st h).1

/-- **A node is aborted only by a cleared flag**: if it does not answer, some poll at or after the
current one saw the flag cleared, and every poll before that one saw it set. That nothing is polled
after that poll is `F.nodeF_abort_first_cleared`, for the faithful model: this one drops the poll
counter of an abort. -/
theorem node_none_stopped (o : Ops G M) (runs : Nat → Bool) (remaining : Nat) (g : G)
    (α β rd : Int) (st : St M) (h : node o runs remaining g α β rd st = none) :
    ∃ i, st.polls ≤ i ∧ runs i = false ∧ ∀ j, st.polls ≤ j → j < i → runs j = true := by
  obtain ⟨st1, hp, hr⟩ := node_none_inv (polled_nodeInv o runs st.polls) remaining g α β rd st
    trivial (polled_refl runs st) h
  exact ⟨st1.polls, hp.1, hr, hp.2⟩

theorem node_stop_now (o : Ops G M) (runs : Nat → Bool) (remaining : Nat) (g : G)
    (α β rd : Int) (st : St M) (h : runs st.polls = false) :
    node o runs remaining g α β rd st = none := by
  rw [node_eq]; simp [h]

theorem node_isSome_of_runs (o : Ops G M) (runs : Nat → Bool) (hr : ∀ i, runs i = true)
    (remaining : Nat) (g : G) (α β rd : Int) (st : St M) :
    (node o runs remaining g α β rd st).isSome := by
  cases h : node o runs remaining g α β rd st with
  | some _ => rfl
  | none =>
    obtain ⟨i, _, hi, _⟩ := node_none_stopped o runs remaining g α β rd st h
    rw [hr i] at hi; cases hi

/-- **The root search is aborted only by a cleared flag**, at the first poll that sees it. -/
theorem rootSearch_none_stopped (o : Ops G M) (runs : Nat → Bool) (g : G) (depth : Nat)
    (st : St M) (h : rootSearch o runs g depth st = none) :
    ∃ i, st.polls ≤ i ∧ runs i = false ∧ ∀ j, st.polls ≤ j → j < i → runs j = true := by
  obtain ⟨st1, hp, hr⟩ := root_none_inv (polled_nodeInv o runs st.polls) g depth st
    trivial (polled_refl runs st) trivial h
  exact ⟨st1.polls, hp.1, hr, hp.2⟩

/-- **Stop at the very first poll**: flag already cleared, at least two legal moves, no usable root
entry: the root search is aborted by the poll of its first child, nothing else is called. -/
theorem rootSearch_stop_immediately (o : Ops G M) (runs : Nat → Bool) (g : G) (depth : Nat)
    (st : St M) (hr : runs st.polls = false) (hl : 2 ≤ (o.checked g).length)
    (hmiss : ∀ e, st.tt[o.hash g]? = some e → ¬(depth ≤ e.depth ∧ e.flag = Flag.exact)) :
    rootSearch o runs g depth st = none := by
  rw [rootSearch_eq, if_neg (by omega)]
  have : rootHit (ttGet (rootSt st) (o.hash g)) depth = none := rootHit_none_of_miss hmiss
  rw [this]
  simp only []
  obtain ⟨m, ms, hs⟩ := List.exists_cons_of_length_pos (l := rootSorted o g (rootSt st)) (by
    unfold rootSorted
    rw [length_sortMoves]
    have := length_rootMoves o g
    omega)
  have hn : ∀ a b, node o runs (depth - 1) (o.push g m) a b 1 (rootSt st) = none :=
    fun a b => node_stop_now o runs _ _ _ _ _ _ hr
  rw [hs]
  unfold rootLoop
  simp [hn, Gen.fullWindowMaxIndex]

theorem rootSearch_only (o : Ops G M) (runs : Nat → Bool) (g : G) (depth : Nat) (st : St M)
    {bm : Option M} {sc : Int} {only : Bool} {st' : St M}
    (h : rootSearch o runs g depth st = some ((bm, sc, only), st')) :
    only = true ↔ (o.checked g).length = 1 :=
  (root_inv (polled_nodeInv o runs st.polls) g depth st trivial (polled_refl runs st)
    trivial h).2.1

/-! ## Nodes and the root search keep the table invariants -/

omit [DecidableEq M] in
theorem TTInv_empty (o : Ops G M) (P : G → Prop) : TTInv o P ({} : Table M) :=
  fun h e _ he => (forall_entries_empty (P := fun _ _ => False) h e he).elim

omit [DecidableEq M] in
theorem TTInv_insert {o : Ops G M} {P : G → Prop} (hH : HashOk o P) {tt : Table M}
    (h : TTInv o P tt) {g : G} (hP : P g) {e : Entry M}
    (hpv : ∀ m, e.pv = some m → m ∈ o.checked g) : TTInv o P (tt.insert (o.hash g) e) :=
  fun k e' m hget => forall_entries_insert
    (P := fun k e => ∀ m, e.pv = some m → ∀ g', P g' → o.hash g' = k → m ∈ o.checked g')
    (fun k e he m => h k e m he) (fun m hm g' hP' hk => hH g g' hP hP' hk.symm ▸ hpv m hm) k e' hget m

omit [DecidableEq M] in
theorem ttInv_nodeInv {o : Ops G M} {P : G → Prop} (hH : HashOk o P) (hC : Closed o P)
    (runs : Nat → Bool) :
    NodeInv o runs P (fun _ => True) (fun st : St M => TTInv o P st.tt) :=
  .ofTable (TTInv_empty o P) (fun _ _ _ hA hT hpv _ => TTInv_insert hH hT hA hpv) hC fun _ => trivial

theorem node_preserves_TTInv {o : Ops G M} {P : G → Prop} (hH : HashOk o P) (hC : Closed o P)
    (runs : Nat → Bool) (remaining : Nat) (g : G) (α β rd : Int) (st : St M)
    (hP : P g) (hT : TTInv o P st.tt) {v : Int} {st' : St M}
    (h : node o runs remaining g α β rd st = some (v, st')) : TTInv o P st'.tt :=
  node_inv (ttInv_nodeInv hH hC runs) remaining g α β rd st hP hT h

/-- The move answered is the only move, the move of the (un-validated) root entry, which `TTInv`
makes legal, or the best move of the loop. -/
theorem rootSearch_sound {o : Ops G M} {P : G → Prop} (hH : HashOk o P) (hC : Closed o P)
    (runs : Nat → Bool) (g : G) (depth : Nat) (st : St M) (hP : P g) (hT : TTInv o P st.tt)
    {bm : Option M} {sc : Int} {only : Bool} {st' : St M}
    (h : rootSearch o runs g depth st = some ((bm, sc, only), st')) :
    TTInv o P st'.tt ∧ ∀ m, bm = some m → m ∈ o.checked g := by
  obtain ⟨k1, _, k3⟩ := root_inv (ttInv_nodeInv hH hC runs) g depth st hP hT trivial h
  refine ⟨k1, ?_⟩
  rcases k3 with k3 | ⟨e, he, _, _, hb⟩
  · exact k3
  · intro m hm
    exact hT _ e m he (hb ▸ hm) g hP rfl

omit [DecidableEq M] in
/-- **The line printed after `info pv` is a legal line** (C18). -/
theorem pvWalk_legal {o : Ops G M} {P : G → Prop} (hC : Closed o P)
    {tt : Table M} (hT : TTInv o P tt) (n : Nat) (g : G) (hP : P g) :
    LegalLine o g (pvWalk o tt n g) := by
  induction n generalizing g with
  | zero => trivial
  | succ n ih =>
    unfold pvWalk
    split
    · next e he =>
      split
      · next m hm =>
        have hmem := hT _ e m he hm g hP rfl
        exact ⟨hmem, ih _ (hC g m hP hmem)⟩
      · trivial
    · trivial

omit [DecidableEq M] in
theorem DepthPos_empty : DepthPos ({} : Table M) := forall_entries_empty

omit [DecidableEq M] in
theorem depthPos_nodeInv (o : Ops G M) (runs : Nat → Bool) :
    NodeInv o runs (fun _ => True) (fun d => 1 ≤ d) (fun st : St M => DepthPos st.tt) :=
  .ofTable DepthPos_empty
    (fun _ _ _ _ hT _ hd => forall_entries_insert (P := fun _ e => 1 ≤ e.depth) hT hd)
    (fun _ _ _ _ => trivial) fun r => by omega

/-! ## The iterative-deepening loop

By functional induction on `driverLoop`. `case1`: out of fuel; `case2`: the root search was aborted
(`hn`); `case3`: it answered (`hs`) and the exit test holds (`hx`); `case4`: the exit test fails and
the loop goes on (`ih`). In the last two the new `found` and the report `info` are local
definitions, introduced between `hs` and `hx`. -/

section
variable {o : Ops G M} {runs : Nat → Bool} {g : G} {limit fuel depth : Nat} {found : Option M}
  {infos : List (Info M)} {st : St M}

theorem driverLoop_found_isSome (h : found.isSome) :
    (driverLoop o runs g limit fuel depth found infos st).found.isSome := by
  have step (bm : Option M) {found : Option M} (h : found.isSome) : (bm.or found).isSome := by
    rw [Option.isSome_or, h, Bool.or_true]
  fun_induction driverLoop o runs g limit fuel depth found infos st
  case case1 | case2 => exact h
  case case3 => exact step _ h
  case case4 ih => exact ih (step _ h)

variable (o runs g limit fuel depth found infos st) in
theorem driverLoop_infos (hd : depth ≤ limit) :
    ∃ new, (driverLoop o runs g limit fuel depth found infos st).infos = infos.reverse ++ new ∧
      new.map (·.depth) = List.range' depth new.length ∧ depth + new.length ≤ limit + 1 := by
  fun_induction driverLoop o runs g limit fuel depth found infos st
  case case1 | case2 => exact ⟨[], by simp, rfl, by simp only [List.length_nil]; omega⟩
  case case3 info _ => exact ⟨[info], by simp, rfl, by simp only [List.length_singleton]; omega⟩
  case case4 info hx ih =>
    obtain ⟨new, h1, h2, h3⟩ := ih (by have := (exitCond_false hx).1; omega)
    refine ⟨info :: new, by rw [h1]; simp, ?_, by simp only [List.length_cons]; omega⟩
    simp only [List.map_cons, List.length_cons, List.range'_succ, h2]
    rfl

/-- **Fuel-independence**: with the fuel the driver gives (`fuel + depth = limit + 1`), the
fuel-exhausted branch is never the one that returns. -/
theorem driverLoop_fuel (hf : fuel + depth = limit + 1) (hd : depth ≤ limit) (k : Nat) :
    driverLoop o runs g limit fuel depth found infos st =
      driverLoop o runs g limit (fuel + k) depth found infos st := by
  fun_induction driverLoop o runs g limit fuel depth found infos st
  case case1 => omega
  case case2 hn => rw [Nat.succ_add, driverLoop_succ, hn]
  case case3 hs _ _ hx =>
    rw [Nat.succ_add, driverLoop_succ, hs]
    exact (if_pos hx).symm
  case case4 hs _ _ hx ih =>
    rw [Nat.succ_add, driverLoop_succ, hs]
    have := (exitCond_false hx).1
    exact (ih (by omega) (by omega)).trans (if_neg hx).symm

theorem driverLoop_stopped
    (h : (driverLoop o runs g limit fuel depth found infos st).stopped = true) :
    ∃ i, runs i = false := by
  fun_induction driverLoop o runs g limit fuel depth found infos st
  case case1 | case3 => cases h
  case case2 hn =>
    obtain ⟨i, _, hi, _⟩ := rootSearch_none_stopped o runs g _ _ hn
    exact ⟨i, hi⟩
  case case4 ih => exact ih h

theorem driverLoop_exit (hf : fuel + depth = limit + 1) (hd : depth ≤ limit)
    (h : (driverLoop o runs g limit fuel depth found infos st).stopped = false) :
    ∃ info, (driverLoop o runs g limit fuel depth found infos st).infos.getLast? = some info ∧
      (info.depth = limit ∨ (o.checked g).length = 1 ∨ mateRange info.score) := by
  fun_induction driverLoop o runs g limit fuel depth found infos st
  case case1 => omega
  case case2 => cases h
  case case3 hs _ info hx =>
    exact ⟨info, by simp,
      (exitCond_iff.1 hx).imp_right (Or.imp_left (rootSearch_only o runs g _ _ hs).1)⟩
  case case4 hx ih =>
    have := (exitCond_false hx).1
    exact ih (by omega) (by omega) h

omit [DecidableEq M] in
theorem or_legal {bm : Option M} (hbm : ∀ m, bm = some m → m ∈ o.checked g)
    (hf : ∀ m, found = some m → m ∈ o.checked g) (m : M) (hm : bm.or found = some m) :
    m ∈ o.checked g :=
  (Option.or_eq_some_iff.1 hm).elim (hbm m) fun h => hf m h.2

theorem driverLoop_sound {P : G → Prop} (hH : HashOk o P) (hC : Closed o P) (hP : P g)
    (hT : TTInv o P st.tt) (hf : ∀ m, found = some m → m ∈ o.checked g)
    (hi : ∀ info ∈ infos, LegalLine o g info.pv) :
    let out := driverLoop o runs g limit fuel depth found infos st
    TTInv o P out.st.tt ∧ (∀ m, out.found = some m → m ∈ o.checked g) ∧
      ∀ info ∈ out.infos, LegalLine o g info.pv := by
  fun_induction driverLoop o runs g limit fuel depth found infos st
  case case1 | case2 => exact ⟨hT, hf, fun info h => hi info (List.mem_reverse.1 h)⟩
  case case3 hs _ info _ =>
    obtain ⟨hT', hbm⟩ := rootSearch_sound hH hC runs g _ _ hP hT hs
    have hi' : ∀ i ∈ info :: _, LegalLine o g i.pv :=
      List.forall_mem_cons.2 ⟨pvWalk_legal hC hT' _ g hP, hi⟩
    exact ⟨hT', or_legal hbm hf, fun i h => hi' i (List.mem_reverse.1 h)⟩
  case case4 hs _ _ _ ih =>
    obtain ⟨hT', hbm⟩ := rootSearch_sound hH hC runs g _ _ hP hT hs
    exact ih hT' (or_legal hbm hf) (List.forall_mem_cons.2 ⟨pvWalk_legal hC hT' _ g hP, hi⟩)

theorem driverLoop_inv {A : G → Prop} {D : Nat → Prop} {Q : St M → Prop}
    (I : NodeInv o runs A D Q) (hA : A g) (hQ : Q st) (hD : ∀ d, depth ≤ d → D d) :
    Q (driverLoop o runs g limit fuel depth found infos st).st := by
  fun_induction driverLoop o runs g limit fuel depth found infos st
  case case1 | case2 => exact hQ
  case case3 hs _ _ _ => exact (root_inv I g _ _ hA hQ (hD _ (Nat.le_refl _)) hs).1
  case case4 hs _ _ _ ih =>
    exact ih (root_inv I g _ _ hA hQ (hD _ (Nat.le_refl _)) hs).1 fun d hd => hD d (by omega)

theorem driverLoop_mono {runs' : Nat → Bool} (hle : ∀ i, runs i = true → runs' i = true)
    (h : (driverLoop o runs g limit fuel depth found infos st).stopped = false) :
    driverLoop o runs' g limit fuel depth found infos st =
      driverLoop o runs g limit fuel depth found infos st := by
  fun_induction driverLoop o runs g limit fuel depth found infos st
  case case1 => rfl
  case case2 => cases h
  case case3 hs _ _ hx =>
    rw [driverLoop_succ, rootSearch_mono o runs runs' hle g _ _ hs]
    exact if_pos hx
  case case4 hs _ _ hx ih =>
    rw [driverLoop_succ, rootSearch_mono o runs runs' hle g _ _ hs]
    exact (if_neg hx).trans (ih h)

end

/-! ## A move is always answered when there is one; the flag only aborts (C07) -/

/-- **C07.** Whatever the flag does (in particular if it is down at the very first poll), whatever
the table holds, with or without a depth limit: if the position has a legal move, the driver
answers with a move. -/
theorem driver_found_of_moves (o : Ops G M) (runs : Nat → Bool) (g : G) (tt : Table M)
    (off : Bool) (md : Option Nat) (h : o.checked g ≠ []) :
    (driver o runs g tt off md).found.isSome := by
  rw [driver_eq]
  exact driverLoop_found_isSome (List.isSome_head?.2 h)

theorem driver_stopped (o : Ops G M) (runs : Nat → Bool) (g : G) (tt : Table M) (off : Bool)
    (md : Option Nat) (h : (driver o runs g tt off md).stopped = true) : ∃ i, runs i = false := by
  rw [driver_eq] at h
  exact driverLoop_stopped h

theorem driver_polled (o : Ops G M) (runs : Nat → Bool) (g : G) (tt : Table M) (off : Bool)
    (md : Option Nat) : ∀ i, i < (driver o runs g tt off md).st.polls → runs i = true := by
  rw [driver_eq]
  exact fun i hi => (driverLoop_inv (polled_nodeInv o runs 0) trivial (polled_refl runs (initSt tt off))
    fun _ _ => trivial).2 i (Nat.zero_le _) hi

/-- **The search ends by itself**: if the flag stays up the driver is not "stopped"; and unless
there is a single legal move or a reported score in the mate range, its last report is at the
limit. -/
theorem driver_terminates_by_itself (o : Ops G M) (g : G) (tt : Table M) (off : Bool)
    (md : Option Nat) :
    let out := driver o (fun _ => true) g tt off md
    out.stopped = false ∧
    ((o.checked g).length ≠ 1 → (∀ info ∈ out.infos, ¬ mateRange info.score) →
      out.infos.getLast?.map (·.depth) = some (limitOf md)) := by
  have hs : (driver o (fun _ => true) g tt off md).stopped = false :=
    Bool.eq_false_iff.2 fun h => by
      obtain ⟨i, hi⟩ := driver_stopped o _ g tt off md h
      cases hi
  refine ⟨hs, fun hl hm => ?_⟩
  have hle := startDepth_le_limit o g tt md
  rw [driver_eq] at hs hm ⊢
  obtain ⟨info, h1, h2⟩ := driverLoop_exit (by omega) hle hs
  rw [h1]
  rcases h2 with h2 | h2 | h2
  · exact congrArg some h2
  · exact absurd h2 hl
  · exact absurd h2 (hm info (List.mem_of_getLast? h1))

/-! ## The depth limit (C08) -/

/-- **C08, unconditional part.** Whatever the table holds (in particular an exact root entry deeper
than the limit), the depths reported are consecutive, start at `min cached limit` and never exceed
the limit. -/
theorem driver_depths_partial (o : Ops G M) (runs : Nat → Bool) (g : G) (tt : Table M)
    (off : Bool) (md : Option Nat) :
    let out := driver o runs g tt off md
    out.infos.map (·.depth) = List.range' (startDepth o g tt md) out.infos.length ∧
    ∀ info ∈ out.infos, startDepth o g tt md ≤ info.depth ∧ info.depth ≤ limitOf md := by
  intro out
  obtain ⟨new, h1, h2, h3⟩ := driverLoop_infos o runs g (limitOf md)
    (limitOf md - startDepth o g tt md + 1) (startDepth o g tt md) (o.checked g).head? []
    (initSt tt off) (startDepth_le_limit o g tt md)
  rw [show out.infos = new from h1.trans (List.nil_append _)]
  refine ⟨h2, fun info hi => ?_⟩
  have : info.depth ∈ new.map (·.depth) := List.mem_map_of_mem hi
  rw [h2, List.mem_range'] at this
  obtain ⟨i, hi1, hi2⟩ := this
  omega

/-- **C08.** If the root entry, when exact, has a positive depth (true of every table the engine
can build, see `DepthPos` and `driver_preserves_DepthPos`), every reported depth lies in
`1 ..= limit`, hence is at most `MAX_DEPTH`, and at most `N` for `go depth N`. -/
theorem driver_depths (o : Ops G M) (runs : Nat → Bool) (g : G) (tt : Table M)
    (off : Bool) (md : Option Nat)
    (h : ∀ e, tt[o.hash g]? = some e → e.flag = Flag.exact → 1 ≤ e.depth) :
    let out := driver o runs g tt off md
    out.infos.map (·.depth) = List.range' (startDepth o g tt md) out.infos.length ∧
    ∀ info ∈ out.infos, 1 ≤ info.depth ∧ info.depth ≤ limitOf md ∧ info.depth ≤ maxDepth ∧
      ∀ N, md = some N → 1 ≤ N → info.depth ≤ N := by
  intro out
  obtain ⟨k1, k2⟩ := driver_depths_partial o runs g tt off md
  refine ⟨k1, fun info hi => ?_⟩
  obtain ⟨a, b⟩ := k2 info hi
  have hs := one_le_startDepth o g tt md h
  have hm := limitOf_le_maxDepth md
  refine ⟨by omega, b, by omega, fun N hN h1 => ?_⟩
  subst hN
  have := limitOf_le_arg h1
  omega

/-- The lower bound `1 ≤ depth` does need the hypothesis: with an exact root entry of depth 0
(which the engine never stores) the first iteration is reported with depth 0. -/
theorem driver_depth_zero_of_entry (o : Ops G M) (runs : Nat → Bool) (g : G) (tt : Table M)
    (off : Bool) (md : Option Nat) (e : Entry M) (he : tt[o.hash g]? = some e)
    (hf : e.flag = Flag.exact) (hd : e.depth = 0) :
    ∃ info ∈ (driver o runs g tt off md).infos, info.depth = 0 := by
  have hs : startDepth o g tt md = 0 := by
    rw [startDepth, cachedDepth_of_exact he hf, hd, Nat.zero_min]
  obtain ⟨⟨⟨bm, sc, only⟩, st'⟩, hr⟩ : ∃ r, rootSearch o runs g 0 (initSt tt off) = some r := by
    by_cases hl : (o.checked g).length = 1
    · exact ⟨_, by rw [rootSearch_eq, if_pos hl]⟩
    · exact ⟨_, rootSearch_of_hit o runs g 0 (initSt tt off) he hf (Nat.zero_le _) hl⟩
  refine ⟨mkInfo o g 0 sc st', ?_, rfl⟩
  rw [driver_eq, hs, driverLoop_succ, hr]
  simp only []
  split
  · simp
  · obtain ⟨new, h1, _⟩ := driverLoop_infos o runs g (limitOf md) (limitOf md - 0) (0 + 1)
      (bm.or (o.checked g).head?) [mkInfo o g 0 sc st'] st' (one_le_limitOf md)
    rw [h1]; simp

theorem driver_fuel (o : Ops G M) (runs : Nat → Bool) (g : G) (tt : Table M) (off : Bool)
    (md : Option Nat) (k : Nat) :
    driver o runs g tt off md =
      driverLoop o runs g (limitOf md) (limitOf md - startDepth o g tt md + 1 + k)
        (startDepth o g tt md) (o.checked g).head? [] (initSt tt off) := by
  rw [driver_eq]
  have := startDepth_le_limit o g tt md
  exact driverLoop_fuel (by omega) this k

theorem driver_preserves_DepthPos (o : Ops G M) (runs : Nat → Bool) (g : G) (tt : Table M)
    (off : Bool) (md : Option Nat) (h : DepthPos tt) :
    DepthPos (driver o runs g tt off md).st.tt := by
  rw [driver_eq]
  have hs := one_le_startDepth o g tt md (fun e he _ => h _ e he)
  exact driverLoop_inv (depthPos_nodeInv o runs) (g := g) trivial h fun d hd => Nat.le_trans hs hd

/-! ## The driver answers with a legal move and keeps the table invariant (C06, C18) -/

/-- **C06 / C18.** From a table satisfying the invariant, in an admissible position, the driver
answers with a checked move, reports legal lines only, and leaves a table satisfying the
invariant. -/
theorem driver_sound_full {o : Ops G M} {P : G → Prop} (hH : HashOk o P) (hC : Closed o P)
    (runs : Nat → Bool) (g : G) (tt : Table M) (off : Bool) (md : Option Nat)
    (hP : P g) (hT : TTInv o P tt) :
    let out := driver o runs g tt off md
    TTInv o P out.st.tt ∧ (∀ m, out.found = some m → m ∈ o.checked g) ∧
      ∀ info ∈ out.infos, LegalLine o g info.pv := by
  rw [driver_eq]
  exact driverLoop_sound hH hC hP hT (fun m hm => List.mem_of_mem_head? hm) (fun _ h => nomatch h)

/-- **C06.** -/
theorem driver_sound {o : Ops G M} {P : G → Prop} (hH : HashOk o P) (hC : Closed o P)
    (runs : Nat → Bool) (g : G) (tt : Table M) (off : Bool) (md : Option Nat)
    (hP : P g) (hT : TTInv o P tt) :
    let out := driver o runs g tt off md
    TTInv o P out.st.tt ∧ ∀ m, out.found = some m → m ∈ o.checked g :=
  let h := driver_sound_full hH hC runs g tt off md hP hT
  ⟨h.1, h.2.1⟩

/-- **C18.** -/
theorem driver_pv_legal {o : Ops G M} {P : G → Prop} (hH : HashOk o P) (hC : Closed o P)
    (runs : Nat → Bool) (g : G) (tt : Table M) (off : Bool) (md : Option Nat)
    (hP : P g) (hT : TTInv o P tt) :
    ∀ info ∈ (driver o runs g tt off md).infos, LegalLine o g info.pv :=
  (driver_sound_full hH hC runs g tt off md hP hT).2.2

/-- **C06.** The driver answers `none` exactly when the position has no legal move. -/
theorem driver_none_iff {o : Ops G M} {P : G → Prop} (hH : HashOk o P) (hC : Closed o P)
    (runs : Nat → Bool) (g : G) (tt : Table M) (off : Bool) (md : Option Nat)
    (hP : P g) (hT : TTInv o P tt) :
    (driver o runs g tt off md).found = none ↔ o.checked g = [] := by
  refine ⟨fun h => Decidable.byContradiction fun hc => ?_,
    fun h => Option.eq_none_iff_forall_ne_some.2 fun m hf => ?_⟩
  · have := driver_found_of_moves o runs g tt off md hc
    rw [h] at this; cases this
  · exact List.not_mem_nil (h ▸ (driver_sound hH hC runs g tt off md hP hT).2 m hf)

/-- **Why `TTInv` (hence the Zobrist hypothesis) is needed**: the root entry is used un-validated.
If the table holds, under the hash of the root, an exact entry at least as deep as the limit, the
driver answers with its move whatever it is, legal or not (there must not be exactly one legal
move, the only-move shortcut comes first). -/
theorem driver_returns_cached_move (o : Ops G M) (runs : Nat → Bool) (g : G) (tt : Table M)
    (off : Bool) (md : Option Nat) (e : Entry M) (m : M) (he : tt[o.hash g]? = some e)
    (hf : e.flag = Flag.exact) (hd : limitOf md ≤ e.depth) (hpv : e.pv = some m)
    (hl : (o.checked g).length ≠ 1) :
    (driver o runs g tt off md).found = some m := by
  have hs : startDepth o g tt md = limitOf md := by
    rw [startDepth, cachedDepth_of_exact he hf, Nat.min_eq_right hd]
  rw [driver_eq, hs, Nat.sub_self, driverLoop_succ,
    rootSearch_of_hit o runs g (limitOf md) (initSt tt off) he hf hd hl]
  simp [exitCond, hpv]

/-! ## Sessions: searches sharing the table -/

/-- one `go` command: position, depth limit, behaviour of the flag, C09 hook -/
structure Req (G : Type) where
  g : G
  md : Option Nat
  runs : Nat → Bool
  off : Bool

def tableAfter (o : Ops G M) (tt : Table M) (reqs : List (Req G)) : Table M :=
  reqs.foldl (fun tt r => (driver o r.runs r.g tt r.off r.md).st.tt) tt

theorem history_preserves_TTInv {o : Ops G M} {P : G → Prop} (hH : HashOk o P) (hC : Closed o P)
    (reqs : List (Req G)) (hreqs : ∀ r ∈ reqs, P r.g) (tt : Table M) (hT : TTInv o P tt) :
    TTInv o P (tableAfter o tt reqs) :=
  List.foldlRecOn reqs _ hT fun tt hT r hr =>
    (driver_sound hH hC r.runs r.g tt r.off r.md (hreqs r hr) hT).1

/-- **C06 for a whole session**: starting from the empty table, after any history of searches of
admissible positions, the next search answers with a legal move (or `none` iff there is none) and
prints legal lines. -/
theorem session_sound {o : Ops G M} {P : G → Prop} (hH : HashOk o P) (hC : Closed o P)
    (reqs : List (Req G)) (hreqs : ∀ r ∈ reqs, P r.g) (r : Req G) (hP : P r.g) :
    let out := driver o r.runs r.g (tableAfter o {} reqs) r.off r.md
    (∀ m, out.found = some m → m ∈ o.checked r.g) ∧ (out.found = none ↔ o.checked r.g = []) ∧
      ∀ info ∈ out.infos, LegalLine o r.g info.pv := by
  have hT := history_preserves_TTInv hH hC reqs hreqs {} (TTInv_empty o P)
  exact ⟨(driver_sound hH hC r.runs r.g _ r.off r.md hP hT).2,
    driver_none_iff hH hC r.runs r.g _ r.off r.md hP hT,
    driver_pv_legal hH hC r.runs r.g _ r.off r.md hP hT⟩

theorem history_preserves_DepthPos (o : Ops G M) (reqs : List (Req G)) (tt : Table M)
    (h : DepthPos tt) : DepthPos (tableAfter o tt reqs) :=
  List.foldlRecOn reqs _ h fun tt h r _ => driver_preserves_DepthPos o r.runs r.g tt r.off r.md h

/-- **C08 for a whole session**, without any hypothesis on the game: starting from the empty
table, after any history of searches, every reported depth of the next search lies in
`1 ..= limit`. -/
theorem session_depths (o : Ops G M) (reqs : List (Req G)) (r : Req G) :
    ∀ info ∈ (driver o r.runs r.g (tableAfter o {} reqs) r.off r.md).infos,
      1 ≤ info.depth ∧ info.depth ≤ limitOf r.md ∧ info.depth ≤ maxDepth ∧
      ∀ N, r.md = some N → 1 ≤ N → info.depth ≤ N :=
  (driver_depths o r.runs r.g _ r.off r.md
    (fun e he _ => history_preserves_DepthPos o reqs {} DepthPos_empty _ e he)).2

/-! ## Reset (C19) -/

/-- what `ucinewgame` does to the table -/
def resetTable (_ : Table M) : Table M := {}

/-- **C19.** The driver is a function of `(o, runs, g, tt, off, md)` only (it is a Lean function);
after a reset its result does not depend on anything that happened before. -/
theorem fresh_equiv (o : Ops G M) (runs : Nat → Bool) (g : G) (off : Bool) (md : Option Nat)
    (tt₁ tt₂ : Table M) (hist₁ hist₂ : List (Req G)) :
    driver o runs g (resetTable (tableAfter o tt₁ hist₁)) off md =
      driver o runs g (resetTable (tableAfter o tt₂ hist₂)) off md := rfl

/-- the result does not depend on which oracle represents "the flag stays up" -/
theorem driver_flag_free (o : Ops G M) (runs runs' : Nat → Bool) (g : G) (tt : Table M)
    (off : Bool) (md : Option Nat) (h : ∀ i, runs i = true) (h' : ∀ i, runs' i = true) :
    driver o runs g tt off md = driver o runs' g tt off md := by
  have : runs = runs' := funext fun i => (h i).trans (h' i).symm
  rw [this]

/-- **The flag matters only by aborting** (C07/C19): a search that was not stopped returns exactly
what the search with a flag that is never cleared returns: move, reports and final state. -/
theorem driver_unstopped_eq (o : Ops G M) (runs : Nat → Bool) (g : G) (tt : Table M) (off : Bool)
    (md : Option Nat) (h : (driver o runs g tt off md).stopped = false) :
    driver o runs g tt off md = driver o (fun _ => true) g tt off md := by
  rw [driver_eq] at h ⊢
  rw [driver_eq]
  exact (driverLoop_mono (fun _ _ => rfl) h).symm

theorem driver_flag_free_unstopped (o : Ops G M) (runs runs' : Nat → Bool) (g : G) (tt : Table M)
    (off : Bool) (md : Option Nat) (h : (driver o runs g tt off md).stopped = false)
    (h' : (driver o runs' g tt off md).stopped = false) :
    driver o runs g tt off md = driver o runs' g tt off md :=
  (driver_unstopped_eq o runs g tt off md h).trans (driver_unstopped_eq o runs' g tt off md h').symm

/-! ## Non-vacuity: a concrete game

Positions are `UInt64` (the position is its own hash, so `HashOk` holds for every position), moves
are `Nat`; positions `0, 1, 2` have the two moves `1, 2`, the others none; the move `m` leads from
`g` to `3 * g + m`. `Std.HashMap` does not reduce in the kernel: the concrete facts are obtained by
applying the theorems; the `#guard`s are side checks by evaluation. -/
namespace Example

def ex_x : Ops UInt64 Nat where
  checked g := if g < 3 then [1, 2] else []
  unchecked g := if g < 3 then [1, 2] else []
  push g m := 3 * g + m.toUInt64
  eval g := (g.toNat % 7 : Int) - 3
  safe _ := true
  hash g := g
  tactical _ := false
  histIdx m := some m
  orderKey m _ := m
  repetition _ := none

theorem ex_hashOk : HashOk ex_x (fun _ => True) :=
  fun g g' _ _ h => congrArg ex_x.checked (h : g = g')

theorem ex_closed : Closed ex_x (fun _ => True) := fun _ _ _ _ => trivial

theorem ex_moves : ex_x.checked 0 = [1, 2] := by decide

theorem ex_dead : ex_x.checked 5 = [] := by decide

/-- whatever the flag does, whatever searches came before: a legal move is answered at the root -/
example (reqs : List (Req UInt64)) (runs : Nat → Bool) (off : Bool) (md : Option Nat) :
    ∃ m, (driver ex_x runs 0 (tableAfter ex_x {} reqs) off md).found = some m ∧ (m = 1 ∨ m = 2) := by
  obtain ⟨m, hf⟩ := Option.isSome_iff_exists.1
    (driver_found_of_moves ex_x runs 0 (tableAfter ex_x {} reqs) off md (by decide))
  have := (session_sound ex_hashOk ex_closed reqs (fun _ _ => trivial)
    ⟨0, md, runs, off⟩ trivial).1 m hf
  rw [ex_moves] at this
  exact ⟨m, hf, by simpa using this⟩

/-- and `none` in a position without moves -/
example (reqs : List (Req UInt64)) (runs : Nat → Bool) (off : Bool) (md : Option Nat) :
    (driver ex_x runs 5 (tableAfter ex_x {} reqs) off md).found = none :=
  (session_sound ex_hashOk ex_closed reqs (fun _ _ => trivial) ⟨5, md, runs, off⟩ trivial).2.1.2
    ex_dead

/-- `go depth 2` after anything never reports a depth above 2 -/
example (reqs : List (Req UInt64)) (runs : Nat → Bool) (off : Bool) :
    ∀ info ∈ (driver ex_x runs 0 (tableAfter ex_x {} reqs) off (some 2)).infos,
      1 ≤ info.depth ∧ info.depth ≤ 2 := by
  intro info hi
  have := session_depths ex_x reqs ⟨0, some 2, runs, off⟩ info hi
  exact ⟨this.1, this.2.2.2 2 rfl (by omega)⟩

/-- stop at the first poll with an empty table: the root search is aborted at once -/
example : rootSearch ex_x (fun _ => false) 0 3 (initSt {} false) = none :=
  rootSearch_stop_immediately ex_x _ 0 3 _ rfl (by rw [ex_moves]; decide)
    (fun e he => (forall_entries_empty (P := fun _ _ => False) _ e he).elim)

/-- the counterexample to an unconditional `1 ≤ depth`: a table with a depth-0 exact root entry -/
example (runs : Nat → Bool) :
    ∃ info ∈ (driver ex_x runs 0 (({} : Table Nat).insert 0 ⟨0, none, 0, .exact⟩) false none).infos,
      info.depth = 0 :=
  driver_depth_zero_of_entry ex_x runs 0 _ false none ⟨0, none, 0, .exact⟩
    (by rw [Std.HashMap.getElem?_insert]; simp [ex_x]) rfl rfl

/-- the hypothesis `TTInv` is needed: a table whose root entry carries a move that is not legal
(what a hash collision would produce) makes the driver answer with that move -/
example (runs : Nat → Bool) :
    (driver ex_x runs 0 (({} : Table Nat).insert 0 ⟨0, some 99, 40, .exact⟩) false none).found = some 99
      ∧ 99 ∉ ex_x.checked 0 :=
  ⟨driver_returns_cached_move ex_x runs 0 _ false none ⟨0, some 99, 40, .exact⟩ 99
    (by rw [Std.HashMap.getElem?_insert]; simp [ex_x]) rfl (by decide) rfl
    (by rw [ex_moves]; decide), by decide⟩

-- side checks by evaluation
#guard (driver ex_x (fun _ => true) 0 {} false (some 3)).found.isSome
#guard (driver ex_x (fun _ => true) 0 {} false (some 3)).infos.map (·.depth) == [1, 2, 3]
#guard (driver ex_x (fun _ => true) 0 {} false (some 3)).stopped == false
#guard (driver ex_x (fun _ => false) 0 {} false none).found == some 1
#guard (driver ex_x (fun _ => false) 0 {} false none).stopped == true
#guard (driver ex_x (fun _ => false) 0 {} false none).infos.length == 0
#guard (driver ex_x (fun i => decide (i < 5)) 0 {} false none).found.isSome
#guard (driver ex_x (fun _ => true) 5 {} false none).found == none
#guard (driver ex_x (fun _ => true) 0 {} false none).infos.all (·.depth ≤ 32)
#guard (driver ex_x (fun _ => true) 0 (({} : Table Nat).insert 0 ⟨0, some 1, 7, .exact⟩) false (some 2)).infos.map
  (·.depth) == [2]

end Example

#print axioms node_preserves_TTInv
#print axioms rootSearch_sound
#print axioms driver_sound
#print axioms driver_found_of_moves
#print axioms driver_none_iff
#print axioms node_some_polled_true
#print axioms node_none_stopped
#print axioms rootSearch_none_stopped
#print axioms rootSearch_stop_immediately
#print axioms driver_depths
#print axioms driver_depths_partial
#print axioms driverLoop_fuel
#print axioms driver_terminates_by_itself
#print axioms pvWalk_legal
#print axioms driver_pv_legal
#print axioms session_sound
#print axioms session_depths
#print axioms history_preserves_TTInv
#print axioms driver_depth_zero_of_entry
#print axioms killer_index_ok
#print axioms history_no_overflow
#print axioms fresh_equiv
#print axioms driver_flag_free
#print axioms driver_returns_cached_move
#print axioms driver_unstopped_eq

end Chess.Search
