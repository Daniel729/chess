import Chess.Lemmas.AlphaBetaNode

/-!
# Helpers for `SearchDriver`: list facts, what a state predicate must satisfy to be carried through
the search (`NodeInv`)

Everything here is generic over the game interface `Ops G M`, the stop oracle `runs` and the table.
-/
namespace Chess.Search

variable {G M : Type}

/-! ## lists -/

theorem mem_sortMoves (key : M → Nat) (ms : List M) (m : M) : m ∈ sortMoves key ms ↔ m ∈ ms :=
  (sortMoves_perm key ms).mem_iff

theorem length_sortMoves (key : M → Nat) (ms : List M) : (sortMoves key ms).length = ms.length :=
  (sortMoves_perm key ms).length_eq

variable [DecidableEq M]

theorem mem_swapRemoveFirst {x m : M} {ms : List M} (h : m ∈ swapRemoveFirst x ms) : m ∈ ms :=
  List.mem_of_mem_erase ((swapRemoveFirst_perm_erase x ms).mem_iff.1 h)

theorem length_swapRemoveFirst (x : M) (ms : List M) :
    ms.length - 1 ≤ (swapRemoveFirst x ms).length := by
  rw [(swapRemoveFirst_perm_erase x ms).length_eq, List.length_erase]
  split <;> omega

theorem mem_rootMoves {o : Ops G M} {g : G} {m : M} (h : m ∈ rootMoves o g) : m ∈ o.checked g := by
  unfold rootMoves at h
  split at h
  · exact mem_swapRemoveFirst h
  · exact h

theorem length_rootMoves (o : Ops G M) (g : G) : (o.checked g).length - 1 ≤ (rootMoves o g).length := by
  unfold rootMoves
  split
  · exact length_swapRemoveFirst _ _
  · omega

/-! ## properties of all entries of a table -/

omit [DecidableEq M] in
theorem forall_entries_empty {P : UInt64 → Entry M → Prop} :
    ∀ k e, ({} : Table M)[k]? = some e → P k e := by
  intro k e he
  rw [Std.HashMap.getElem?_empty] at he
  cases he

omit [DecidableEq M] in
theorem forall_entries_insert {P : UInt64 → Entry M → Prop} {tt : Table M}
    (h : ∀ k e, tt[k]? = some e → P k e) {k0 : UInt64} {e0 : Entry M} (h0 : P k0 e0) :
    ∀ k e, (tt.insert k0 e0)[k]? = some e → P k e := by
  intro k e he
  rw [Std.HashMap.getElem?_insert] at he
  split at he
  · next hk => cases he; exact eq_of_beq hk ▸ h0
  · exact h k e he

/-- `Q` only looks at the table and the poll counter -/
def Frame (Q : St M → Prop) : Prop :=
  ∀ st st' : St M, Q st → st'.tt = st.tt → st'.polls = st.polls → Q st'

/-- What a state predicate `Q` must satisfy to be carried through the whole search: `A` is the set
of admissible positions, `D` the admissible depths of stored entries. -/
structure NodeInv (o : Ops G M) (runs : Nat → Bool) (A : G → Prop) (D : Nat → Prop)
    (Q : St M → Prop) : Prop where
  frame : Frame Q
  poll : ∀ st : St M, Q st → runs st.polls = true → Q (pollSt st)
  store : ∀ (g : G) (st : St M) (e : Entry M), A g → Q st →
    (∀ m, e.pv = some m → m ∈ o.checked g) → D e.depth →
    Q { st with tt := st.tt.insert (o.hash g) e }
  closed : ∀ g m, A g → m ∈ o.checked g → A (o.push g m)
  deep : ∀ r, D (r + 2)

section
variable {o : Ops G M} {runs : Nat → Bool} {A : G → Prop} {D : Nat → Prop} {Q : St M → Prop}

omit [DecidableEq M] in
/-- a predicate on the table that holds of the empty table (the poll of a node empties it when the
C09 hook is on) and is kept by the stores is carried through the search -/
theorem NodeInv.ofTable {T : Table M → Prop} (h0 : T {})
    (hins : ∀ g tt e, A g → T tt → (∀ m, e.pv = some m → m ∈ o.checked g) → D e.depth →
      T (tt.insert (o.hash g) e))
    (hcl : ∀ g m, A g → m ∈ o.checked g → A (o.push g m)) (hD : ∀ r, D (r + 2)) :
    NodeInv o runs A D fun st => T st.tt where
  frame := by
    intro st st' h ht _
    rw [ht]; exact h
  poll := by
    intro st h _
    simp only [pollSt]
    split
    · exact h0
    · exact h
  store := fun g st e => hins g st.tt e
  closed := hcl
  deep := hD

omit [DecidableEq M] in
theorem nodeStore_inv (I : NodeInv o runs A D Q) (g : G) (d : Nat) (e : Entry M) (st : St M)
    (hA : A g) (hQ : Q st) (hpv : ∀ m, e.pv = some m → m ∈ o.checked g) (hd : D e.depth) :
    Q (nodeStore (o.hash g) d e st) :=
  nodeStore_ind hQ (I.store g st e hA hQ hpv hd)

omit [DecidableEq M] in
theorem rootStore_inv (I : NodeInv o runs A D Q) (g : G) (d : Nat) (e : Entry M) (st : St M)
    (hA : A g) (hQ : Q st) (hpv : ∀ m, e.pv = some m → m ∈ o.checked g) (hd : D e.depth) :
    Q (rootStore (o.hash g) d e st) :=
  rootStore_ind hQ (I.store g st e hA hQ hpv hd)

/-- the three ways in which the root search answers -/
theorem rootSearch_some_cases {g : G} {depth : Nat} {st : St M}
    {r : Option M × Int × Bool} {st' : St M}
    (h : rootSearch o runs g depth st = some (r, st')) :
    ((o.checked g).length = 1 ∧ r = ((o.checked g).head?, 0, true) ∧ st' = st) ∨
    ((o.checked g).length ≠ 1 ∧ ∃ e, st.tt[o.hash g]? = some e ∧ depth ≤ e.depth ∧
      e.flag = Flag.exact ∧ r = (e.pv, e.score, false) ∧ st' = rootSt st) ∨
    ((o.checked g).length ≠ 1 ∧ rootHit st.tt[o.hash g]? depth = none ∧ ∃ bs bm st2,
      rootLoop o (node o runs (depth - 1)) g (rootSorted o g (rootSt st)) 0 (scoreMin + 1) none
        (rootSt st) = some (bs, bm, st2) ∧
      r = (bm, bs, false) ∧ st' = rootStore (o.hash g) depth ⟨bs, bm, depth, .exact⟩ st2) := by
  rw [rootSearch_eq] at h
  split at h
  · next hl => cases h; exact Or.inl ⟨hl, rfl, rfl⟩
  · next hl =>
    split at h
    · next e he =>
      cases h
      obtain ⟨k1, k2, k3⟩ := rootHit_eq_some_iff.1 he
      exact Or.inr (Or.inl ⟨hl, e, k1, k2, k3, rfl, rfl⟩)
    · next he =>
      split at h
      · cases h
      · next bs bm st2 hr =>
        cases h
        exact Or.inr (Or.inr ⟨hl, he, bs, bm, st2, hr, rfl, rfl⟩)

theorem rootSearch_of_hit (o : Ops G M) (runs : Nat → Bool) (g : G) (depth : Nat) (st : St M)
    {e : Entry M} (he : st.tt[o.hash g]? = some e) (hf : e.flag = Flag.exact)
    (hd : depth ≤ e.depth) (hl : (o.checked g).length ≠ 1) :
    rootSearch o runs g depth st = some ((e.pv, e.score, false), rootSt st) := by
  rw [rootSearch_eq, if_neg hl, show rootHit (ttGet (rootSt st) (o.hash g)) depth = some e from
    rootHit_eq_some_iff.2 ⟨he, hd, hf⟩]

theorem mem_rootSorted {g : G} {st : St M} {m : M} (h : m ∈ rootSorted o g st) :
    m ∈ o.checked g :=
  mem_rootMoves ((mem_sortMoves _ _ _).1 h)

end

end Chess.Search
