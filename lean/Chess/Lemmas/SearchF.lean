import Chess.Lemmas.SearchDriver

/-!
# The faithful search (`Chess/Model/SearchF.lean`): the state survives an abort

`Search.node`/`rootSearch`/`driver` return `none` when a poll of the stop flag fails and thereby
drop the state of the aborted iteration. The Rust code mutates the table in place, so the entries
stored during an aborted iteration are still there at the next `go`. `nodeF`/`rootSearchF`/`driverF`
return `(state, none)` instead; this file proves

1. **simulation on the success path**: `found`, `infos`, `stopped` of `driverF` and `driver` ALWAYS
   coincide; only the state handed to the next search differs, and only after a stop;
2. **the aborted state is still good**, for every `NodeInv` invariant that survives the emptying of
   the table (instances `TTInv`, `DepthPos`, `Polled`);
3. **the property theorems for the faithful driver**, for histories of searches ANY of which may
   have been stopped at any poll (`tableAfterF`);
4. a concrete game in which the table after a stopped `driverF` is strictly larger than the table
   after the stopped `driver`.
-/
namespace Chess.Search.F

variable {G M : Type} [DecidableEq M]

/-! ## The faithful driver, unfolded -/

theorem driverF_eq (o : Ops G M) (runs : Nat → Bool) (g : G) (tt : Table M) (off : Bool)
    (md : Option Nat) :
    driverF o runs g tt off md =
      driverLoopF o runs g (limitOf md) (limitOf md - startDepth o g tt md + 1)
        (startDepth o g tt md) (o.checked g).head? [] (initSt tt off) := rfl

theorem driverLoopF_zero (o : Ops G M) (runs : Nat → Bool) (g : G) (limit depth : Nat)
    (found : Option M) (infos : List (Info M)) (st : St M) :
    driverLoopF o runs g limit 0 depth found infos st = ⟨found, infos.reverse, st, false⟩ := rfl

theorem driverLoopF_succ (o : Ops G M) (runs : Nat → Bool) (g : G) (limit fuel depth : Nat)
    (found : Option M) (infos : List (Info M)) (st : St M) :
    driverLoopF o runs g limit (fuel + 1) depth found infos st =
      match rootSearchF o runs g depth st with
      | (st', none) => ⟨found, infos.reverse, st', true⟩
      | (st', some (bm, sc, only)) =>
        if exitCond limit depth only sc then
          ⟨bm.or found, (mkInfo o g depth sc st' :: infos).reverse, st', false⟩
        else driverLoopF o runs g limit fuel (depth + 1) (bm.or found)
          (mkInfo o g depth sc st' :: infos) st' := rfl

/-! ## 1. Simulation on the success path -/

/-- (`nodeF` empties the table before reading the flag, `node` after: on the success path the state
is the same.) -/
theorem nodeF_some_iff (o : Ops G M) (runs : Nat → Bool) (remaining : Nat) (g : G) (α β rd : Int)
    (st st' : St M) (v : Int) :
    nodeF o runs remaining g α β rd st = (st', some v) ↔
      node o runs remaining g α β rd st = some (v, st') := by
  rw [node_sim, toOpt_eq_some]

theorem nodeF_none_iff (o : Ops G M) (runs : Nat → Bool) (remaining : Nat) (g : G) (α β rd : Int)
    (st : St M) :
    (nodeF o runs remaining g α β rd st).2 = none ↔ node o runs remaining g α β rd st = none := by
  rw [node_sim, toOpt_eq_none]

omit [DecidableEq M] in
theorem nodeLoopF_some_iff (o : Ops G M)
    (childF : G → Int → Int → Int → St M → St M × Option Int)
    (child : G → Int → Int → Int → St M → Option (Int × St M))
    (hc : ∀ g' a b r s s' v, childF g' a b r s = (s', some v) ↔ child g' a b r s = some (v, s'))
    (g : G) (remaining : Nat) (rd β : Int) (ms : List M) (index : Nat) (α bs : Int)
    (bm : Option M) (st st' : St M) (a' bs' : Int) (bm' : Option M) :
    nodeLoopF o childF g remaining rd β ms index α bs bm st = (st', some (a', bs', bm')) ↔
      nodeLoop o child g remaining rd β ms index α bs bm st = some ⟨a', bs', bm', st'⟩ := by
  have hsim : Sim childF child := fun g' a b r s =>
    Option.ext fun p => (hc _ _ _ _ _ p.2 p.1).symm.trans (toOpt_eq_some _ p.1 p.2).symm
  rw [nodeLoopF_eq, nodeLoop_sim o childF child g remaining rd β ms hsim, loopOpt_eq_some]

theorem rootLoopF_some_iff (o : Ops G M) (runs : Nat → Bool) (d : Nat) (g : G) (ms : List M)
    (index : Nat) (bs : Int) (bm : Option M) (st st' : St M) (bs' : Int) (bm' : Option M) :
    rootLoopF o (nodeF o runs d) g ms index bs bm st = (st', some (bs', bm')) ↔
      rootLoop o (node o runs d) g ms index bs bm st = some (bs', bm', st') := by
  rw [rootLoopF_eq, rootLoop_sim o (nodeF o runs d) (node o runs d) g ms (node_sim o runs d),
    rootOpt_eq_some]

theorem rootLoopF_none_iff (o : Ops G M) (runs : Nat → Bool) (d : Nat) (g : G) (ms : List M)
    (index : Nat) (bs : Int) (bm : Option M) (st : St M) :
    (rootLoopF o (nodeF o runs d) g ms index bs bm st).2 = none ↔
      rootLoop o (node o runs d) g ms index bs bm st = none := by
  rw [rootLoopF_eq, rootLoop_sim o (nodeF o runs d) (node o runs d) g ms (node_sim o runs d)]
  obtain ⟨s, _ | y⟩ := rootLoopG o (nodeF o runs d) g ms index bs bm st <;> simp [rootOpt]

theorem rootSearchF_some_iff (o : Ops G M) (runs : Nat → Bool) (g : G) (depth : Nat)
    (st st' : St M) (r : Option M × Int × Bool) :
    rootSearchF o runs g depth st = (st', some r) ↔ rootSearch o runs g depth st = some (r, st') := by
  rw [rootSearch_sim, toOpt_eq_some]

theorem rootSearchF_none_iff (o : Ops G M) (runs : Nat → Bool) (g : G) (depth : Nat) (st : St M) :
    (rootSearchF o runs g depth st).2 = none ↔ rootSearch o runs g depth st = none := by
  rw [rootSearch_sim, toOpt_eq_none]

/-- the iterative-deepening loops agree on everything that is reported, and altogether unless
stopped -/
theorem driverLoopF_agrees (o : Ops G M) (runs : Nat → Bool) (g : G) (limit fuel depth : Nat)
    (found : Option M) (infos : List (Info M)) (st : St M) :
    let outF := driverLoopF o runs g limit fuel depth found infos st
    let out := driverLoop o runs g limit fuel depth found infos st
    outF.found = out.found ∧ outF.infos = out.infos ∧ outF.stopped = out.stopped ∧
      (out.stopped = false → outF = out) := by
  induction fuel generalizing depth found infos st with
  | zero => exact ⟨rfl, rfl, rfl, fun _ => rfl⟩
  | succ f ih =>
    rw [driverLoopF_succ, driverLoop_succ, rootSearch_sim]
    cases hs : rootSearchF o runs g depth st with
    | mk s x =>
      cases x with
      | none => exact ⟨rfl, rfl, rfl, fun h => (nomatch h)⟩
      | some y =>
        obtain ⟨bm, sc, only⟩ := y
        simp only [toOpt]
        by_cases hx : exitCond limit depth only sc = true
        · simp only [hx, if_true, and_self, implies_true]
        · simp only [hx]
          exact ih _ _ _ _

/-- also when the search was stopped: only `out.st`, the state handed to the next search, differs -/
theorem driverF_agrees (o : Ops G M) (runs : Nat → Bool) (g : G) (tt : Table M) (off : Bool)
    (md : Option Nat) :
    (driverF o runs g tt off md).found = (driver o runs g tt off md).found ∧
    (driverF o runs g tt off md).infos = (driver o runs g tt off md).infos ∧
    (driverF o runs g tt off md).stopped = (driver o runs g tt off md).stopped := by
  rw [driver_eq]
  obtain ⟨h1, h2, h3, _⟩ := driverLoopF_agrees o runs g (limitOf md)
    (limitOf md - startDepth o g tt md + 1) (startDepth o g tt md) (o.checked g).head? []
    (initSt tt off)
  exact ⟨h1, h2, h3⟩

theorem driverF_of_driver_unstopped (o : Ops G M) (runs : Nat → Bool) (g : G) (tt : Table M)
    (off : Bool) (md : Option Nat) (h : (driver o runs g tt off md).stopped = false) :
    driverF o runs g tt off md = driver o runs g tt off md := by
  rw [driver_eq] at h ⊢
  exact (driverLoopF_agrees o runs g _ _ _ _ _ _).2.2.2 h

theorem driverF_unstopped (o : Ops G M) (runs : Nat → Bool) (g : G) (tt : Table M)
    (off : Bool) (md : Option Nat) (h : (driverF o runs g tt off md).stopped = false) :
    driverF o runs g tt off md = driver o runs g tt off md :=
  driverF_of_driver_unstopped o runs g tt off md ((driverF_agrees o runs g tt off md).2.2 ▸ h)

/-! ## 2. The aborted state is still good -/

omit [DecidableEq M] in
theorem inv_of_res {runs : Nat → Bool} {Q : St M → Prop} (hab : ∀ st : St M, Q st → Q (abortSt st))
    {α : Type} {r : St M × Option α} (h : Res (fun _ => Q) (Aborted runs Q) r) :
    Q r.1 ∧ (r.2 = none → runs r.1.polls = false) := by
  obtain ⟨s, _ | a⟩ := r
  · obtain ⟨st, hQ, hr, rfl⟩ := h
    exact ⟨hab st hQ, fun _ => hr⟩
  · exact ⟨h, fun h => nomatch h⟩

section
variable {o : Ops G M} {runs : Nat → Bool} {A : G → Prop} {D : Nat → Prop} {Q : St M → Prop}

/-- A `NodeInv` invariant that survives the emptying of the table holds of the state the faithful
node returns, answer or abort. -/
theorem nodeF_inv (I : NodeInv o runs A D Q) (hab : ∀ st : St M, Q st → Q (abortSt st))
    (remaining : Nat) (g : G) (α β rd : Int) (st : St M) (hA : A g) (hQ : Q st) :
    Q (nodeF o runs remaining g α β rd st).1 ∧
      ((nodeF o runs remaining g α β rd st).2 = none →
        runs (nodeF o runs remaining g α β rd st).1.polls = false) :=
  inv_of_res hab (nodeF_res I remaining g α β rd st hA hQ)

theorem rootSearchF_inv (I : NodeInv o runs A D Q) (hab : ∀ st : St M, Q st → Q (abortSt st))
    (g : G) (depth : Nat) (st : St M) (hA : A g) (hQ : Q st) (hD : D depth) :
    Q (rootSearchF o runs g depth st).1 ∧
      ((rootSearchF o runs g depth st).2 = none →
        runs (rootSearchF o runs g depth st).1.polls = false) :=
  inv_of_res hab ((rootSearchF_res I g depth st hA hQ hD).imp fun _ _ h => h.1)

theorem driverLoopF_inv (I : NodeInv o runs A D Q) (hab : ∀ st : St M, Q st → Q (abortSt st))
    (g : G) (hA : A g) (limit fuel depth : Nat) (found : Option M) (infos : List (Info M))
    (st : St M) (hQ : Q st) (hD : ∀ d, depth ≤ d → D d) :
    let out := driverLoopF o runs g limit fuel depth found infos st
    Q out.st ∧ (out.stopped = true → runs out.st.polls = false) := by
  induction fuel generalizing depth found infos st with
  | zero => exact ⟨hQ, fun h => nomatch h⟩
  | succ f ih =>
    rw [driverLoopF_succ]
    have k := rootSearchF_inv I hab g depth st hA hQ (hD depth (Nat.le_refl _))
    generalize rootSearchF o runs g depth st = r at k ⊢
    obtain ⟨s, _ | ⟨bm, sc, only⟩⟩ := r
    · exact ⟨k.1, fun _ => k.2 rfl⟩
    · dsimp only
      split
      · exact ⟨k.1, fun h => nomatch h⟩
      · exact ih _ _ _ _ k.1 (fun d hd => hD d (by omega))

theorem driverF_inv (I : NodeInv o runs A D Q) (hab : ∀ st : St M, Q st → Q (abortSt st))
    (g : G) (tt : Table M) (off : Bool) (md : Option Nat) (hA : A g) (hQ : Q (initSt tt off))
    (hD : ∀ d, startDepth o g tt md ≤ d → D d) :
    Q (driverF o runs g tt off md).st ∧
      ((driverF o runs g tt off md).stopped = true →
        runs (driverF o runs g tt off md).st.polls = false) := by
  rw [driverF_eq]
  exact driverLoopF_inv I hab g hA _ _ _ _ _ _ hQ hD

end

/-! ### the instances `TTInv`, `DepthPos`, `Polled` -/

omit [DecidableEq M] in
/-- a predicate of the table that holds of the empty table survives the emptying -/
theorem abortSt_tt {P : Table M → Prop} (h0 : P {}) (st : St M) (h : P st.tt) :
    P (abortSt st).tt := by
  simp only [abortSt]
  split
  · exact h0
  · exact h

theorem nodeF_preserves_TTInv {o : Ops G M} {P : G → Prop} (hH : HashOk o P) (hC : Closed o P)
    (runs : Nat → Bool) (remaining : Nat) (g : G) (α β rd : Int) (st : St M)
    (hP : P g) (hT : TTInv o P st.tt) :
    TTInv o P (nodeF o runs remaining g α β rd st).1.tt :=
  (nodeF_inv (ttInv_nodeInv hH hC runs) (abortSt_tt (TTInv_empty o P)) remaining g α β rd st hP hT).1

theorem rootSearchF_preserves_TTInv {o : Ops G M} {P : G → Prop} (hH : HashOk o P)
    (hC : Closed o P) (runs : Nat → Bool) (g : G) (depth : Nat) (st : St M)
    (hP : P g) (hT : TTInv o P st.tt) : TTInv o P (rootSearchF o runs g depth st).1.tt :=
  (rootSearchF_inv (ttInv_nodeInv hH hC runs) (abortSt_tt (TTInv_empty o P)) g depth st hP hT trivial).1

theorem driverF_preserves_TTInv {o : Ops G M} {P : G → Prop} (hH : HashOk o P) (hC : Closed o P)
    (runs : Nat → Bool) (g : G) (tt : Table M) (off : Bool) (md : Option Nat)
    (hP : P g) (hT : TTInv o P tt) : TTInv o P (driverF o runs g tt off md).st.tt :=
  (driverF_inv (ttInv_nodeInv hH hC runs) (abortSt_tt (TTInv_empty o P)) g tt off md hP hT
    (fun _ _ => trivial)).1

theorem nodeF_preserves_DepthPos (o : Ops G M) (runs : Nat → Bool) (remaining : Nat) (g : G)
    (α β rd : Int) (st : St M) (h : DepthPos st.tt) :
    DepthPos (nodeF o runs remaining g α β rd st).1.tt :=
  (nodeF_inv (depthPos_nodeInv o runs) (abortSt_tt DepthPos_empty) remaining g α β rd st trivial h).1

theorem rootSearchF_preserves_DepthPos (o : Ops G M) (runs : Nat → Bool) (g : G) (depth : Nat)
    (st : St M) (h : DepthPos st.tt) (hd : 1 ≤ depth) :
    DepthPos (rootSearchF o runs g depth st).1.tt :=
  (rootSearchF_inv (depthPos_nodeInv o runs) (abortSt_tt DepthPos_empty) g depth st trivial h hd).1

theorem driverF_preserves_DepthPos (o : Ops G M) (runs : Nat → Bool) (g : G) (tt : Table M)
    (off : Bool) (md : Option Nat) (h : DepthPos tt) :
    DepthPos (driverF o runs g tt off md).st.tt :=
  have hs := one_le_startDepth o g tt md (fun e he _ => h _ e he)
  (driverF_inv (depthPos_nodeInv o runs) (abortSt_tt DepthPos_empty) g tt off md trivial h
    (fun _ hd => Nat.le_trans hs hd)).1

theorem nodeF_polled (o : Ops G M) (runs : Nat → Bool) (remaining : Nat) (g : G)
    (α β rd : Int) (st : St M) :
    Polled runs st.polls (nodeF o runs remaining g α β rd st).1 :=
  (nodeF_inv (polled_nodeInv o runs st.polls) (fun _ h => h) remaining g α β rd st
    trivial (polled_refl runs st)).1

theorem rootSearchF_polled (o : Ops G M) (runs : Nat → Bool) (g : G) (depth : Nat) (st : St M) :
    Polled runs st.polls (rootSearchF o runs g depth st).1 :=
  (rootSearchF_inv (polled_nodeInv o runs st.polls) (fun _ h => h) g depth st
    trivial (polled_refl runs st) trivial).1

/-! ## 3. The property theorems for the faithful driver -/

/-- the table after a history of faithful searches sharing it, ANY of which may have been stopped
at any poll -/
def tableAfterF (o : Ops G M) (tt : Table M) (reqs : List (Req G)) : Table M :=
  reqs.foldl (fun tt r => (driverF o r.runs r.g tt r.off r.md).st.tt) tt

/-- **C07.** -/
theorem driverF_found_of_moves (o : Ops G M) (runs : Nat → Bool) (g : G) (tt : Table M)
    (off : Bool) (md : Option Nat) (h : o.checked g ≠ []) :
    (driverF o runs g tt off md).found.isSome :=
  (driverF_agrees o runs g tt off md).1 ▸ driver_found_of_moves o runs g tt off md h

/-- **C06 / C18.** From a table satisfying the invariant, in an admissible position, the faithful
driver, stopped or not, leaves a table satisfying the invariant, answers with a checked move,
answers `none` exactly when there is no move, and reports legal lines only. -/
theorem driverF_sound {o : Ops G M} {P : G → Prop} (hH : HashOk o P) (hC : Closed o P)
    (runs : Nat → Bool) (g : G) (tt : Table M) (off : Bool) (md : Option Nat)
    (hP : P g) (hT : TTInv o P tt) :
    let out := driverF o runs g tt off md
    TTInv o P out.st.tt ∧ (∀ m, out.found = some m → m ∈ o.checked g) ∧
      (out.found = none ↔ o.checked g = []) ∧ ∀ info ∈ out.infos, LegalLine o g info.pv := by
  intro out
  obtain ⟨a1, a2, _⟩ := driverF_agrees o runs g tt off md
  obtain ⟨_, k2, k3⟩ := driver_sound_full hH hC runs g tt off md hP hT
  exact ⟨driverF_preserves_TTInv hH hC runs g tt off md hP hT, a1 ▸ k2,
    a1 ▸ driver_none_iff hH hC runs g tt off md hP hT, a2 ▸ k3⟩

theorem historyF_preserves_TTInv {o : Ops G M} {P : G → Prop} (hH : HashOk o P) (hC : Closed o P)
    (reqs : List (Req G)) (hreqs : ∀ r ∈ reqs, P r.g) (tt : Table M) (hT : TTInv o P tt) :
    TTInv o P (tableAfterF o tt reqs) :=
  List.foldlRecOn reqs _ hT fun tt hT r hr =>
    driverF_preserves_TTInv hH hC r.runs r.g tt r.off r.md (hreqs r hr) hT

/-- **C06 / C18 for a whole session**: starting from the empty table, after any history of searches
of admissible positions, each possibly stopped at any poll, the next search answers with a legal
move (`none` iff there is none), prints legal lines, and hands on a good table. -/
theorem sessionF_sound {o : Ops G M} {P : G → Prop} (hH : HashOk o P) (hC : Closed o P)
    (reqs : List (Req G)) (hreqs : ∀ r ∈ reqs, P r.g) (r : Req G) (hP : P r.g) :
    let out := driverF o r.runs r.g (tableAfterF o {} reqs) r.off r.md
    (∀ m, out.found = some m → m ∈ o.checked r.g) ∧ (out.found = none ↔ o.checked r.g = []) ∧
      (∀ info ∈ out.infos, LegalLine o r.g info.pv) ∧ TTInv o P out.st.tt := by
  have hT := historyF_preserves_TTInv hH hC reqs hreqs {} (TTInv_empty o P)
  obtain ⟨k1, k2, k3, k4⟩ := driverF_sound hH hC r.runs r.g _ r.off r.md hP hT
  exact ⟨k2, k3, k4, k1⟩

theorem historyF_preserves_DepthPos (o : Ops G M) (reqs : List (Req G)) (tt : Table M)
    (h : DepthPos tt) : DepthPos (tableAfterF o tt reqs) :=
  List.foldlRecOn reqs _ h fun tt h r _ => driverF_preserves_DepthPos o r.runs r.g tt r.off r.md h

/-- **C08, unconditional part**, for an arbitrary table: the depths reported are consecutive, start
at `min cached limit` and never exceed the limit. -/
theorem driverF_depths_partial (o : Ops G M) (runs : Nat → Bool) (g : G) (tt : Table M)
    (off : Bool) (md : Option Nat) :
    let out := driverF o runs g tt off md
    out.infos.map (·.depth) = List.range' (startDepth o g tt md) out.infos.length ∧
    ∀ info ∈ out.infos, startDepth o g tt md ≤ info.depth ∧ info.depth ≤ limitOf md := by
  intro out
  exact (driverF_agrees o runs g tt off md).2.1 ▸ driver_depths_partial o runs g tt off md

/-- **C08** with the hypothesis that the exact root entry, if any, has depth `≥ 1`. -/
theorem driverF_depths (o : Ops G M) (runs : Nat → Bool) (g : G) (tt : Table M)
    (off : Bool) (md : Option Nat)
    (h : ∀ e, tt[o.hash g]? = some e → e.flag = Flag.exact → 1 ≤ e.depth) :
    let out := driverF o runs g tt off md
    out.infos.map (·.depth) = List.range' (startDepth o g tt md) out.infos.length ∧
    ∀ info ∈ out.infos, 1 ≤ info.depth ∧ info.depth ≤ limitOf md ∧ info.depth ≤ maxDepth ∧
      ∀ N, md = some N → 1 ≤ N → info.depth ≤ N := by
  intro out
  exact (driverF_agrees o runs g tt off md).2.1 ▸ driver_depths o runs g tt off md h

/-- **C08 for a whole session**, no hypothesis on the game: starting from the empty table, after
any history of searches each possibly stopped, every reported depth of the next search lies in
`1 ..= limit`, hence is at most `MAX_DEPTH`, and at most `N` for `go depth N`. -/
theorem sessionF_depths (o : Ops G M) (reqs : List (Req G)) (r : Req G) :
    ∀ info ∈ (driverF o r.runs r.g (tableAfterF o {} reqs) r.off r.md).infos,
      1 ≤ info.depth ∧ info.depth ≤ limitOf r.md ∧ info.depth ≤ maxDepth ∧
      ∀ N, r.md = some N → 1 ≤ N → info.depth ≤ N :=
  (driverF_depths o r.runs r.g _ r.off r.md
    (fun e he _ => historyF_preserves_DepthPos o reqs {} DepthPos_empty _ e he)).2

/-- **A faithful node is aborted only by a cleared flag, at the first poll that sees it, and
nothing is polled afterwards**: the poll counter of the returned state is exactly the index of the
failing poll. -/
theorem nodeF_abort_first_cleared (o : Ops G M) (runs : Nat → Bool) (remaining : Nat) (g : G)
    (α β rd : Int) (st : St M) (h : (nodeF o runs remaining g α β rd st).2 = none) :
    ∃ i, st.polls ≤ i ∧ runs i = false ∧ (∀ j, st.polls ≤ j → j < i → runs j = true) ∧
      (nodeF o runs remaining g α β rd st).1.polls = i := by
  obtain ⟨hp, hr⟩ := nodeF_inv (polled_nodeInv o runs st.polls) (fun _ h => h)
    remaining g α β rd st trivial (polled_refl runs st)
  exact ⟨_, hp.1, hr h, hp.2, rfl⟩

theorem rootSearchF_abort_first_cleared (o : Ops G M) (runs : Nat → Bool) (g : G) (depth : Nat)
    (st : St M) (h : (rootSearchF o runs g depth st).2 = none) :
    ∃ i, st.polls ≤ i ∧ runs i = false ∧ (∀ j, st.polls ≤ j → j < i → runs j = true) ∧
      (rootSearchF o runs g depth st).1.polls = i := by
  obtain ⟨hp, hr⟩ := rootSearchF_inv (polled_nodeInv o runs st.polls) (fun _ h => h)
    g depth st trivial (polled_refl runs st) trivial
  exact ⟨_, hp.1, hr h, hp.2, rfl⟩

/-- **C07, stop semantics.** The faithful driver reports `stopped` only if some poll saw the flag
cleared; then the poll counter of the returned state is the index of the first such poll; in every
case each poll counted saw the flag set. -/
theorem driverF_stop_semantics (o : Ops G M) (runs : Nat → Bool) (g : G) (tt : Table M)
    (off : Bool) (md : Option Nat) :
    let out := driverF o runs g tt off md
    (out.stopped = true → ∃ i, runs i = false) ∧
    (out.stopped = true → runs out.st.polls = false) ∧
    (∀ i, i < out.st.polls → runs i = true) := by
  intro out
  obtain ⟨hp, hr⟩ := driverF_inv (polled_nodeInv o runs 0) (fun _ h => h) g tt off md
    trivial ⟨Nat.le_refl _, fun _ _ h => (nomatch h)⟩ (fun _ _ => trivial)
  exact ⟨fun h => ⟨_, hr h⟩, hr, fun i hi => hp.2 i (Nat.zero_le _) hi⟩

/-- **C07.** With a flag that stays up the faithful driver is not stopped, and is the dropping
driver. -/
theorem driverF_terminates_by_itself (o : Ops G M) (g : G) (tt : Table M) (off : Bool)
    (md : Option Nat) :
    (driverF o (fun _ => true) g tt off md).stopped = false ∧
      driverF o (fun _ => true) g tt off md = driver o (fun _ => true) g tt off md := by
  have h := (driver_terminates_by_itself o g tt off md).1
  exact ⟨((driverF_agrees o (fun _ => true) g tt off md).2.2).trans h,
    driverF_of_driver_unstopped o _ g tt off md h⟩

/-- **The flag matters only by aborting**: a faithful search that was not stopped returns exactly
what the search with a flag that is never cleared returns: move, reports and final state. -/
theorem driverF_unstopped_eq (o : Ops G M) (runs : Nat → Bool) (g : G) (tt : Table M) (off : Bool)
    (md : Option Nat) (h : (driverF o runs g tt off md).stopped = false) :
    driverF o runs g tt off md = driverF o (fun _ => true) g tt off md := by
  have hd : (driver o runs g tt off md).stopped = false :=
    (driverF_agrees o runs g tt off md).2.2 ▸ h
  rw [driverF_unstopped o runs g tt off md h, (driverF_terminates_by_itself o g tt off md).2]
  exact driver_unstopped_eq o runs g tt off md hd

/-- **C19.** -/
theorem driverF_flag_free_unstopped (o : Ops G M) (runs runs' : Nat → Bool) (g : G)
    (tt : Table M) (off : Bool) (md : Option Nat)
    (h : (driverF o runs g tt off md).stopped = false)
    (h' : (driverF o runs' g tt off md).stopped = false) :
    driverF o runs g tt off md = driverF o runs' g tt off md :=
  (driverF_unstopped_eq o runs g tt off md h).trans (driverF_unstopped_eq o runs' g tt off md h').symm

/-- **C19.** After a reset the result does not depend on anything that happened before. -/
theorem freshF_equiv (o : Ops G M) (runs : Nat → Bool) (g : G) (off : Bool) (md : Option Nat)
    (tt₁ tt₂ : Table M) (hist₁ hist₂ : List (Req G)) :
    driverF o runs g (resetTable (tableAfterF o tt₁ hist₁)) off md =
      driverF o runs g (resetTable (tableAfterF o tt₂ hist₂)) off md := rfl

/-! ## 4. Non-vacuity: the game of `SearchDriver.lean`, a search stopped in its third iteration

Positions `0, 1, 2` have the two moves `1, 2`, the move `m` leads from `g` to `3 * g + m`, the
position is its own hash. With the flag cleared at poll 7 the iteration of depth 3 is aborted after
its first child (position `1`, remaining depth 2) has stored its entry: the faithful driver hands on
that entry, the dropping driver does not. `Std.HashMap` does not reduce in the kernel: the concrete
facts are obtained by applying the theorems; the `#guard`s are side checks by evaluation. -/
namespace Example
open Chess.Search.Example

/-- the flag is cleared at poll 7 -/
def stopAt7 : Nat → Bool := fun i => decide (i < 7)

/-- a `go` stopped at poll 7 -/
def stoppedReq : Req UInt64 := ⟨0, none, stopAt7, false⟩

/-- whatever searches came before, each stopped wherever: the next faithful search answers a legal
move at the root -/
example (reqs : List (Req UInt64)) (runs : Nat → Bool) (off : Bool) (md : Option Nat) :
    ∃ m, (driverF ex_x runs 0 (tableAfterF ex_x {} reqs) off md).found = some m ∧ (m = 1 ∨ m = 2) := by
  have h1 := driverF_found_of_moves ex_x runs 0 (tableAfterF ex_x {} reqs) off md (by decide)
  have h2 := (sessionF_sound ex_hashOk ex_closed reqs (fun _ _ => trivial)
    ⟨0, md, runs, off⟩ trivial).1
  cases hf : (driverF ex_x runs 0 (tableAfterF ex_x {} reqs) off md).found with
  | none => rw [hf] at h1; cases h1
  | some m =>
    refine ⟨m, rfl, ?_⟩
    have := h2 m hf
    rw [ex_moves] at this
    simpa using this

/-- `none` in a position without moves, after any history of stopped searches -/
example (reqs : List (Req UInt64)) (runs : Nat → Bool) (off : Bool) (md : Option Nat) :
    (driverF ex_x runs 5 (tableAfterF ex_x {} reqs) off md).found = none :=
  (sessionF_sound ex_hashOk ex_closed reqs (fun _ _ => trivial) ⟨5, md, runs, off⟩ trivial).2.1.2
    ex_dead

/-- `go depth 2` after any history of stopped searches never reports a depth above 2 -/
example (reqs : List (Req UInt64)) (runs : Nat → Bool) (off : Bool) :
    ∀ info ∈ (driverF ex_x runs 0 (tableAfterF ex_x {} reqs) off (some 2)).infos,
      1 ≤ info.depth ∧ info.depth ≤ 2 := by
  intro info hi
  have := sessionF_depths ex_x reqs ⟨0, some 2, runs, off⟩ info hi
  exact ⟨this.1, this.2.2.2 2 rfl (by omega)⟩

/-- the search stopped at poll 7 IS stopped, in both models -/
example : (driverF ex_x stopAt7 0 {} false none).stopped = (driver ex_x stopAt7 0 {} false none).stopped :=
  (driverF_agrees ex_x stopAt7 0 {} false none).2.2

-- side checks by evaluation
-- the search is stopped, in its third iteration (two reports), in both models …
#guard (driverF ex_x stopAt7 0 {} false none).stopped == true
#guard (driver ex_x stopAt7 0 {} false none).stopped == true
#guard (driverF ex_x stopAt7 0 {} false none).infos.map (·.depth) == [1, 2]
-- … `found` and `infos` agree …
#guard (driverF ex_x stopAt7 0 {} false none).found == (driver ex_x stopAt7 0 {} false none).found
#guard (driverF ex_x stopAt7 0 {} false none).infos.map (fun i => (i.depth, i.score, i.nodes, i.pv)) ==
  (driver ex_x stopAt7 0 {} false none).infos.map (fun i => (i.depth, i.score, i.nodes, i.pv))
-- … but the faithful table is STRICTLY LARGER: it holds the entry of position `1` stored by the
-- aborted iteration of depth 3 …
#guard (driver ex_x stopAt7 0 {} false none).st.tt.size == 1
#guard (driverF ex_x stopAt7 0 {} false none).st.tt.size == 2
#guard (driver ex_x stopAt7 0 {} false none).st.tt.contains 1 == false
#guard (driverF ex_x stopAt7 0 {} false none).st.tt.contains 1 == true
#guard ((driverF ex_x stopAt7 0 {} false none).st.tt[(1 : UInt64)]?).map (·.depth) == some 2
-- … and the faithful poll counter is the index of the failing poll, the dropping one that of the
-- end of the last completed iteration
#guard (driverF ex_x stopAt7 0 {} false none).st.polls == 7
#guard (driver ex_x stopAt7 0 {} false none).st.polls == 4
-- the tables handed to the next `go` differ
#guard (tableAfterF ex_x {} [stoppedReq]).size == 2
#guard (tableAfter ex_x {} [stoppedReq]).size == 1
-- a search that is not stopped: the two drivers are equal, table included
#guard (driverF ex_x (fun _ => true) 0 {} false (some 4)).st.tt.toList.map (fun p => (p.1, p.2.depth, p.2.score)) ==
  (driver ex_x (fun _ => true) 0 {} false (some 4)).st.tt.toList.map (fun p => (p.1, p.2.depth, p.2.score))
-- with the table-less hook on, a stop at the very first poll empties the faithful table (the table
-- is emptied before the flag is read), the dropping model keeps it: the faithful table is not
-- always the larger one
#guard (driverF ex_x (fun _ => false) 0 (({} : Table Nat).insert 77 ⟨0, none, 1, .lower⟩) true none).st.tt.size == 0
#guard (driver ex_x (fun _ => false) 0 (({} : Table Nat).insert 77 ⟨0, none, 1, .lower⟩) true none).st.tt.size == 1

end Example

#print axioms nodeF_some_iff
#print axioms nodeLoopF_some_iff
#print axioms rootLoopF_some_iff
#print axioms rootSearchF_some_iff
#print axioms driverF_agrees
#print axioms driverF_unstopped
#print axioms driverF_of_driver_unstopped
#print axioms nodeF_inv
#print axioms rootSearchF_inv
#print axioms driverF_inv
#print axioms nodeF_preserves_TTInv
#print axioms rootSearchF_preserves_TTInv
#print axioms driverF_preserves_TTInv
#print axioms nodeF_preserves_DepthPos
#print axioms rootSearchF_preserves_DepthPos
#print axioms driverF_preserves_DepthPos
#print axioms nodeF_polled
#print axioms driverF_found_of_moves
#print axioms driverF_sound
#print axioms historyF_preserves_TTInv
#print axioms sessionF_sound
#print axioms sessionF_depths
#print axioms driverF_depths_partial
#print axioms driverF_depths
#print axioms driverF_stop_semantics
#print axioms driverF_terminates_by_itself
#print axioms nodeF_abort_first_cleared
#print axioms rootSearchF_abort_first_cleared
#print axioms driverF_unstopped_eq
#print axioms driverF_flag_free_unstopped
#print axioms freshF_equiv

end Chess.Search.F
