import Chess.Model.SearchF
import Chess.Lemmas.SearchDriverAux

/-!
# The move loops over an arbitrary state; the faithful search against the dropping search

The move loops of `Chess/Model/SearchF.lean` thread a state through calls of a child that may abort.
`stepG`, `nodeLoopG`, `rootLoopG` are these loops over ANY state type `σ`, written with `andThen`;
`nodeLoopF`/`rootLoopF` (and the strict loops of `CallShapeAux1`) are instances. Two facts are proved
once for them: a predicate kept by the children is kept by the loop, for both outcomes (`Res`); a
relation between the results of two runs that `andThen` respects (`Lifts`) and the children respect
is respected by the loops.

The dropping search is the faithful search with the state of an abort forgotten (`node_sim`,
`rootSearch_sim`), so its invariants follow from those of the faithful search (`nodeF_res`,
`rootSearchF_res`).
-/
namespace Chess.Search

variable {G M σ τ : Type}

/-- a child of a move loop over the state `σ`: the state afterwards, and the value unless aborted -/
abbrev Child (G σ : Type) := G → Int → Int → Int → σ → σ × Option Int

/-- go on with the answer, or hand the abort on with its state -/
def andThen {α β : Type} (r : σ × Option α) (k : σ → α → σ × Option β) : σ × Option β :=
  match r with
  | (s, none) => (s, none)
  | (s, some a) => k s a

/-- `Q` of the answer and its state, `R` of the state of an abort -/
def Res {α : Type} (Q : α → σ → Prop) (R : σ → Prop) : σ × Option α → Prop
  | (s, some a) => Q a s
  | (s, none) => R s

section
variable {α β : Type} {Q : α → σ → Prop} {R : σ → Prop} {r : σ × Option α}

theorem Res.andThen {Q' : β → σ → Prop} {k : σ → α → σ × Option β} (h : Res Q R r)
    (hk : ∀ s a, Q a s → Res Q' R (k s a)) : Res Q' R (andThen r k) := by
  obtain ⟨s, _ | a⟩ := r
  · exact h
  · exact hk s a h

theorem Res.imp {Q' : α → σ → Prop} (h : Res Q R r) (hq : ∀ a s, Q a s → Q' a s) :
    Res Q' R r := by
  obtain ⟨s, _ | a⟩ := r
  · exact h
  · exact hq a s h

theorem Res.of_some {s : σ} {a : α} (h : Res Q R r) (hr : r = (s, some a)) : Q a s := by
  subst hr; exact h

theorem Res.of_none (h : Res Q R r) (hr : r.2 = none) : R r.1 := by
  obtain ⟨s, _ | a⟩ := r
  · exact h
  · cases hr

theorem res_same_iff {Q : σ → Prop} : Res (fun _ => Q) Q r ↔ Q r.1 := by
  obtain ⟨s, _ | a⟩ := r <;> exact Iff.rfl

end

/-- `ρ` relates the results of two runs, the second started in the state seen through `f`: it holds
of two answers in corresponding states, and `andThen` respects it -/
structure Lifts (f : σ → τ) (ρ : {α : Type} → σ × Option α → τ × Option α → Prop) : Prop where
  pure : ∀ {α : Type} (s : σ) (a : α), ρ (s, some a) (f s, some a)
  andThen : ∀ {α β : Type} {r : σ × Option α} {r' : τ × Option α} {k : σ → α → σ × Option β}
    {k' : τ → α → τ × Option β}, ρ r r' → (∀ s a, ρ (k s a) (k' (f s) a)) →
    ρ (Search.andThen r k) (Search.andThen r' k')

def mapRes {α : Type} (f : σ → τ) (r : σ × Option α) : τ × Option α := (f r.1, r.2)

theorem lifts_mapRes (f : σ → τ) : Lifts f fun r r' => mapRes f r = r' where
  pure _ _ := rfl
  andThen := by
    intro α β r r' k k' h hk
    subst h
    obtain ⟨s, _ | a⟩ := r
    · rfl
    · exact hk s a

def ResLe {α : Type} (r r' : σ × Option α) : Prop := ∀ s a, r = (s, some a) → r' = (s, some a)

theorem ResLe.refl {α : Type} (r : σ × Option α) : ResLe r r := fun _ _ h => h

theorem lifts_resLe : Lifts (id : σ → σ) fun r r' => ResLe r r' where
  pure _ _ := ResLe.refl _
  andThen := by
    intro α β r r' k k' h hk
    obtain ⟨s, _ | a⟩ := r
    · exact fun _ _ hb => nomatch hb
    · rw [h s a rfl]; exact hk s a

/-! ## the move loops over an arbitrary state -/

/-- one iteration of a move loop, before the cut-off test: the child is called with depth index
`rd'`, on the full window from `lo` for the first moves, on the null window and then again for the
others -/
def stepG (o : Ops G M) (child : Child G σ) (g : G) (rd' lo : Int) (m : M) (index : Nat)
    (alpha bestScore : Int) (bestMove : Option M) (s : σ) : σ × Option (Int × Int × Option M) :=
  if index ≤ Gen.fullWindowMaxIndex then
    andThen (child (o.push g m) lo (-alpha) rd' s) fun s v =>
      (s, some (max alpha (-v), if -v > bestScore then (-v, some m) else (bestScore, bestMove)))
  else
    andThen (child (o.push g m) (-alpha - 1) (-alpha) rd' s) fun s v =>
      if -v > bestScore then
        andThen (child (o.push g m) lo (- -v) rd' s) fun s v2 =>
          (s, some (max alpha (-v2), -v2, some m))
      else (s, some (alpha, bestScore, bestMove))

/-- the move loop of an interior node; `cut m` is what a beta cut-off at `m` does to the state -/
def nodeLoopG (o : Ops G M) (cut : M → σ → σ) (child : Child G σ) (g : G) (rd beta : Int) :
    List M → Nat → Int → Int → Option M → σ → σ × Option (Int × Int × Option M)
  | [], _, alpha, bs, bm, s => (s, some (alpha, bs, bm))
  | m :: ms, index, alpha, bs, bm, s =>
    andThen (stepG o child g (rd + 1) (-beta) m index alpha bs bm s) fun s y =>
      if y.1 ≥ beta then (cut m s, some y)
      else nodeLoopG o cut child g rd beta ms (index + 1) y.1 y.2.1 y.2.2 s

/-- the move loop of the root: no cut-off, and `alpha` is the best score -/
def rootLoopG (o : Ops G M) (child : Child G σ) (g : G) :
    List M → Nat → Int → Option M → σ → σ × Option (Int × Option M)
  | [], _, bs, bm, s => (s, some (bs, bm))
  | m :: ms, index, bs, bm, s =>
    andThen (stepG o child g 1 (scoreMin + 1) m index bs bs bm s) fun s y =>
      rootLoopG o child g ms (index + 1) y.2.1 y.2.2 s

section
variable {o : Ops G M} {child : Child G σ} {g : G} {rd β : Int}

/-! ### a predicate kept by the children is kept by the loops

The loops also say where the best move comes from: the one given, or a move of the list. -/

/-- a call of the child at `g'` with depth index `rd'`, made in a state satisfying `Q`, gives `Q`
(answer) or `R` (abort) -/
def ChildOk (Q R : σ → Prop) (child : Child G σ) (g' : G) (rd' : Int) : Prop :=
  ∀ a b s, Q s → Res (fun _ => Q) R (child g' a b rd' s)

variable {Q R : σ → Prop}

theorem stepG_res {m : M} {rd' lo : Int} (hc : ChildOk Q R child (o.push g m) rd') (index : Nat)
    (α bs : Int) (bm : Option M) {s : σ} (hQ : Q s) :
    Res (fun y s' => Q s' ∧ (y.2.2 = bm ∨ y.2.2 = some m)) R
      (stepG o child g rd' lo m index α bs bm s) := by
  unfold stepG
  split
  · refine (hc _ _ _ hQ).andThen fun s v hs => ⟨hs, ?_⟩
    show (if -v > bs then ((-v, some m) : Int × Option M) else (bs, bm)).2 = bm ∨ _ = some m
    split
    · exact Or.inr rfl
    · exact Or.inl rfl
  · refine (hc _ _ _ hQ).andThen fun s v hs => ?_
    split
    · exact (hc _ _ _ hs).andThen fun s2 v2 hs2 => ⟨hs2, Or.inr rfl⟩
    · exact ⟨hs, Or.inl rfl⟩

/-- the best move after going on from `b`, which is `bm` or `m` -/
theorem bestMove_mem {m : M} {ms : List M} {bm b b' : Option M} (hb : b = bm ∨ b = some m)
    (h : ∀ x, b' = some x → b = some x ∨ x ∈ ms) (x : M) (hx : b' = some x) :
    bm = some x ∨ x ∈ m :: ms := by
  rcases h x hx with h1 | h1
  · rcases hb with h2 | h2
    · exact Or.inl (h2 ▸ h1)
    · rw [h2] at h1; cases h1; exact Or.inr List.mem_cons_self
  · exact Or.inr (List.mem_cons_of_mem _ h1)

theorem nodeLoopG_res {cut : M → σ → σ} {ms : List M} (hcut : ∀ m ∈ ms, ∀ s, Q s → Q (cut m s))
    (hc : ∀ m ∈ ms, ChildOk Q R child (o.push g m) (rd + 1)) (index : Nat) (α bs : Int)
    (bm : Option M) {s : σ} (hQ : Q s) :
    Res (fun y s' => Q s' ∧ ∀ x, y.2.2 = some x → bm = some x ∨ x ∈ ms) R
      (nodeLoopG o cut child g rd β ms index α bs bm s) := by
  induction ms generalizing index α bs bm s with
  | nil => exact ⟨hQ, fun x hx => Or.inl hx⟩
  | cons m ms ih =>
    refine (stepG_res (hc m List.mem_cons_self) index α bs bm hQ).andThen fun s y hy => ?_
    show Res _ _ (if _ then _ else _)
    split
    · exact ⟨hcut m List.mem_cons_self s hy.1, bestMove_mem hy.2 fun x hx => Or.inl hx⟩
    · exact (ih (fun m' hm' => hcut m' (List.mem_cons_of_mem _ hm'))
        (fun m' hm' => hc m' (List.mem_cons_of_mem _ hm')) _ _ _ _ hy.1).imp
        fun y' s' hy' => ⟨hy'.1, bestMove_mem hy.2 hy'.2⟩

theorem rootLoopG_res {ms : List M} (hc : ∀ m ∈ ms, ChildOk Q R child (o.push g m) 1) (index : Nat)
    (bs : Int) (bm : Option M) {s : σ} (hQ : Q s) :
    Res (fun y s' => Q s' ∧ ∀ x, y.2 = some x → bm = some x ∨ x ∈ ms) R
      (rootLoopG o child g ms index bs bm s) := by
  induction ms generalizing index bs bm s with
  | nil => exact ⟨hQ, fun x hx => Or.inl hx⟩
  | cons m ms ih =>
    refine (stepG_res (hc m List.mem_cons_self) index bs bs bm hQ).andThen fun s y hy => ?_
    exact (ih (fun m' hm' => hc m' (List.mem_cons_of_mem _ hm')) _ _ _ hy.1).imp
      fun y' s' hy' => ⟨hy'.1, bestMove_mem hy.2 hy'.2⟩

end

/-! ### a relation that `andThen` and the children respect is respected by the loops -/

section
variable {o : Ops G M} {g : G} {rd β : Int} {f : σ → τ}
  {ρ : {α : Type} → σ × Option α → τ × Option α → Prop} (L : Lifts f ρ)
  {c : Child G σ} {c' : Child G τ}
include L

theorem stepG_rel {m : M} {rd' lo : Int}
    (hc : ∀ a b r s, ρ (c (o.push g m) a b r s) (c' (o.push g m) a b r (f s)))
    (index : Nat) (α bs : Int) (bm : Option M) (s : σ) :
    ρ (stepG o c g rd' lo m index α bs bm s) (stepG o c' g rd' lo m index α bs bm (f s)) := by
  unfold stepG
  split
  · exact L.andThen (hc _ _ _ _) fun _ _ => L.pure _ _
  · refine L.andThen (hc _ _ _ _) fun s v => ?_
    split
    · exact L.andThen (hc _ _ _ _) fun _ _ => L.pure _ _
    · exact L.pure _ _

theorem nodeLoopG_rel {cut : M → σ → σ} {cut' : M → τ → τ} {ms : List M}
    (hcut : ∀ m s, f (cut m s) = cut' m (f s))
    (hc : ∀ m a b r s, ρ (c (o.push g m) a b r s) (c' (o.push g m) a b r (f s)))
    (index : Nat) (α bs : Int) (bm : Option M) (s : σ) :
    ρ (nodeLoopG o cut c g rd β ms index α bs bm s)
      (nodeLoopG o cut' c' g rd β ms index α bs bm (f s)) := by
  induction ms generalizing index α bs bm s with
  | nil => exact L.pure _ _
  | cons m ms ih =>
    refine L.andThen (stepG_rel L (hc m) index α bs bm s) fun s y => ?_
    show ρ (if _ then _ else _) (if _ then _ else _)
    split
    · rw [← hcut]; exact L.pure _ _
    · exact ih _ _ _ _ _

theorem rootLoopG_rel {ms : List M}
    (hc : ∀ m a b r s, ρ (c (o.push g m) a b r s) (c' (o.push g m) a b r (f s)))
    (index : Nat) (bs : Int) (bm : Option M) (s : σ) :
    ρ (rootLoopG o c g ms index bs bm s) (rootLoopG o c' g ms index bs bm (f s)) := by
  induction ms generalizing index bs bm s with
  | nil => exact L.pure _ _
  | cons m ms ih =>
    exact L.andThen (stepG_rel L (hc m) index bs bs bm s) fun s y => ih _ _ _ _

end

namespace F

/-! ## the loops of the faithful search are the loops above -/

/-- what a beta cut-off does to the tables in `nodeLoopF` -/
def cutUpdF (o : Ops G M) (remaining : Nat) (rd : Int) (m : M) (st : St M) : St M :=
  let st := { st with killers := st.killers.setIfInBounds rd.toNat (some m) }
  match o.histIdx m with
  | some i => { st with history := st.history.setIfInBounds i (historyBonus remaining (st.history.getD i 0)) }
  | none => st

theorem cutUpdF_frame (o : Ops G M) (remaining : Nat) (rd : Int) (m : M) (st : St M) :
    (cutUpdF o remaining rd m st).tt = st.tt ∧ (cutUpdF o remaining rd m st).polls = st.polls := by
  unfold cutUpdF
  split <;> exact ⟨rfl, rfl⟩

/- In the next two proofs the sides of the last step differ only in the auxiliary functions the
`match`es were compiled to; `rfl` sees through them only with smart unfolding off. -/

theorem nodeLoopF_eq (o : Ops G M) (child : Child G (St M)) (g : G) (remaining : Nat)
    (rd beta : Int) :
    nodeLoopF o child g remaining rd beta = nodeLoopG o (cutUpdF o remaining rd) child g rd beta := by
  funext ms
  induction ms with
  | nil => rfl
  | cons m ms ih =>
    funext index alpha bs bm s
    show _ = andThen _ _
    rw [← ih]
    set_option smartUnfolding false in rfl

theorem rootLoopF_eq (o : Ops G M) (child : Child G (St M)) (g : G) :
    rootLoopF o child g = rootLoopG o child g := by
  funext ms
  induction ms with
  | nil => rfl
  | cons m ms ih =>
    funext index bs bm s
    unfold rootLoopF rootLoopG stepG
    rw [ih]
    dsimp only
    split
    · obtain ⟨s1, _ | v⟩ := child (o.push g m) (scoreMin + 1) (-bs) 1 s
      · rfl
      · by_cases h : -v > bs <;> simp only [andThen, h, ↓reduceIte]
    · obtain ⟨s1, _ | v⟩ := child (o.push g m) (-bs - 1) (-bs) 1 s
      · rfl
      · by_cases h : -v > bs <;> simp only [andThen, h, ↓reduceIte]
        obtain ⟨s2, _ | v2⟩ := child (o.push g m) (scoreMin + 1) (- -v) 1 s1 <;> rfl

/-! ## the dropping loops are the faithful loops with the state of an abort forgotten -/

def toOpt {α : Type} : St M × Option α → Option (α × St M)
  | (s, some v) => some (v, s)
  | (_, none) => none

def stepOpt : LoopRes M → Option (Int × Int × Option M × St M)
  | (s, some (a, bs, bm)) => some (a, bs, bm, s)
  | (_, none) => none

def loopOpt : LoopRes M → Option (LoopOut M)
  | (s, some (a, bs, bm)) => some ⟨a, bs, bm, s⟩
  | (_, none) => none

def rootOpt : St M × Option (Int × Option M) → Option (Int × Option M × St M)
  | (s, some (bs, bm)) => some (bs, bm, s)
  | (_, none) => none

theorem toOpt_eq_some {α : Type} (r : St M × Option α) (v : α) (s : St M) :
    toOpt r = some (v, s) ↔ r = (s, some v) := by
  obtain ⟨s', _ | v'⟩ := r
  · exact ⟨nofun, nofun⟩
  · exact ⟨fun h => by cases h; rfl, fun h => by cases h; rfl⟩

theorem toOpt_eq_none {α : Type} (r : St M × Option α) : toOpt r = none ↔ r.2 = none := by
  obtain ⟨s', _ | v'⟩ := r
  · exact ⟨fun _ => rfl, fun _ => rfl⟩
  · exact ⟨nofun, nofun⟩

theorem loopOpt_eq_some (r : LoopRes M) (a bs : Int) (bm : Option M) (s : St M) :
    loopOpt r = some ⟨a, bs, bm, s⟩ ↔ r = (s, some (a, bs, bm)) := by
  obtain ⟨s', _ | ⟨a', bs', bm'⟩⟩ := r
  · exact ⟨nofun, nofun⟩
  · exact ⟨fun h => by cases h; rfl, fun h => by cases h; rfl⟩

theorem rootOpt_eq_some (r : St M × Option (Int × Option M)) (bs : Int) (bm : Option M) (s : St M) :
    rootOpt r = some (bs, bm, s) ↔ r = (s, some (bs, bm)) := by
  obtain ⟨s', _ | ⟨bs', bm'⟩⟩ := r
  · exact ⟨nofun, nofun⟩
  · exact ⟨fun h => by cases h; rfl, fun h => by cases h; rfl⟩

def Sim (childF : Child G (St M)) (child : G → Int → Int → Int → St M → Option (Int × St M)) :
    Prop :=
  ∀ g' a b r st, child g' a b r st = toOpt (childF g' a b r st)

section
variable (o : Ops G M) (childF : Child G (St M))
  (child : G → Int → Int → Int → St M → Option (Int × St M)) (g : G)

theorem nodeStep_sim (rd β : Int) (m : M) (index : Nat) (α bs : Int) (bm : Option M) (st : St M)
    (hc : Sim childF child) :
    nodeStep o child g rd β m index α bs bm st =
      stepOpt (stepG o childF g (rd + 1) (-β) m index α bs bm st) := by
  unfold nodeStep stepG
  simp only [hc _ _ _ _ _]
  split
  · obtain ⟨s, _ | v⟩ := childF (o.push g m) (-β) (-α) (rd + 1) st <;> rfl
  · obtain ⟨s, _ | v⟩ := childF (o.push g m) (-α - 1) (-α) (rd + 1) st
    · rfl
    · simp only [toOpt, andThen]
      split
      · obtain ⟨s2, _ | v2⟩ := childF (o.push g m) (-β) (- -v) (rd + 1) s <;> rfl
      · rfl

theorem nodeLoop_sim (remaining : Nat) (rd β : Int) (ms : List M)
    (hc : Sim childF child)
    (index : Nat) (α bs : Int) (bm : Option M) (st : St M) :
    nodeLoop o child g remaining rd β ms index α bs bm st =
      loopOpt (nodeLoopG o (cutUpdF o remaining rd) childF g rd β ms index α bs bm st) := by
  induction ms generalizing index α bs bm st with
  | nil => rfl
  | cons m ms ih =>
    rw [nodeLoop_cons, nodeStep_sim o childF child g rd β m index α bs bm st hc]
    show _ = loopOpt (andThen _ _)
    obtain ⟨s, _ | ⟨a', bs', bm'⟩⟩ := stepG o childF g (rd + 1) (-β) m index α bs bm st
    · rfl
    · simp only [stepOpt, andThen]
      split
      · rfl
      · exact ih _ _ _ _ _

theorem rootLoop_sim (ms : List M) (hc : Sim childF child)
    (index : Nat) (bs : Int) (bm : Option M) (st : St M) :
    rootLoop o child g ms index bs bm st = rootOpt (rootLoopG o childF g ms index bs bm st) := by
  induction ms generalizing index bs bm st with
  | nil => rfl
  | cons m ms ih =>
    unfold rootLoop rootLoopG stepG
    simp only [hc _ _ _ _ _]
    split
    · obtain ⟨s, _ | v⟩ := childF (o.push g m) (scoreMin + 1) (-bs) 1 st
      · rfl
      · simp only [toOpt, andThen]
        split <;> exact ih _ _ _ _
    · obtain ⟨s, _ | v⟩ := childF (o.push g m) (-bs - 1) (-bs) 1 st
      · rfl
      · simp only [toOpt, andThen]
        split
        · obtain ⟨s2, _ | v2⟩ := childF (o.push g m) (scoreMin + 1) (- -v) 1 s
          · rfl
          · exact ih _ _ _ _
        · exact ih _ _ _ _

end

end F

open F

/-! ## the case analysis of a node -/

/-- what a node does after a successful entry poll, in the polled state `st`: it answers without
searching the moves (`leaf`), or runs the move loop (`loop r` for `remaining = r + 2`) -/
def nodeCases {ρ : Type} (o : Ops G M) (remaining : Nat) (g : G) (α β rd : Int) (st : St M)
    (leaf : Int → ρ) (loop : Nat → ρ) : ρ :=
  match ttCut (ttGet st (o.hash g)) remaining α β with
  | some v => leaf v
  | none =>
    match remaining with
    | 0 => leaf (qsearch o qFuel g α β rd)
    | 1 => leaf (depth1 o g α β rd)
    | r + 2 =>
      if (o.checked g).isEmpty then leaf (if o.safe g then 0 else scoreMin + Gen.mateNode + rd)
      else loop r

section
variable {ρ ρ' : Type} {o : Ops G M} {n : Nat} {g : G} {α β rd : Int} {st : St M}
  {leaf : Int → ρ} {loop : Nat → ρ}

theorem nodeCases_rel {R : ρ → ρ' → Prop} {leaf' : Int → ρ'} {loop' : Nat → ρ'}
    (hleaf : ∀ v, R (leaf v) (leaf' v)) (hloop : ∀ r, n = r + 2 → R (loop r) (loop' r)) :
    R (nodeCases o n g α β rd st leaf loop) (nodeCases o n g α β rd st leaf' loop') := by
  unfold nodeCases
  cases ttCut (ttGet st (o.hash g)) n α β with
  | some v => exact hleaf v
  | none =>
    match n with
    | 0 => exact hleaf _
    | 1 => exact hleaf _
    | r + 2 =>
      simp only []
      split
      · exact hleaf _
      · exact hloop r rfl

theorem nodeCases_ind {P : ρ → Prop} (hleaf : ∀ v, P (leaf v))
    (hloop : ∀ r, n = r + 2 → P (loop r)) : P (nodeCases o n g α β rd st leaf loop) :=
  nodeCases_rel (R := fun a (_ : ρ) => P a) (leaf' := leaf) (loop' := loop) hleaf hloop

end

namespace F

/-- the state returned when the entry poll of a node fails: the table is emptied if the hook is on,
the poll is not counted -/
def abortSt (st : St M) : St M := { st with tt := if st.ttOff then {} else st.tt }

variable [DecidableEq M]

/-! ## the faithful search, unfolded -/

section
variable (o : Ops G M) (runs : Nat → Bool)

theorem nodeF_eq (remaining : Nat) (g : G) (α β rd : Int) (st : St M) :
    nodeF o runs remaining g α β rd st =
      if !runs st.polls then (abortSt st, none) else
      nodeCases o remaining g α β rd (pollSt st) (fun v => (pollSt st, some v)) fun r =>
        andThen (nodeLoopG o (cutUpdF o (r + 2) rd) (nodeF o runs (r + 1)) g rd β
            (nodeMoves o g rd (pollSt st)) 0 α scoreMin none (pollSt st)) fun s y =>
          (nodeStore (o.hash g) (r + 2) ⟨y.2.1, y.2.2, r + 2, storeFlag y.2.1 α β⟩ s, some y.1) := by
  simp only [← nodeLoopF_eq]
  unfold nodeF nodeCases
  set_option smartUnfolding false in rfl

theorem node_eq_cases (remaining : Nat) (g : G) (α β rd : Int) (st : St M) :
    node o runs remaining g α β rd st =
      if !runs st.polls then none else
      nodeCases o remaining g α β rd (pollSt st) (fun v => some (v, pollSt st)) fun r =>
        match nodeLoop o (node o runs (r + 1)) g (r + 2) rd β (nodeMoves o g rd (pollSt st)) 0 α
            scoreMin none (pollSt st) with
        | none => none
        | some out =>
          some (out.alpha, nodeStore (o.hash g) (r + 2)
            ⟨out.bestScore, out.bestMove, r + 2, storeFlag out.bestScore α β⟩ out.st) := by
  rw [node_eq]
  unfold nodeCases
  set_option smartUnfolding false in rfl

theorem rootSearchF_eq (g : G) (depth : Nat) (st : St M) :
    rootSearchF o runs g depth st =
      if (o.checked g).length = 1 then (st, some ((o.checked g).head?, 0, true)) else
      match rootHit (ttGet (rootSt st) (o.hash g)) depth with
      | some e => (rootSt st, some (e.pv, e.score, false))
      | none =>
        andThen (rootLoopG o (nodeF o runs (depth - 1)) g (rootSorted o g (rootSt st)) 0
            (scoreMin + 1) none (rootSt st)) fun s y =>
          (rootStore (o.hash g) depth ⟨y.1, y.2, depth, .exact⟩ s, some (y.2, y.1, false)) := by
  rw [← rootLoopF_eq]
  unfold rootSearchF
  set_option smartUnfolding false in rfl

/-! ## the dropping search is the faithful search with the state of an abort forgotten -/

theorem node_sim (remaining : Nat) (g : G) (α β rd : Int) (st : St M) :
    node o runs remaining g α β rd st = toOpt (nodeF o runs remaining g α β rd st) := by
  induction remaining using Nat.strongRecOn generalizing g α β rd st with
  | _ n ih =>
    rw [node_eq_cases, nodeF_eq]
    cases runs st.polls with
    | false => rfl
    | true =>
      refine nodeCases_rel (R := fun a b => a = toOpt b) (fun v => rfl) fun r hn => ?_
      rw [nodeLoop_sim o (nodeF o runs (r + 1)) (node o runs (r + 1)) g (r + 2) rd β _
        (ih (r + 1) (by omega))]
      obtain ⟨s, _ | y⟩ := nodeLoopG o (cutUpdF o (r + 2) rd) (nodeF o runs (r + 1)) g rd β
        (nodeMoves o g rd (pollSt st)) 0 α scoreMin none (pollSt st) <;> rfl

theorem rootSearch_sim (g : G) (depth : Nat) (st : St M) :
    rootSearch o runs g depth st = toOpt (rootSearchF o runs g depth st) := by
  rw [rootSearch_eq, rootSearchF_eq]
  by_cases hl : (o.checked g).length = 1
  · simp only [hl, if_true]; rfl
  · simp only [hl, if_false]
    cases rootHit (ttGet (rootSt st) (o.hash g)) depth with
    | some e => rfl
    | none =>
      simp only []
      rw [rootLoop_sim o (nodeF o runs (depth - 1)) (node o runs (depth - 1)) g _
        (node_sim o runs _)]
      obtain ⟨s, _ | y⟩ := rootLoopG o (nodeF o runs (depth - 1)) g
        (rootSorted o g (rootSt st)) 0 (scoreMin + 1) none (rootSt st) <;> rfl

/-! ## the stop oracle matters only through the polls that see the flag cleared -/

theorem nodeF_le (runs' : Nat → Bool) (hle : ∀ i, runs i = true → runs' i = true)
    (remaining : Nat) (g : G) (α β rd : Int) (st : St M) :
    ResLe (nodeF o runs remaining g α β rd st) (nodeF o runs' remaining g α β rd st) := by
  induction remaining using Nat.strongRecOn generalizing g α β rd st with
  | _ n ih =>
    rw [nodeF_eq, nodeF_eq]
    cases hr : runs st.polls with
    | false => exact fun _ _ h => nomatch h
    | true =>
      rw [hle _ hr]
      exact nodeCases_rel (fun v => ResLe.refl _) fun r hn =>
        lifts_resLe.andThen (nodeLoopG_rel lifts_resLe (cut := cutUpdF o (r + 2) rd)
          (fun _ _ => rfl) (fun m a b r' s => ih (r + 1) (by omega) _ _ _ _ _) _ _ _ _ _)
          fun _ _ => ResLe.refl _

theorem rootSearchF_le (runs' : Nat → Bool) (hle : ∀ i, runs i = true → runs' i = true) (g : G)
    (depth : Nat) (st : St M) :
    ResLe (rootSearchF o runs g depth st) (rootSearchF o runs' g depth st) := by
  rw [rootSearchF_eq, rootSearchF_eq]
  split
  · exact ResLe.refl _
  · split
    · exact ResLe.refl _
    · exact lifts_resLe.andThen (rootLoopG_rel lifts_resLe
        (fun m a b r' s => nodeF_le o runs runs' hle _ _ _ _ _ _) _ _ _ _)
        fun _ _ => ResLe.refl _

end

/-! ## invariants through both outcomes -/

/-- the state of an abort: what a failing entry poll returns from a state satisfying `Q` -/
def Aborted (runs : Nat → Bool) (Q : St M → Prop) (s : St M) : Prop :=
  ∃ st, Q st ∧ runs st.polls = false ∧ s = abortSt st

section
variable {o : Ops G M} {runs : Nat → Bool} {A : G → Prop} {D : Nat → Prop} {Q : St M → Prop}

theorem nodeF_res (I : NodeInv o runs A D Q) (remaining : Nat) (g : G) (α β rd : Int)
    (st : St M) (hA : A g) (hQ : Q st) :
    Res (fun _ => Q) (Aborted runs Q) (nodeF o runs remaining g α β rd st) := by
  induction remaining using Nat.strongRecOn generalizing g α β rd st with
  | _ n ih =>
    rw [nodeF_eq]
    cases hr : runs st.polls with
    | false => exact ⟨st, hQ, hr, rfl⟩
    | true =>
      have hQ1 : Q (pollSt st) := I.poll st hQ hr
      have hmem : ∀ m ∈ nodeMoves o g rd (pollSt st), m ∈ o.checked g :=
        fun m hm => (mem_sortMoves _ _ _).1 hm
      exact nodeCases_ind (fun v => hQ1) fun r hn => (nodeLoopG_res
        (fun m _ s hs => I.frame _ _ hs (cutUpdF_frame ..).1 (cutUpdF_frame ..).2)
        (fun m hm a b s hs => ih (r + 1) (by omega) _ _ _ _ _ (I.closed g m hA (hmem m hm)) hs)
        0 α scoreMin none hQ1).andThen fun s y hy => nodeStore_inv I g _ _ _ hA hy.1
          (fun m hm => (hy.2 m hm).elim (fun h => nomatch h) (hmem m)) (I.deep r)

theorem rootSearchF_res (I : NodeInv o runs A D Q) (g : G) (depth : Nat) (st : St M)
    (hA : A g) (hQ : Q st) (hD : D depth) :
    Res (fun r s => Q s ∧ (r.2.2 = true ↔ (o.checked g).length = 1) ∧
        ((∀ m, r.1 = some m → m ∈ o.checked g) ∨
          ∃ e, st.tt[o.hash g]? = some e ∧ depth ≤ e.depth ∧ e.flag = Flag.exact ∧ r.1 = e.pv))
      (Aborted runs Q) (rootSearchF o runs g depth st) := by
  have hQ0 : Q (rootSt st) := I.frame _ _ hQ rfl rfl
  rw [rootSearchF_eq]
  split
  · next hl => exact ⟨hQ, by simp [hl], Or.inl fun m hm => List.mem_of_mem_head? hm⟩
  · next hl =>
    split
    · next e he =>
      obtain ⟨k1, k2, k3⟩ := rootHit_eq_some_iff.1 he
      exact ⟨hQ0, by simp [hl], Or.inr ⟨e, k1, k2, k3, rfl⟩⟩
    · refine (rootLoopG_res (fun m hm a b s hs => nodeF_res I _ _ _ _ _ _
        (I.closed g m hA (mem_rootSorted hm)) hs) 0 (scoreMin + 1) none hQ0).andThen
        fun s y hy => ?_
      have hmem : ∀ m, y.2 = some m → m ∈ o.checked g :=
        fun m hm => (hy.2 m hm).elim (fun h => nomatch h) mem_rootSorted
      exact ⟨rootStore_inv I g _ _ _ hA hy.1 hmem hD, by simp [hl], Or.inl hmem⟩

end

end F

/-! ## the invariants of the dropping search -/

variable [DecidableEq M]

section
variable {o : Ops G M} {runs : Nat → Bool} {A : G → Prop} {D : Nat → Prop} {Q : St M → Prop}

theorem node_inv (I : NodeInv o runs A D Q) (remaining : Nat) (g : G) (α β rd : Int) (st : St M)
    (hA : A g) (hQ : Q st) {v : Int} {st' : St M}
    (h : node o runs remaining g α β rd st = some (v, st')) : Q st' :=
  (nodeF_res I remaining g α β rd st hA hQ).of_some
    ((toOpt_eq_some _ _ _).1 ((node_sim o runs remaining g α β rd st).symm.trans h))

theorem node_none_inv (I : NodeInv o runs A D Q) (remaining : Nat) (g : G) (α β rd : Int)
    (st : St M) (hA : A g) (hQ : Q st)
    (h : node o runs remaining g α β rd st = none) : ∃ st1, Q st1 ∧ runs st1.polls = false :=
  have ⟨st1, h1, h2, _⟩ := (nodeF_res I remaining g α β rd st hA hQ).of_none
    ((toOpt_eq_none _).1 ((node_sim o runs remaining g α β rd st).symm.trans h))
  ⟨st1, h1, h2⟩

theorem root_inv (I : NodeInv o runs A D Q) (g : G) (depth : Nat) (st : St M)
    (hA : A g) (hQ : Q st) (hD : D depth) {bm : Option M} {sc : Int} {only : Bool} {st' : St M}
    (h : rootSearch o runs g depth st = some ((bm, sc, only), st')) :
    Q st' ∧ (only = true ↔ (o.checked g).length = 1) ∧
      ((∀ m, bm = some m → m ∈ o.checked g) ∨
        ∃ e, st.tt[o.hash g]? = some e ∧ depth ≤ e.depth ∧ e.flag = Flag.exact ∧ bm = e.pv) :=
  (rootSearchF_res I g depth st hA hQ hD).of_some
    ((toOpt_eq_some _ _ _).1 ((rootSearch_sim o runs g depth st).symm.trans h))

theorem root_none_inv (I : NodeInv o runs A D Q) (g : G) (depth : Nat) (st : St M)
    (hA : A g) (hQ : Q st) (hD : D depth) (h : rootSearch o runs g depth st = none) :
    ∃ st1, Q st1 ∧ runs st1.polls = false :=
  have ⟨st1, h1, h2, _⟩ := (rootSearchF_res I g depth st hA hQ hD).of_none
    ((toOpt_eq_none _).1 ((rootSearch_sim o runs g depth st).symm.trans h))
  ⟨st1, h1, h2⟩

end

theorem rootSearch_mono (o : Ops G M) (runs runs' : Nat → Bool)
    (hle : ∀ i, runs i = true → runs' i = true) (g : G) (depth : Nat) (st : St M)
    {x : (Option M × Int × Bool) × St M} (h : rootSearch o runs g depth st = some x) :
    rootSearch o runs' g depth st = some x := by
  rw [rootSearch_sim, toOpt_eq_some] at h ⊢
  exact rootSearchF_le o runs runs' hle g depth st _ _ h

end Chess.Search
