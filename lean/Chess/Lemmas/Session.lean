import Chess.Model.Session

/-!
# The session layer (`uci.rs`) under all command sequences and all schedules

The theorems are about `Reachable cfg s`: every state that any stdin command list and any interleaving
of the main loop, the search threads and the timer threads can produce, with no bound on the length of
the run.  The proofs are invariant inductions over the atomic actions (`Trans`, `Reachable.invariant`).

Configurations (`Chess/Model/Session.lean`): `original` = the order of actions before the repair of
D7; `fixed` = `uci.rs` after that repair and before commit 6c45de4; `repaired` = `fixed` + the
join-before-lock (`reap`) of that commit = `uci.rs` as it is.  The theorems that need `buggy = false`
fail for `original` (`original_*`), and `fixed` can panic (`fixed_panic_*`); the concrete schedules are
at the end.
-/
namespace Chess.Session
variable {cfg : Cfg} {s t : State}

/-- what a stdin line leaves the main loop to do once it has read the flag as `false` -/
def Cmd.pending : Cmd → Option Pending
  | .ucinewgame => some .ng
  | .position ok keep => some (.pos ok keep)
  | .show => some .show
  | .go g => some (.go g)
  | _ => none

/-- `thread.join()` returns: there is no handle, or its thread has ended -/
abbrev State.joined (s : State) : Prop := ∀ j, s.handle = some j → s.th j = .done

section
variable (cfg : Cfg) (s : State)

/-- The atomic actions of `next`, with the guard and the successor state written out.  Only
`next_trans` (a step of `next` is one of these) is proved; an invariant induction needs no more.
A guard on the program counter always has the form `s.pc = _` (see `step_cases`). -/
inductive Trans : Label → State → Prop
  | exit {i} : s.pc = .idle → (s.input = [] ∧ i = [] ∨ s.input = .quit :: i) →
      Trans .main { s with input := i, pc := .exited }
  | answer {c i o} : s.pc = .idle → s.input = c :: i →
      (c = .uci ∧ o = .uciok ∨ c = .isready ∧ o = .readyok ∨
        (∃ p, c.pending = some p ∧ p ≠ .ng) ∧ s.flag s.cur = true ∧ o = .refused) →
      Trans .main { s with input := i, out := s.out ++ [o] }
  | skip {c i} : s.pc = .idle → s.input = c :: i → (c = .other ∨ c = .wait ∧ s.handle = none) →
      Trans .main { s with input := i }
  | ngErr {i} : s.pc = .idle → s.input = .ucinewgame :: i → s.flag s.cur = true → s.handle = none →
      Trans .main { s with input := i, pc := .exitedErr }
  | ngBusy {i j} : s.pc = .idle → s.input = .ucinewgame :: i → s.flag s.cur = true → s.handle = some j →
      Trans .main { s with input := i, pc := .ngStore }
  | reap {c i p} : s.pc = .idle → s.input = c :: i → c.pending = some p → s.flag s.cur = false → cfg.reap = true →
      s.handle ≠ none → Trans .main { s with input := i, pc := .reapJoin p }
  | ngStart {i} : s.pc = .idle → s.input = .ucinewgame :: i → s.flag s.cur = false →
      (cfg.reap = true → s.handle = none) → Trans .main { s with input := i, pc := .ngLock }
  | posStart {i ok keep} : s.pc = .idle → s.input = .position ok keep :: i → s.flag s.cur = false →
      (cfg.reap = true → s.handle = none) → Trans .main { s with input := i, pc := .posLock ok keep }
  | showStart {i} : s.pc = .idle → s.input = .show :: i → s.flag s.cur = false →
      (cfg.reap = true → s.handle = none) → Trans .main { s with input := i, pc := .showLock }
  | goStart {i g} : s.pc = .idle → s.input = .go g :: i → s.flag s.cur = false →
      (cfg.reap = true → s.handle = none) →
      Trans .main { s with input := i, pc := .goLock g, cur := s.cur + 1,
                                 flag := upd s.flag (s.cur + 1) false }
  | stop {i} : s.pc = .idle → s.input = .stop :: i →
      Trans .main { s with input := i, flag := upd s.flag s.cur false, pc := .stopJoin }
  | wait {i j} : s.pc = .idle → s.input = .wait :: i → s.handle = some j →
      Trans .main { s with input := i, pc := .waitJoin }
  | reapPos {ok keep} : s.pc = .reapJoin (.pos ok keep) →
      s.joined → Trans .main { s with handle := none, pc := .posLock ok keep }
  | reapShow : s.pc = .reapJoin .show → s.joined → Trans .main { s with handle := none, pc := .showLock }
  | reapGo {g} : s.pc = .reapJoin (.go g) → s.joined →
      Trans .main { s with handle := none, pc := .goLock g, cur := s.cur + 1,
                           flag := upd s.flag (s.cur + 1) false }
  | reapNg : s.pc = .reapJoin .ng → s.joined → Trans .main { s with handle := none, pc := .ngLock }
  | ngJoin : s.pc = .ngJoin → s.joined → Trans .main { s with handle := none, pc := .ngLock }
  | stopJoin : s.pc = .stopJoin → s.joined → Trans .main { s with handle := none, pc := .idle }
  | waitJoin : s.pc = .waitJoin → s.joined → Trans .main { s with handle := none, pc := .waitStore }
  -- `lock()`
  | panic {pc} : s.pc = pc →
      ((∃ p, pc = .reapJoin p) ∨ pc = .ngJoin ∨ pc = .stopJoin ∨ pc = .waitJoin) ∧
        (∃ j, s.handle = some j ∧ s.th j = .panicked) ∨
      (pc = .ngLock ∨ (∃ ok keep, pc = .posLock ok keep) ∨ pc = .showLock ∨ ∃ g, pc = .goLock g) ∧
        s.poisoned = true → Trans .main { s with pc := .panicked }
  | ngLock : s.pc = .ngLock → s.poisoned = false → s.mutex = none →
      Trans .main { s with mutex := some .main, pc := .ngHold }
  | posLock {ok keep} : s.pc = .posLock ok keep → s.poisoned = false → s.mutex = none →
      Trans .main { s with mutex := some .main, pc := .posHold ok keep }
  | showLock : s.pc = .showLock → s.poisoned = false → s.mutex = none →
      Trans .main { s with mutex := some .main, pc := .showHold }
  | goLock {g} : s.pc = .goLock g → s.poisoned = false → s.mutex = none →
      Trans .main { s with mutex := some .main, pc := .goHold g }
  -- the rest of the main loop
  | ngStore : s.pc = .ngStore → Trans .main { s with flag := upd s.flag s.cur false, pc := .ngJoin }
  | ngHold : s.pc = .ngHold → Trans .main { s with game := false, mutex := none, pc := .idle }
  | posHold {keep} : s.pc = .posHold true keep →
      Trans .main { s with game := true, mutex := none, pc := .idle }
  | posHoldErr {keep} : s.pc = .posHold false keep →
      Trans .main { s with game := keep && s.game, mutex := none, pc := .idle, out := s.out ++ [.error] }
  | showHold : s.pc = .showHold →
      Trans .main { s with mutex := none, pc := .idle, out := s.out ++ [if s.game then .shown else .error] }
  | goHoldInfo {g} : s.pc = .goHold g → s.game = true → (cfg.buggy && g.timed) = true →
      Trans .main { s with pc := .goInfo g }
  | goHold {g} : s.pc = .goHold g → s.game = true → (cfg.buggy && g.timed) = false →
      Trans .main { s with pc := .goRaise g }
  | goHoldErr {g} : s.pc = .goHold g → s.game = false → Trans .main { s with mutex := none, pc := .goErr }
  | goErr : s.pc = .goErr → Trans .main { s with pc := .idle, out := s.out ++ [.error] }
  | goRaiseInfo {g} : s.pc = .goRaise g → (!cfg.buggy && g.timed) = true →
      Trans .main { s with flag := upd s.flag s.cur true, pc := .goInfo g }
  | goRaise {g} : s.pc = .goRaise g → (!cfg.buggy && g.timed) = false →
      Trans .main { s with flag := upd s.flag s.cur true, pc := .goSpawnSearch g }
  | goInfo {g} : s.pc = .goInfo g → Trans .main { s with pc := .goSpawnTimer g, out := s.out ++ [.infoTime] }
  | goSpawnTimerEarly {g} : s.pc = .goSpawnTimer g → cfg.buggy = true →
      Trans .main { s with timer := upd s.timer s.cur .sleeping, pc := .goRaise g }
  | goSpawnTimer {g} : s.pc = .goSpawnTimer g → cfg.buggy = false →
      Trans .main { s with timer := upd s.timer s.cur .sleeping, pc := .goSpawnSearch g }
  | goSpawnSearch {g} : s.pc = .goSpawnSearch g →
      Trans .main { s with th := upd s.th s.cur .notStarted, fin := upd s.fin s.cur g.finite,
                                 pc := .goUnlock }
  | goUnlock : s.pc = .goUnlock → Trans .main { s with mutex := none, pc := .goSetHandle }
  | goSetHandle : s.pc = .goSetHandle → Trans .main { s with handle := some s.cur, pc := .idle }
  | waitStore : s.pc = .waitStore →
      Trans .main { s with flag := upd s.flag s.cur false, pc := .idle }
  -- the search thread of slot `k`
  | lockPoisoned {k} : s.running → s.th k = .notStarted → s.poisoned = true →
      Trans (.search k) { s with th := upd s.th k .panicked }
  | start {k} : s.running → s.th k = .notStarted → s.poisoned = false → s.mutex = none → s.game = true →
      Trans (.search k) { s with mutex := some (.search k), th := upd s.th k .searching }
  | noGame {k} : s.running → s.th k = .notStarted → s.poisoned = false → s.mutex = none → s.game = false →
      Trans (.search k) { s with poisoned := true, th := upd s.th k .panicked }
  | stopped {k} : s.running → s.th k = .searching → s.flag k = false →
      Trans (.search k) { s with th := upd s.th k .returned }
  | printEarly {k} : s.running → s.th k = .returned → cfg.buggy = true →
      Trans (.search k) { s with th := upd s.th k .printedEarly, out := s.out ++ [.bestmove k] }
  | clear {k} : s.running → s.th k = .returned → cfg.buggy = false →
      Trans (.search k) { s with flag := upd s.flag k false, th := upd s.th k .cleared }
  | print {k} : s.running → s.th k = .cleared →
      Trans (.search k) { s with th := upd s.th k .printed, out := s.out ++ [.bestmove k] }
  | clearLate {k} : s.running → s.th k = .printedEarly →
      Trans (.search k) { s with flag := upd s.flag k false, th := upd s.th k .printed }
  | release {k} : s.running → s.th k = .printed →
      Trans (.search k) { s with game := false, mutex := none, th := upd s.th k .done }
  | finish {k} : s.running → s.th k = .searching → s.fin k = true →
      Trans (.finish k) { s with th := upd s.th k .returned }
  | fire {k} : s.running → s.timer k = .sleeping →
      Trans (.fire k) { s with flag := upd s.flag k false, timer := upd s.timer k .fired }

end

theorem next_trans {l : Label} (hn : next cfg s l = some t) : Trans cfg s l t := by
  -- one goal per branch of `next`, with `t` replaced by the successor state
  cases l <;> simp only [next, mainStep, searchStep, finishStep, fireStep] at hn <;>
    (repeat' split at hn) <;>
    (try simp only [idleStep, joinStep, lockStep, startOrReap, proceed, State.emit] at hn) <;>
    (repeat' split at hn) <;>
    (try simp only [Option.some.injEq, reduceCtorEq] at hn) <;>
    (try subst hn)
  -- the guards in the form in which `Trans` states them
  all_goals try simp only [Bool.not_eq_true, Bool.and_eq_true, Option.isSome_iff_ne_none, not_and, ne_eq,
    Decidable.not_not, Bool.not_eq_eq_eq_not, Bool.not_true] at *
  all_goals try subst_vars
  -- unification with the successor state finds the constructor
  all_goals first | (constructor <;> first | assumption | rfl | (simp [*, Cmd.pending, State.joined] <;> assumption)) | skip
  -- left: `join()` without a handle (the successor is written with `handle := none`), and `showHold`
  all_goals try rw [show s.handle = none from ‹_›]
  all_goals first
    | (constructor <;> first | assumption | (simp [*, State.joined] <;> assumption))
    | (apply Trans.ngJoin <;> first | assumption | (simp [*, State.joined] <;> assumption))
    | (have := Trans.showHold (cfg := cfg) ‹_›; simp_all)

/-- A step of a search or timer thread leaves the main loop's own variables alone, and every slot but
the thread's own `k`; what it does to that slot, the mutex, the game and the output is listed. -/
theorem Trans.thread {l : Label} (htr : Trans cfg s l t) : l = .main ∨ ∃ k,
    s.running ∧ t.pc = s.pc ∧ t.handle = s.handle ∧ t.cur = s.cur ∧ t.input = s.input ∧ t.fin = s.fin ∧
    (∀ j, j ≠ k → t.th j = s.th j ∧ t.flag j = s.flag j ∧ t.timer j = s.timer j) ∧
    (l = .fire k ∧ s.timer k = .sleeping ∧ t.timer k = .fired ∧ t.flag k = false ∧ t.th k = s.th k ∧
        t.mutex = s.mutex ∧ t.game = s.game ∧ t.poisoned = s.poisoned ∧ t.out = s.out ∨
      (l = .search k ∨ l = .finish k) ∧ t.timer k = s.timer k ∧
        (t.mutex = s.mutex ∧ t.game = s.game ∧ t.poisoned = s.poisoned ∧
            ((s.th k = .searching ∧ (s.flag k = false ∨ s.fin k = true) ∧ t.th k = .returned ∧
                  t.flag k = s.flag k ∧ t.out = s.out ∨
                s.th k = .returned ∧ cfg.buggy = true ∧ t.th k = .printedEarly ∧ t.flag k = s.flag k ∧
                  t.out = s.out ++ [.bestmove k] ∨
                s.th k = .returned ∧ cfg.buggy = false ∧ t.th k = .cleared ∧ t.flag k = false ∧
                  t.out = s.out) ∨
              s.th k = .cleared ∧ t.th k = .printed ∧ t.flag k = s.flag k ∧ t.out = s.out ++ [.bestmove k] ∨
              s.th k = .printedEarly ∧ t.th k = .printed ∧ t.flag k = false ∧ t.out = s.out) ∨
          t.flag k = s.flag k ∧ t.out = s.out ∧
            (s.th k = .notStarted ∧ t.game = s.game ∧
                (s.poisoned = true ∧ t.th k = .panicked ∧ t.mutex = s.mutex ∧ t.poisoned = true ∨
                  s.poisoned = false ∧ s.mutex = none ∧ s.game = true ∧ t.th k = .searching ∧
                    t.mutex = some (.search k) ∧ t.poisoned = false ∨
                  s.poisoned = false ∧ s.mutex = none ∧ s.game = false ∧ t.th k = .panicked ∧
                    t.mutex = none ∧ t.poisoned = true) ∨
              s.th k = .printed ∧ t.th k = .done ∧ t.game = false ∧ t.mutex = none ∧
                t.poisoned = s.poisoned))) := by
  cases htr <;> first | exact .inl rfl | (refine .inr ⟨‹Nat›, ?_⟩; simp +contextual [*, upd])

@[elab_as_elim]
theorem Reachable.invariant {P : State → Prop} (h : Reachable cfg s) (init : ∀ cmds, P (Session.init cmds))
    (step : ∀ {s l t}, Reachable cfg s → P s → Trans cfg s l t → P t) : P s := by
  induction h with
  | init cmds => exact init cmds
  | step l hr hn ih => exact step hr ih (next_trans hn)

/-- `step_cases htr [lemmas] at hyps`: one goal per atomic action of the main loop, in which the guard
`s.pc = _` of the action and `lemmas` (the classification of program counters) evaluate `hyps` and the
goal, and function updates are applied; an action that touches nothing the invariant speaks of leaves
one of `hyps` as the goal, and its case is closed.  The steps of the other threads are one goal, with
`Trans.thread` as a hypothesis. -/
macro "step_cases " h:ident " [" ls:Lean.Parser.Tactic.simpLemma,* "]" " at " hs:(ppSpace colGt ident)* : tactic =>
  `(tactic| (rcases Trans.thread $h:ident with hl | ⟨_, _⟩
             case' inr => clear $h
             case' inl => subst hl; cases $h:ident <;> simp only [‹State.pc _ = _›, $ls,*, upd_apply] at $hs* ⊢ <;>
               try assumption))

/-! ## Classification of program counters -/

/-- the search thread holds the mutex: it has taken it and has not ended -/
abbrev Th.holds (a : Th) : Prop :=
  a ≠ .none ∧ a ≠ .notStarted ∧ a ≠ .done ∧ a ≠ .panicked

/-- the search thread exists and has not ended -/
def Th.live : Th → Bool
  | .notStarted | .searching | .returned | .cleared | .printedEarly | .printed => true
  | _ => false

theorem Th.live_iff (a : Th) : a.live ↔ a ≠ .none ∧ a ≠ .done ∧ a ≠ .panicked := by
  cases a <;> simp [Th.live]

/-- `bestmove` has been printed by this thread -/
def Th.hasPrinted : Th → Bool
  | .printedEarly | .printed | .done => true
  | _ => false

/-- the thread has executed its `store(false)` -/
def Th.hasCleared : Th → Bool
  | .cleared | .printed | .done => true
  | _ => false

/-- the thread has not yet executed its `store(false)` (or never will: `panicked`) -/
def Th.beforeClear : Th → Bool
  | .notStarted | .searching | .returned | .printedEarly => true
  | _ => false

/-- the main loop holds the mutex -/
def MainPc.holds : MainPc → Bool
  | .ngHold | .posHold _ _ | .showHold | .goHold _ | .goRaise _ | .goInfo _ | .goSpawnTimer _
  | .goSpawnSearch _ | .goUnlock => true
  | _ => false

/-- inside `go`, before the search thread is spawned -/
def MainPc.goPre : MainPc → Bool
  | .goLock _ | .goHold _ | .goErr | .goRaise _ | .goInfo _ | .goSpawnTimer _ | .goSpawnSearch _ => true
  | _ => false

/-- inside `go`, before the timer thread is spawned -/
def MainPc.timerPre (cfg : Cfg) : MainPc → Bool
  | .goLock _ | .goHold _ | .goErr | .goInfo _ | .goSpawnTimer _ => true
  | .goRaise _ => !cfg.buggy
  | _ => false

/-- the flag has been raised, the search thread is about to be spawned -/
def MainPc.spawnPending (cfg : Cfg) : MainPc → Bool
  | .goInfo _ | .goSpawnTimer _ => !cfg.buggy
  | .goSpawnSearch _ => true
  | _ => false

/-- inside `go`, after the flag was raised and before `search_thread = Some(thread)` -/
def MainPc.goMid (cfg : Cfg) : MainPc → Bool
  | .goInfo _ | .goSpawnTimer _ => !cfg.buggy
  | .goSpawnSearch _ | .goUnlock | .goSetHandle => true
  | _ => false

/-- program points at which the current cell may read `true` -/
def MainPc.mayTrue (cfg : Cfg) : MainPc → Bool
  | .idle | .ngStore | .waitJoin | .waitStore | .goSpawnSearch _ | .goUnlock | .goSetHandle
  | .exited | .exitedErr | .panicked => true
  | .goInfo _ | .goSpawnTimer _ => !cfg.buggy
  | _ => false

/-! ## Basic invariants (all configurations) -/

theorem inv_fresh (h : Reachable cfg s) (k : Nat) :
    s.cur < k → s.th k = .none ∧ s.timer k = .none ∧ s.flag k = false := by
  refine h.invariant (by simp [init]) fun hr ih htr => ?_
  step_cases htr [reduceCtorEq] at ih <;> grind

theorem inv_goPre (h : Reachable cfg s) :
    (s.pc.goPre → s.th s.cur = .none) ∧ (s.pc.timerPre cfg → s.timer s.cur = .none) := by
  refine h.invariant (by simp [init, MainPc.goPre, MainPc.timerPre]) fun {s _ _} hr ih htr => ?_
  have hf := inv_fresh hr (s.cur + 1) (by omega)
  step_cases htr [MainPc.goPre, MainPc.timerPre] at ih <;> grind

theorem inv_spawned (h : Reachable cfg s) :
    (s.pc = .goUnlock ∨ s.pc = .goSetHandle → s.th s.cur ≠ .none) ∧
    (∀ k, s.handle = some k → s.th k ≠ .none) := by
  refine h.invariant (by simp [init]) fun hr ih htr => ?_
  step_cases htr [reduceCtorEq] at ih <;> grind

theorem inv_mutex (h : Reachable cfg s) :
    (∀ k, (s.th k).holds ↔ s.mutex = some (.search k)) ∧ (s.pc.holds ↔ s.mutex = some .main) := by
  refine h.invariant (by simp [init, Th.holds, MainPc.holds]) fun hr ih htr => ?_
  step_cases htr [MainPc.holds] at ih <;> grind

/-- nobody raises the cell again after the thread's `store(false)` -/
theorem inv_cleared (h : Reachable cfg s) (k : Nat) : (s.th k).hasCleared → s.flag k = false := by
  refine h.invariant (by simp [init]) fun hr ih htr => ?_
  have hp := (inv_goPre hr).1
  step_cases htr [MainPc.goPre] at ih hp <;> grind [Th.hasCleared]

/-- only the main loop ever stores `true`, into the current cell, and it leaves the program points
`mayTrue` only after reading `false` -/
theorem flag_true (h : Reachable cfg s) (k : Nat) : s.flag k = true → k = s.cur ∧ s.pc.mayTrue cfg := by
  refine h.invariant (by simp [init]) fun hr ih htr => ?_
  step_cases htr [MainPc.mayTrue] at ih <;> grind

theorem inv_mayTrue (h : Reachable cfg s) (hf : s.flag s.cur = true) : s.pc.mayTrue cfg :=
  (flag_true h _ hf).2

theorem inv_old_false (h : Reachable cfg s) (k : Nat) (hk : k < s.cur) : s.flag k = false := by
  have := flag_true h k
  grind

theorem flag_true_cur (h : Reachable cfg s) {k : Nat} (hk : s.flag k = true) : k = s.cur :=
  (flag_true h k hk).1

theorem inv_alive (h : Reachable cfg s) (k : Nat) :
    s.flag k = true → (s.pc.spawnPending cfg ∧ s.th k = .none) ∨ (s.th k).beforeClear ∨ s.th k = .panicked := by
  refine h.invariant (by simp [init]) fun hr ih htr => ?_
  have hm := flag_true hr k
  have hp := (inv_goPre hr).1
  step_cases htr [MainPc.mayTrue, MainPc.spawnPending, MainPc.goPre] at ih hm hp <;> grind [Th.beforeClear]

/-- a cell that reads `true` is the current one, and its search thread is about to be spawned, has not
yet executed its `store(false)`, or has panicked (`fixed_no_panic_fails`; excluded with `reap`:
`repaired_flag_true_implies_search_alive`) -/
theorem flag_true_implies_search_alive (h : Reachable cfg s) {k : Nat} (hk : s.flag k = true) :
    k = s.cur ∧
      ((s.pc.spawnPending cfg ∧ s.th k = .none) ∨ (s.th k).beforeClear ∨ s.th k = .panicked) :=
  ⟨flag_true_cur h hk, inv_alive h k hk⟩

theorem inv_handle (h : Reachable cfg s) :
    s.flag s.cur = true → s.pc.goMid cfg ∨ s.handle = some s.cur := by
  refine h.invariant (by simp [init]) fun hr ih htr => ?_
  have hm := inv_mayTrue hr
  have hc := inv_cleared hr
  step_cases htr [MainPc.mayTrue, MainPc.goMid] at ih hm <;> grind [Th.hasCleared]

/-- `ucinewgame` never takes the `?` exit ("There should a search thread running") -/
theorem never_exitedErr (h : Reachable cfg s) : s.pc ≠ .exitedErr := by
  refine h.invariant (by simp [init]) fun hr ih htr => ?_
  have hh := inv_handle hr
  step_cases htr [MainPc.goMid] at hh <;> grind

/-! ## `bestmove` at most once, and only for an accepted `go` -/

theorem inv_count (h : Reachable cfg s) (k : Nat) :
    s.out.count (.bestmove k) = if (s.th k).hasPrinted then 1 else 0 := by
  refine h.invariant (by simp [init, Th.hasPrinted]) fun hr ih htr => ?_
  have hp := (inv_goPre hr).1
  step_cases htr [MainPc.goPre] at ih hp <;>
    (try simp only [List.count_append, List.count_singleton, beq_iff_eq, reduceCtorEq]) <;>
    grind [Th.hasPrinted]

theorem bestmove_at_most_once (h : Reachable cfg s) (k : Nat) : s.out.count (.bestmove k) ≤ 1 := by
  rw [inv_count h k]; split <;> omega

theorem bestmove_mem_iff (h : Reachable cfg s) (k : Nat) : .bestmove k ∈ s.out ↔ (s.th k).hasPrinted := by
  rw [← List.count_pos_iff, inv_count h k]; split <;> simp [*]

/-- `bestmove k` is printed only by the search thread that an accepted `go` spawned for slot `k` -/
theorem bestmove_only_after_go (h : Reachable cfg s) {k : Nat} (hk : .bestmove k ∈ s.out) :
    s.th k ≠ .none ∧ k ≤ s.cur := by
  have h1 := (bestmove_mem_iff h k).1 hk
  have h3 := inv_fresh h k
  grind [Th.hasPrinted]

/-! ## The repaired order of actions (`buggy = false`) -/

theorem inv_no_early (hb : cfg.buggy = false) (h : Reachable cfg s) (k : Nat) : s.th k ≠ .printedEarly := by
  refine h.invariant (by simp [init]) fun hr ih htr => ?_
  step_cases htr [reduceCtorEq] at ih <;> grind

/-- false with `buggy`: `original_bestmove_flag_true` -/
theorem bestmove_flag_false (hb : cfg.buggy = false) (h : Reachable cfg s) {k : Nat}
    (hk : .bestmove k ∈ s.out) : s.flag k = false := by
  have h1 := (bestmove_mem_iff h k).1 hk
  have h3 := inv_no_early hb h k
  have h4 := inv_cleared h k
  cases hth : s.th k <;> simp_all [Th.hasPrinted, Th.hasCleared]

/-- false with `buggy`: `original_timer_fired_flag_false_fails` -/
theorem timer_fired_flag_false (hb : cfg.buggy = false) (h : Reachable cfg s) :
    ∀ k, s.timer k = .fired → s.flag k = false := by
  intro k
  refine h.invariant (by simp [init]) fun hr ih htr => ?_
  have hp := (inv_goPre hr).2
  step_cases htr [MainPc.timerPre] at ih hp <;> grind

/-- some thread of slot `k` exists (or has existed) -/
def State.spawned (s : State) (k : Nat) : Prop := s.th k ≠ .none ∨ s.timer k ≠ .none

/-- once a thread of slot `k` exists, a `false` cell stays `false` (false with `buggy`) -/
theorem cell_false_stable_step (hb : cfg.buggy = false) (h : Reachable cfg s) {l : Label}
    (hn : next cfg s l = some t) {k : Nat} (hs : s.spawned k) (hf : s.flag k = false) :
    t.flag k = false ∧ t.spawned k := by
  have hp := inv_goPre h
  unfold State.spawned at hs ⊢
  have htr := next_trans hn
  clear hn
  step_cases htr [MainPc.timerPre, MainPc.goPre] at hp <;> grind

theorem run_cons {l : Label} {ls : List Label} (hr : run cfg s (l :: ls) = some t) :
    ∃ u, next cfg s l = some u ∧ run cfg u ls = some t := by
  simp only [run] at hr
  split at hr
  · cases hr
  · exact ⟨_, ‹_›, hr⟩

theorem run_reachable (h : Reachable cfg s) {ls : List Label} (hr : run cfg s ls = some t) :
    Reachable cfg t := by
  induction ls generalizing s with
  | nil => cases hr; exact h
  | cons l ls ih =>
    obtain ⟨u, hu, hr⟩ := run_cons hr
    exact ih (.step l h hu) hr

theorem cell_false_stable (hb : cfg.buggy = false) (h : Reachable cfg s) {ls : List Label}
    (hr : run cfg s ls = some t) {k : Nat} (hs : s.spawned k) (hf : s.flag k = false) :
    t.flag k = false := by
  induction ls generalizing s with
  | nil => cases hr; exact hf
  | cons l ls ih =>
    obtain ⟨u, hu, hr⟩ := run_cons hr
    have := cell_false_stable_step hb h hu hs hf
    exact ih (.step l h hu) hr this.2 this.1

/-- when the main loop is idle and the `bestmove` of the most recently accepted `go` (slot `k`) is in
the output, the current cell reads `false` -/
theorem go_after_bestmove_honoured (hb : cfg.buggy = false) (h : Reachable cfg s) {k : Nat}
    (hlast : ∀ j, j ≤ s.cur → s.th j ≠ .none → j ≤ k) (hk : .bestmove k ∈ s.out) (hidle : s.pc = .idle) :
    s.flag s.cur = false := by
  have h1 := bestmove_flag_false hb h hk
  have h2 := (bestmove_only_after_go h hk).2
  have h3 := inv_alive h s.cur
  have h4 := hlast s.cur (Nat.le_refl _)
  cases hf : s.flag s.cur
  · rfl
  · simp [hf, hidle, MainPc.spawnPending] at h3
    have : s.th s.cur ≠ .none := by
      rcases h3 with h3 | h3
      · intro h5; simp [h5, Th.beforeClear] at h3
      · simp [h3]
    have : s.cur = k := by have := h4 this; omega
    simp_all

/-- …hence a following `position` is not refused: the next step of the main loop prints nothing and
goes on to take the mutex (in the `reap` configuration it first joins the finished search thread) -/
theorem position_honoured {ok keep : Bool} {rest : List Cmd} (hidle : s.pc = .idle)
    (hi : s.input = .position ok keep :: rest) (hf : s.flag s.cur = false) :
    ∃ t, next cfg s .main = some t ∧ t.out = s.out ∧ t.input = rest ∧
      (t.pc = .posLock ok keep ∨ t.pc = .reapJoin (.pos ok keep)) := by
  simp only [next, mainStep, hidle, idleStep, hi, startOrReap, proceed]
  simp only [hf, Bool.false_eq_true, if_false]
  split <;> simp

/-- …and a `go` is not refused either: a new cell is allocated and `command_go` is entered -/
theorem go_not_refused {g : GoArgs} {rest : List Cmd} (hidle : s.pc = .idle)
    (hi : s.input = .go g :: rest) (hf : s.flag s.cur = false) :
    ∃ t, next cfg s .main = some t ∧ t.out = s.out ∧ t.input = rest ∧
      ((t.pc = .goLock g ∧ t.cur = s.cur + 1) ∨ t.pc = .reapJoin (.go g)) := by
  simp only [next, mainStep, hidle, idleStep, hi, startOrReap, proceed]
  simp only [hf, Bool.false_eq_true, if_false]
  split <;> simp

theorem go_accepted_iff_game {g : GoArgs} (hpc : s.pc = .goHold g) :
    ∃ t, next cfg s .main = some t ∧ (t.pc = .goErr ↔ s.game = false) := by
  simp only [next, mainStep, hpc]
  split <;> simp_all <;> split <;> simp

/-! ## `isready`, `quit` -/

/-- whoever holds the mutex and whatever the flags read, the step that answers `readyok` is enabled -/
theorem isready_never_blocks {rest : List Cmd} (hidle : s.pc = .idle) (hi : s.input = .isready :: rest) :
    next cfg s .main = some ({ s with input := rest }.emit .readyok) := by
  simp [next, mainStep, hidle, idleStep, hi]

theorem quit_exits {rest : List Cmd} (hidle : s.pc = .idle) (hi : s.input = .quit :: rest) :
    next cfg s .main = some { s with input := rest, pc := .exited } := by
  simp [next, mainStep, hidle, idleStep, hi]

/-- end of input: `stdin().lines()` ends, `uci_talk` returns `Ok(())` -/
theorem eof_exits (hidle : s.pc = .idle) (hi : s.input = []) :
    next cfg s .main = some { s with pc := .exited } := by
  simp [next, mainStep, hidle, idleStep, hi]

theorem exited_final (hpc : s.running = false) (l : Label) : next cfg s l = none := by
  cases l <;> simp [next, hpc]
  simp only [State.running] at hpc
  split at hpc <;> simp_all [mainStep]

/-- number of main-loop steps until the main loop is idle again -/
def MainPc.rank (cfg : Cfg) : MainPc → Nat
  | .idle | .exited | .exitedErr | .panicked => 0
  | .goSetHandle | .goErr | .posHold _ _ | .showHold | .ngHold | .stopJoin | .waitStore => 1
  | .goUnlock | .posLock _ _ | .showLock | .ngLock | .waitJoin => 2
  | .goSpawnSearch _ | .ngJoin => 3
  | .ngStore => 4
  | .goRaise _ => if cfg.buggy then 4 else 6
  | .goInfo _ => if cfg.buggy then 6 else 5
  | .goSpawnTimer _ => if cfg.buggy then 5 else 4
  | .goHold _ => 7
  | .goLock _ => 8
  | .reapJoin _ => 9

/-- every command is finished within at most 9 steps of the main loop: each step of the main loop
that does not read a new line brings it nearer to `idle` -/
theorem main_returns_to_idle (hn : next cfg s .main = some t) (hpc : s.pc ≠ .idle) :
    t.pc.rank cfg < s.pc.rank cfg := by
  cases hb : cfg.buggy <;> cases next_trans hn <;> simp_all [MainPc.rank] <;> grind

/-! ## Progress of a search thread whose cell reads `false` -/

/-- number of own steps a search thread still has to take until it has ended -/
def Th.rank : Th → Nat
  | .notStarted => 5
  | .searching => 4
  | .returned => 3
  | .cleared | .printedEarly => 2
  | .printed => 1
  | .none | .done | .panicked => 0

/-- the next action of a live search thread is enabled whenever its cell reads `false` (needed only
while it is inside the search) and the mutex is free (needed only while it has not yet taken it) -/
theorem search_step_enabled (hrun : s.running) {k : Nat} (hlive : (s.th k).live)
    (hflag : s.th k = .searching → s.flag k = false)
    (hmutex : s.th k = .notStarted → s.mutex = none ∨ s.poisoned) :
    ∃ t, next cfg s (.search k) = some t := by
  simp only [next, hrun, searchStep]
  cases hth : s.th k <;> simp_all [Th.live]
  · by_cases hp : s.poisoned = true
    · simp [hp]
    · have hm : s.mutex = none := by simpa [hp] using hmutex
      simp [hp, hm]; split <;> simp
  · split <;> simp

def ownCount (k : Nat) (ls : List Label) : Nat :=
  ls.countP (fun l => l = .search k ∨ l = .finish k)

theorem step_rank (h : Reachable cfg s) {l : Label} (hn : next cfg s l = some t) {k : Nat}
    (hs : s.th k ≠ .none) : (t.th k).rank + ownCount k [l] ≤ (s.th k).rank ∧ t.th k ≠ .none := by
  have hp := (inv_goPre h).1
  have htr := next_trans hn
  clear hn
  step_cases htr [MainPc.goPre] at hp <;> simp [ownCount] <;> grind [Th.rank]

theorem own_steps_bounded (h : Reachable cfg s) {ls : List Label} (hr : run cfg s ls = some t)
    {k : Nat} (hs : s.th k ≠ .none) :
    (t.th k).rank + ownCount k ls ≤ (s.th k).rank ∧ t.th k ≠ .none := by
  induction ls generalizing s with
  | nil => cases hr; simp [ownCount, hs]
  | cons l ls ih =>
    obtain ⟨u, hu, hr⟩ := run_cons hr
    have h1 := step_rank h hu hs
    have h2 := ih (.step l h hu) hr h1.2
    grind [ownCount]

theorem printed_of_rank_le_one (h : Reachable cfg s) {k : Nat} (hs : s.th k ≠ .none)
    (hp : s.th k ≠ .panicked) (hr : (s.th k).rank ≤ 1) : .bestmove k ∈ s.out := by
  rw [bestmove_mem_iff h k]
  cases hth : s.th k <;> simp_all [Th.rank, Th.hasPrinted]

/-- Take any reachable state in which the search thread of slot `k` exists and its cell reads `false`
(`stop` and the timer make it so: `stop_clears`, `fire_clears`; or the thread cleared it itself), and
ANY continuation `ls` of the schedule.  Then the cell still reads `false`; the thread has taken at
most `rank ≤ 5` own steps in `ls`; whenever it is live and the mutex is free, its own or poisoned, its
next step is enabled; and once at most one own step is left, `bestmove k` is in the output unless
the thread panicked.  Safety and enabledness only: nothing is assumed of the scheduler. -/
theorem timer_or_stop_leads_to_bestmove (hb : cfg.buggy = false) (h : Reachable cfg s) {k : Nat}
    (hs : s.th k ≠ .none) (hf : s.flag k = false) {ls : List Label} (hr : run cfg s ls = some t) :
    t.flag k = false ∧
    (t.th k).rank + ownCount k ls ≤ (s.th k).rank ∧
    (t.running → (t.th k).live → (t.mutex = none ∨ t.mutex = some (.search k) ∨ t.poisoned) →
      ∃ u, next cfg t (.search k) = some u) ∧
    ((t.th k).rank ≤ 1 → t.th k ≠ .panicked → .bestmove k ∈ t.out) := by
  have ht := run_reachable h hr
  have h1 := cell_false_stable hb h hr (.inl hs) hf
  have h2 := own_steps_bounded h hr hs
  refine ⟨h1, h2.1, ?_, fun h3 h4 => printed_of_rank_le_one ht h2.2 h4 h3⟩
  intro hrun hlive hmx
  apply search_step_enabled hrun hlive (fun _ => h1)
  intro hns
  have hm := (inv_mutex ht).1 k
  simp [hns, Th.holds] at hm
  grind

theorem stop_clears {rest : List Cmd} (hidle : s.pc = .idle) (hi : s.input = .stop :: rest) :
    ∃ t, next cfg s .main = some t ∧ t.flag s.cur = false := by
  simp [next, mainStep, hidle, idleStep, hi]

theorem fire_clears (hrun : s.running) {k : Nat} (hk : s.timer k = .sleeping) :
    ∃ t, next cfg s (.fire k) = some t ∧ t.flag k = false := by
  simp [next, hrun, fireStep, hk]

/-! ## No deadlock -/

/-- the only state in which nothing but a poll reading `true` can happen: the main loop executes
`wait` (joins the search thread) on a search that cannot end by itself and whose cell reads `true`;
nobody can send `stop` because the main loop is the one that reads stdin.  This is the documented
meaning of `wait` + `go infinite` (the real search ends at `MAX_DEPTH`). -/
def Benign (s : State) : Prop :=
  s.pc = .waitJoin ∧ s.handle = some s.cur ∧ s.th s.cur = .searching ∧ s.flag s.cur = true ∧
    s.fin s.cur = false

theorem thread_can_step (hrun : s.running) {k : Nat} (hlive : (s.th k).live)
    (hflag : s.th k = .searching → s.flag k = false ∨ s.fin k = true)
    (hmutex : s.th k = .notStarted → s.mutex = none ∨ s.poisoned) :
    ∃ l t, next cfg s l = some t := by
  by_cases h1 : s.th k = .searching ∧ s.flag k = true
  · have := hflag h1.1
    refine ⟨.finish k, ?_⟩
    simp [next, hrun, finishStep, h1.1]
    grind
  · obtain ⟨t, ht⟩ := search_step_enabled (cfg := cfg) hrun hlive (by grind) hmutex
    exact ⟨_, t, ht⟩

theorem holder_can_step (h : Reachable cfg s) (hrun : s.running) {j : Nat}
    (hm : s.mutex = some (.search j)) (hf : s.flag j = false ∨ s.fin j = true) :
    ∃ l t, next cfg s l = some t := by
  have h1 := ((inv_mutex h).1 j).2 hm
  apply thread_can_step hrun (k := j)
  · cases hth : s.th j <;> simp_all [Th.holds, Th.live]
  · intro _; exact hf
  · intro h2; simp [h2, Th.holds] at h1

theorem all_flags_false (h : Reachable cfg s) (hpc : s.pc.mayTrue cfg = false) (j : Nat) :
    s.flag j = false := by
  have := flag_true h j
  grind

theorem lock_progress (h : Reachable cfg s) (hrun : s.running) (hpc : s.pc.mayTrue cfg = false)
    (hh : s.pc.holds = false) {pc' : MainPc} (hs : mainStep cfg s = lockStep s pc') :
    ∃ l t, next cfg s l = some t := by
  by_cases hp : s.poisoned = true
  · exact ⟨.main, by simp [next, hs, lockStep, hp]⟩
  · cases hm : s.mutex with
    | none => exact ⟨.main, by simp [next, hs, lockStep, hp, hm]⟩
    | some o =>
      cases o with
      | main => have := (inv_mutex h).2.2 hm; simp_all
      | search j => exact holder_can_step h hrun hm (.inl (all_flags_false h hpc j))

/-- the main loop joining a search thread: the thread has ended, or somebody can move, or `Benign` -/
theorem join_progress (h : Reachable cfg s) (hrun : s.running)
    (hpc : s.pc.mayTrue cfg = false ∨ s.pc = .waitJoin)
    (hh : s.pc.holds = false) {k : State → State} (hs : mainStep cfg s = joinStep s k) :
    (∃ l t, next cfg s l = some t) ∨ Benign s := by
  cases hhd : s.handle with
  | none => exact .inl ⟨.main, by simp [next, hs, joinStep, hhd]⟩
  | some j =>
    have hsp := (inv_spawned h).2 j hhd
    have hcur : s.flag s.cur = true → j = s.cur := by
      intro hf
      have := inv_handle h hf
      rcases hpc with hpc | hpc
      · have := inv_mayTrue h hf; simp_all
      · simp [hpc, MainPc.goMid, hhd] at this; exact this
    -- the thread being joined, or the holder of the mutex it waits for, can move
    by_cases hend : s.th j = .done ∨ s.th j = .panicked
    · exact .inl ⟨.main, by rcases hend with hend | hend <;> simp [next, hs, joinStep, hhd, hend]⟩
    · have hlive : (s.th j).live := by cases hth : s.th j <;> simp_all [Th.live]
      by_cases hs : s.th j = .searching
      · by_cases hf : s.flag j = false ∨ s.fin j = true
        · exact .inl (thread_can_step hrun hlive (fun _ => hf) (by simp [hs]))
        · have hf1 : s.flag j = true := by grind
          have hjc := flag_true_cur h hf1
          refine .inr ⟨?_, ?_, ?_, ?_, ?_⟩
          · rcases hpc with hpc | hpc
            · have := all_flags_false h hpc j; simp_all
            · exact hpc
          all_goals grind
      · by_cases hns : s.th j = .notStarted
        · by_cases hp : s.poisoned = true
          · exact .inl (thread_can_step hrun hlive (by simp [hs]) (fun _ => .inr hp))
          · cases hm : s.mutex with
            | none => exact .inl (thread_can_step hrun hlive (by simp [hs]) (fun _ => .inl hm))
            | some o =>
              cases o with
              | main => have := (inv_mutex h).2.2 hm; simp_all
              | search i =>
                refine .inl (holder_can_step h hrun hm ?_)
                cases hfi : s.flag i
                · exact .inl rfl
                · -- then `i` is the current slot and the handle is the current slot's: `i = j`
                  have hic := flag_true_cur h hfi
                  have := hcur (hic ▸ hfi)
                  have hhold := ((inv_mutex h).1 i).2 hm
                  subst hic; subst this
                  simp [hns, Th.holds] at hhold
        · exact .inl (thread_can_step hrun hlive (by simp [hs]) (by simp [hns]))

/-- Some step of some thread is enabled, or the state is `Benign`.  At a join the main loop does not
hold the mutex (`MainPc.holds`, `inv_mutex`), so the joined thread or the holder of the mutex it waits
for has an enabled step (`join_progress`); where the main loop waits for the mutex, the holder has one
(`lock_progress`). -/
theorem no_deadlock (h : Reachable cfg s) (hrun : s.running) :
    (∃ l t, next cfg s l = some t) ∨ Benign s := by
  cases hpc : s.pc with
  | reapJoin _ | ngJoin | stopJoin | waitJoin =>
    exact join_progress h hrun (by simp [hpc, MainPc.mayTrue]) (by simp [hpc, MainPc.holds]) (by unfold mainStep; rw [hpc])
  | ngLock | posLock _ _ | showLock | goLock _ =>
    exact .inl (lock_progress h hrun (by simp [hpc, MainPc.mayTrue]) (by simp [hpc, MainPc.holds]) (by unfold mainStep; rw [hpc]))
  | exited | exitedErr | panicked => simp [State.running, hpc] at hrun
  | _ =>
    refine .inl ⟨.main, ?_⟩
    simp only [next, mainStep, hpc, idleStep]
    repeat' split
    all_goals simp

/-! ## Panics

`unwrap()`s of the session layer and how the model treats them:
* `data.lock().unwrap()` (main loop, 4 places; search thread, 1 place) fires iff the mutex is poisoned,
  i.e. iff a thread panicked while holding it: modelled (`poisoned`).
* `thread.join().unwrap()` (main loop, 7 places) fires iff the joined search thread panicked: modelled.
* `current_game.as_mut().unwrap()` in the search thread fires iff `current_game` is `None` when the
  search thread gets the mutex: modelled (`Th.panicked`).  It DOES fire in `fixed`
  (`fixed_no_panic_fails`), and cannot fire with the `reap` repair (`repaired_no_panic`).
* `search_thread.context(..)?` in `ucinewgame` is an error return, not a panic: modelled (`exitedErr`),
  unreachable (`never_exitedErr`).
* `wtime.unwrap()` … in `command_go` are guarded by `is_some()`.
* panics inside `get_best_move_until_stop` and `println!` on a closed stdout are outside this model. -/

/-- program points of the main loop reached only after the outstanding search thread was joined
(`reap` configuration) -/
def MainPc.reaped : MainPc → Bool
  | .ngLock | .ngHold | .posLock _ _ | .posHold _ _ | .showLock | .showHold
  | .goLock _ | .goHold _ | .goErr | .goRaise _ | .goInfo _ | .goSpawnTimer _ | .goSpawnSearch _
  | .goUnlock | .goSetHandle => true
  | _ => false

/-- `wait` has dropped the handle before it stores `false`; with `reap` every command that takes the
mutex has -/
theorem inv_reaped (h : Reachable cfg s) :
    (s.pc = .waitStore → s.handle = none) ∧ (cfg.reap = true → s.pc.reaped → s.handle = none) := by
  refine h.invariant (by simp [init]) fun hx ih htr => ?_
  step_cases htr [MainPc.reaped, reduceCtorEq] at ih <;> grind

theorem inv_one_live (hr : cfg.reap = true) (h : Reachable cfg s) (j : Nat) :
    (s.th j).live →
      s.handle = some j ∨ (s.handle = none ∧ j = s.cur ∧ (s.pc = .goUnlock ∨ s.pc = .goSetHandle)) := by
  refine h.invariant (by simp [init, Th.live]) fun hx ih htr => ?_
  have h1 := (inv_reaped hx).2 hr
  step_cases htr [MainPc.reaped, reduceCtorEq] at ih h1 <;> grind [Th.live_iff]

theorem inv_go_game (h : Reachable cfg s) :
    (match s.pc with
      | .goRaise _ | .goInfo _ | .goSpawnTimer _ | .goSpawnSearch _ => true
      | _ => false) → s.game = true := by
  refine h.invariant (by simp [init]) fun hx ih htr => ?_
  have h1 := inv_mutex hx
  step_cases htr [MainPc.holds] at ih h1 <;> grind [MainPc.holds]

theorem inv_game_kept (hr : cfg.reap = true) (h : Reachable cfg s) (j : Nat) :
    s.th j = .notStarted → s.game = true := by
  refine h.invariant (by simp [init]) fun hx ih htr => ?_
  have h1 := (inv_reaped hx).2 hr
  have h2 := inv_one_live hr hx
  have h3 := inv_go_game hx
  step_cases htr [MainPc.reaped] at h1 h3 <;> grind [Th.live_iff]

/-- no `unwrap()` of the session layer has fired -/
def NoPanic (s : State) : Prop := s.poisoned = false ∧ (∀ k, s.th k ≠ .panicked) ∧ s.pc ≠ .panicked

/-- the only `unwrap()` that can be the first to fire is the one of a search thread that finds no game -/
theorem no_panic_step {l : Label} (hg : ∀ j, s.th j = .notStarted → s.game = true)
    (ih : NoPanic s) (htr : Trans cfg s l t) : NoPanic t := by
  unfold NoPanic at *
  step_cases htr [reduceCtorEq] at ih <;> grind

/-- with `reap` no `unwrap()` of the session layer fires, the mutex is never poisoned, and `uci_talk`
never returns an error -/
theorem repaired_no_panic (hr : cfg.reap = true) (h : Reachable cfg s) :
    s.poisoned = false ∧ (∀ k, s.th k ≠ .panicked) ∧ s.pc ≠ .panicked ∧ s.pc ≠ .exitedErr := by
  have ⟨h1, h2, h3⟩ : NoPanic s :=
    h.invariant (by simp [NoPanic, init]) fun hx => no_panic_step (inv_game_kept hr hx)
  exact ⟨h1, h2, h3, never_exitedErr h⟩

/-! ## Concrete runs: non-vacuity, and counterexamples -/

/-- the main loop takes `n` steps in a row -/
def mains (n : Nat) : List Label := List.replicate n .main

/-- what a run ends in: output, main program counter, and for slots 0‥3 cell / search thread / timer -/
def observe (r : Option State) : Option (List Out × MainPc × List (Bool × Th × Tm)) :=
  r.map fun s => (s.out, s.pc, (List.range 4).map fun k => (s.flag k, s.th k, s.timer k))

theorem reachable_of_run {cmds : List Cmd} {ls : List Label} (hr : run cfg (init cmds) ls = some t) :
    Reachable cfg t := run_reachable (.init cmds) hr

abbrev pos : Cmd := .position true true
abbrev goDepth : Cmd := .go ⟨false, true⟩      -- `go depth n`
abbrev goInfinite : Cmd := .go ⟨false, false⟩  -- `go infinite`
abbrev goMovetime : Cmd := .go ⟨true, false⟩   -- `go movetime n` (search does not end by itself)

/-! ### the code before the join-before-lock repair (`fixed`) -/

/-- `position`, `go movetime`: the timer fires BEFORE the search thread has taken the mutex; the
search thread then starts, sees `false` at its first poll, and answers; `bestmove` exactly once -/
example : observe (run fixed (init [pos, goMovetime])
      (mains 12 ++ [.fire 1] ++ [.search 1, .search 1, .search 1, .search 1, .search 1] ++ mains 1))
    = some ([.infoTime, .bestmove 1], .exited,
        [(false, .none, .none), (false, .done, .fired), (false, .none, .none), (false, .none, .none)]) := by
  decide

/-- `position`, `go infinite`, `isready`, `stop`: `readyok` while searching, then `bestmove`,
the main loop joins and exits at end of input -/
example : observe (run fixed (init [pos, goInfinite, .isready, .stop, .quit])
      (mains 10 ++ [.search 1] ++ mains 2 ++ [.search 1, .search 1, .search 1, .search 1] ++ mains 2))
    = some ([.readyok, .bestmove 1], .exited,
        [(false, .none, .none), (false, .done, .none), (false, .none, .none), (false, .none, .none)]) := by
  decide

/-- `position`, `go depth`, (bestmove), `position`, `go depth`, (bestmove): the second `position`
is read while the first search thread still holds the mutex (it has cleared the flag and printed,
but not yet released): the main loop waits for the mutex and both commands are honoured -/
example : observe (run fixed (init [pos, goDepth, pos, goDepth])
      (mains 10 ++ [.search 1, .finish 1, .search 1, .search 1] ++ mains 1 ++ [.search 1] ++ mains 9
        ++ [.search 2, .finish 2, .search 2, .search 2, .search 2] ++ mains 1))
    = some ([.bestmove 1, .bestmove 2], .exited,
        [(false, .none, .none), (false, .done, .none), (false, .done, .none), (false, .none, .none)]) := by
  decide

/-- while the first search thread holds the mutex the main loop cannot take it (`position` blocks)… -/
example : (run fixed (init [pos, goDepth, pos, goDepth])
      (mains 10 ++ [.search 1, .finish 1, .search 1, .search 1] ++ mains 2)).isNone := by
  decide

/-- the `Benign` state is reachable: `go infinite`, `wait` -/
example : ∃ t, run fixed (init [pos, goInfinite, .wait]) (mains 11 ++ [.search 1]) = some t ∧
    Benign t ∧ ∀ l, l ∈ labels t → next fixed t l = none := by
  refine ⟨_, rfl, ?_, ?_⟩
  · simp [Benign]; decide
  · decide

/-! ### FINDING: `fixed` can panic (stale search thread)

`go` / `position` / `ucinewgame` look only at the flag.  A timer that fires before the search thread
has taken the mutex makes the flag `false` while that thread still exists; the main loop then changes
`current_game` (or starts a second search thread, and whichever of the two runs first sets
`current_game = None` at its end), and the late thread executes `current_game.as_mut().unwrap()` on
`None` while holding the mutex: the thread panics, the mutex is poisoned, no `bestmove` is ever
printed for that `go`, its cell stays `true` for ever, and the main loop panics at its next
`lock().unwrap()` or `join().unwrap()`. -/

/-- `position`, `go movetime`, `go`: two search threads alive; the second finds no game -/
theorem fixed_panic_two_searches :
    observe (run fixed (init [pos, goMovetime, goInfinite])
      (mains 12 ++ [.fire 1] ++ mains 7 ++ [.search 1, .search 1, .search 1, .search 1, .search 1]
        ++ [.search 2]))
    = some ([.infoTime, .bestmove 1], .idle,
        [(false, .none, .none), (false, .done, .fired), (true, .panicked, .none), (false, .none, .none)]) := by
  decide

/-- `position`, `go movetime`, `position <bad fen>`: ONE search thread; the main loop removed the game -/
theorem fixed_panic_bad_position :
    observe (run fixed (init [pos, goMovetime, .position false false])
      (mains 12 ++ [.fire 1] ++ mains 3 ++ [.search 1]))
    = some ([.infoTime, .error], .idle,
        [(false, .none, .none), (false, .panicked, .fired), (false, .none, .none), (false, .none, .none)]) := by
  decide

/-- `position`, `go movetime`, `ucinewgame`, `stop`: the search thread panics, then the main loop
panics in `thread.join().unwrap()` -/
theorem fixed_panic_ucinewgame_stop :
    observe (run fixed (init [pos, goMovetime, .ucinewgame, .stop])
      (mains 12 ++ [.fire 1] ++ mains 4 ++ [.search 1] ++ mains 1))
    = some ([.infoTime], .panicked,
        [(false, .none, .none), (false, .panicked, .fired), (false, .none, .none), (false, .none, .none)]) := by
  decide

/-- … or in `data.lock().unwrap()` on the poisoned mutex -/
theorem fixed_panic_poisoned_lock :
    observe (run fixed (init [pos, goMovetime, .ucinewgame, .isready, pos])
      (mains 12 ++ [.fire 1] ++ mains 3 ++ [.search 1] ++ mains 3))
    = some ([.infoTime, .readyok], .panicked,
        [(false, .none, .none), (false, .panicked, .fired), (false, .none, .none), (false, .none, .none)]) := by
  decide

theorem fixed_no_panic_fails :
    ¬ ∀ s, Reachable fixed s → s.poisoned = false ∧ (∀ k, s.th k ≠ .panicked) ∧ s.pc ≠ .panicked := by
  intro h
  have hr : run fixed (init [pos, goMovetime, .ucinewgame, .stop])
      (mains 12 ++ [.fire 1] ++ mains 4 ++ [.search 1] ++ mains 1) = some _ := rfl
  exact (h _ (reachable_of_run hr)).2.2 (by decide)

/-- the same schedules are impossible with the `reap` repair: the main loop joins the search thread
before it touches the game (here: the run is stuck at the join until the search thread has ended) -/
example : (run repaired (init [pos, goMovetime, .ucinewgame, .stop])
      (mains 12 ++ [.fire 1] ++ mains 2)).isNone := by decide

/-- FINDING (same cause): `position` + `go` sent after the `bestmove` of the latest `go` are NOT
always honoured by `fixed`.  `go movetime` (its timer fires before its search thread
starts), `go depth` (accepted, answered with `bestmove 2`); the GUI replies `position`, `go depth`;
in between the stale search thread of the first `go` wakes up, searches the NEW position, prints a
second, unrequested `bestmove`, and sets `current_game = None`; the new `go` is answered with
"error: No game to play". -/
theorem fixed_go_after_position_refused :
    observe (run fixed (init [pos, goMovetime, goDepth, pos, goDepth])
      (mains 12 ++ [.fire 1] ++ mains 7
        ++ [.search 2, .finish 2, .search 2, .search 2, .search 2]   -- bestmove 2
        ++ mains 3                                                    -- position honoured
        ++ [.search 1, .search 1, .search 1, .search 1, .search 1]   -- stale thread: bestmove 1
        ++ mains 5))                                                  -- go: no game
    = some ([.infoTime, .bestmove 2, .bestmove 1, .error], .exited,
        [(false, .none, .none), (false, .done, .fired), (false, .done, .none), (false, .none, .none)]) := by
  decide

/-! ### the code as it was (`original`): the theorems that need `buggy = false` fail -/

/-- `bestmove` is in the output, the main loop is idle, and the current cell still reads `true`… -/
theorem original_bestmove_flag_true :
    ∃ t, run original (init [pos, goDepth, pos]) (mains 10 ++ [.search 1, .finish 1, .search 1]) = some t ∧
      t.pc = .idle ∧ .bestmove 1 ∈ t.out ∧ (∀ j, j ≤ t.cur → t.th j ≠ .none → j ≤ 1) ∧
      t.flag t.cur = true := by
  exact ⟨_, rfl, by decide, by decide, by decide, by decide⟩

theorem original_go_after_bestmove_fails :
    ¬ ∀ s k, Reachable original s → (∀ j, j ≤ s.cur → s.th j ≠ .none → j ≤ k) → .bestmove k ∈ s.out → s.pc = .idle →
      s.flag s.cur = false := by
  intro h
  obtain ⟨t, ht, h1, h2, h3, h4⟩ := original_bestmove_flag_true
  have := h t 1 (reachable_of_run ht) h3 h2 h1
  simp [this] at h4

/-- …and the `position` the GUI sends in reply to `bestmove` is refused -/
theorem original_position_refused :
    observe (run original (init [pos, goDepth, pos]) (mains 10 ++ [.search 1, .finish 1, .search 1] ++ mains 1))
    = some ([.bestmove 1, .refused], .idle,
        [(false, .none, .none), (true, .printedEarly, .none), (false, .none, .none), (false, .none, .none)]) := by
  decide

/-- `cell_false_stable` fails: the timer exists and has stored `false`; then the main loop stores `true` -/
theorem original_cell_false_stable_fails :
    ∃ s t, Reachable original s ∧ next original s .main = some t ∧
      s.spawned 1 ∧ s.flag 1 = false ∧ t.flag 1 = true := by
  have hr : run original (init [pos, goMovetime]) (mains 8 ++ [.fire 1]) = some _ := rfl
  refine ⟨_, _, reachable_of_run hr, rfl, .inr (by decide), by decide, by decide⟩

/-- …so the time budget is lost: the timer has fired, the cell reads `true`, the search (which does
not end by itself) goes on until somebody sends `stop` -/
theorem original_timer_lost :
    observe (run original (init [pos, goMovetime]) (mains 8 ++ [.fire 1] ++ mains 4 ++ [.search 1]))
    = some ([.infoTime], .idle,
        [(false, .none, .none), (true, .searching, .fired), (false, .none, .none), (false, .none, .none)]) := by
  decide

theorem original_timer_fired_flag_false_fails :
    ¬ ∀ s k, Reachable original s → s.timer k = .fired → s.flag k = false := by
  intro h
  have hr : run original (init [pos, goMovetime]) (mains 8 ++ [.fire 1] ++ mains 4 ++ [.search 1]) = some _ := rfl
  have := h _ 1 (reachable_of_run hr) (by decide)
  revert this
  decide

/-- with `reap`, a cell that reads `true` always has a search thread that can still be reached by
`stop`, the timer or the depth limit -/
theorem repaired_flag_true_implies_search_alive (hr : cfg.reap = true) (h : Reachable cfg s) {k : Nat}
    (hk : s.flag k = true) :
    k = s.cur ∧ ((s.pc.spawnPending cfg ∧ s.th k = .none) ∨ (s.th k).beforeClear) := by
  have h1 := flag_true_implies_search_alive h hk
  have h2 := (repaired_no_panic hr h).2.1 k
  grind

/-! ## With the `reap` repair, `position` + `go` are honoured whatever the timing -/

/-- no search thread is alive, the main loop has no handle, a game is set, the mutex is sound -/
def Quiet (s : State) : Prop :=
  s.game = true ∧ s.handle = none ∧ (∀ j, (s.th j).live = false) ∧ s.poisoned = false

/-- the main loop is somewhere between reading `go g` and the check of `current_game` -/
def GoPhase (s : State) (g : GoArgs) (rest : List Cmd) : Prop :=
  (s.pc = .idle ∧ s.input = .go g :: rest ∧ s.mutex = none ∧ s.flag s.cur = false) ∨
  (s.pc = .goLock g ∧ s.input = rest ∧ s.mutex = none) ∨
  (s.pc = .goHold g ∧ s.input = rest)

theorem repaired_position_quiet (hr : cfg.reap = true) (h : Reachable cfg s) {keep : Bool}
    {g : GoArgs} {rest : List Cmd} (hpc : s.pc = .posHold true keep) (hi : s.input = .go g :: rest) :
    ∃ t, next cfg s .main = some t ∧ t.out = s.out ∧ Quiet t ∧ GoPhase t g rest := by
  have h1 := (inv_reaped h).2 hr (by simp [hpc, MainPc.reaped])
  have h2 := inv_one_live hr h
  have h3 := (repaired_no_panic hr h).1
  have h4 := inv_mayTrue h
  refine ⟨{ s with game := true, mutex := none, pc := .idle }, by simp [next, mainStep, hpc], rfl,
    ⟨rfl, h1, ?_, h3⟩, .inl ⟨rfl, hi, rfl, ?_⟩⟩
  · intro j
    have := h2 j
    cases hl : (s.th j).live <;> simp_all
  · cases hf : s.flag s.cur <;> simp_all [MainPc.mayTrue]

/-- from then on, whatever any thread does (only timers can do anything), the `go` goes on to be
accepted: it is never refused, it finds the mutex free and the game set -/
theorem quiet_go_accepted {g : GoArgs} {rest : List Cmd}
    (hq : Quiet s) (hp : GoPhase s g rest) {l : Label} (hn : next cfg s l = some t) :
    t.out = s.out ∧ Quiet t ∧ (GoPhase t g rest ∨ t.pc = .goRaise g ∨ t.pc = .goInfo g) := by
  obtain ⟨q1, q2, q3, q4⟩ := hq
  unfold Quiet GoPhase at *
  have htr := next_trans hn
  clear hn
  step_cases htr [reduceCtorEq] at hp <;> grind [Th.live, Cmd.pending]

/-- and the main loop's own next step is always enabled in that phase: the `go` is not delayed by
anybody -/
theorem quiet_go_not_delayed {g : GoArgs} {rest : List Cmd} (hq : Quiet s) (hp : GoPhase s g rest) :
    ∃ t, next cfg s .main = some t := by
  obtain ⟨q1, q2, q3, q4⟩ := hq
  rcases hp with ⟨h1, h2, h3, h4⟩ | ⟨h1, h2, h3⟩ | ⟨h1, h2⟩
  · simp [next, mainStep, h1, idleStep, h2, h4]
  · simp [next, mainStep, h1, lockStep, q4, h3]
  · simp [next, mainStep, h1, q1]

/-! ## The panic needs a timer: without timed `go`s `fixed` does not panic either -/

/-- reachability from a given state (to speak about a given command list) -/
inductive ReachableFrom (cfg : Cfg) (s0 : State) : State → Prop where
  | refl : ReachableFrom cfg s0 s0
  | step {s t : State} (l : Label) : ReachableFrom cfg s0 s → next cfg s l = some t → ReachableFrom cfg s0 t

@[elab_as_elim]
theorem ReachableFrom.invariant {P : State → Prop} {s0 : State} (h : ReachableFrom cfg s0 s) (init : P s0)
    (step : ∀ {s l t}, ReachableFrom cfg s0 s → P s → Trans cfg s l t → P t) : P s := by
  induction h with
  | refl => exact init
  | step l hr hn ih => exact step hr ih (next_trans hn)

theorem ReachableFrom.reachable {cmds : List Cmd} (h : ReachableFrom cfg (init cmds) s) :
    Reachable cfg s := by
  induction h with
  | refl => exact .init cmds
  | step l _ hn ih => exact .step l ih hn

theorem reachable_iff : Reachable cfg s ↔ ∃ cmds, ReachableFrom cfg (init cmds) s := by
  constructor
  · intro h
    induction h with
    | init cmds => exact ⟨cmds, .refl⟩
    | step l _ hn ih => obtain ⟨c, hc⟩ := ih; exact ⟨c, .step l hc hn⟩
  · rintro ⟨c, hc⟩; exact hc.reachable

def Cmd.untimed : Cmd → Bool
  | .go g => !g.timed
  | _ => true

def MainPc.untimed : MainPc → Bool
  | .reapJoin (.go g) | .goLock g | .goHold g | .goRaise g | .goInfo g | .goSpawnTimer g
  | .goSpawnSearch g => !g.timed
  | _ => true

/-- no timer thread exists and none will be spawned -/
def Untimed (s : State) : Prop :=
  s.input.all Cmd.untimed = true ∧ s.pc.untimed ∧ (∀ k, s.timer k = .none) ∧
    (match s.pc with | .goInfo _ | .goSpawnTimer _ => False | _ => True)

theorem untimed_step (hb : cfg.buggy = false) (hu : Untimed s) {l : Label} (hn : next cfg s l = some t) :
    Untimed t := by
  unfold Untimed at hu ⊢
  have htr := next_trans hn
  clear hn
  step_cases htr [MainPc.untimed] at hu
  -- `reap` leaves the program counter at `reapJoin p` with `c.pending = some p`: what `p` is needs the command `c`
  case reap => cases ‹Cmd› <;> grind [MainPc.untimed, Cmd.untimed, Cmd.pending]
  all_goals grind [Cmd.untimed]

theorem untimed_of_init {cmds : List Cmd} (hc : cmds.all Cmd.untimed = true)
    (hb : cfg.buggy = false) (h : ReachableFrom cfg (init cmds) s) : Untimed s := by
  induction h with
  | refl => exact ⟨hc, by simp [init, MainPc.untimed], by simp [init], by simp [init]⟩
  | step l _ hn ih => exact untimed_step hb ih hn

section untimed
variable {cmds : List Cmd} (hb : cfg.buggy = false) (hc : cmds.all Cmd.untimed = true)
include hb hc

theorem inv_raised (h : ReachableFrom cfg (init cmds) s) (g : GoArgs) :
    s.pc = .goSpawnSearch g → s.flag s.cur = true := by
  refine h.invariant (by simp [init]) fun hx ih htr => ?_
  obtain ⟨-, -, ht, hu⟩ := untimed_of_init hc hb hx
  have hp := (inv_goPre hx.reachable).1
  step_cases htr [MainPc.goPre, MainPc.goSpawnSearch.injEq, reduceCtorEq] at ih hp hu <;> grind [MainPc.goPre]

theorem inv_before_clear (h : ReachableFrom cfg (init cmds) s) (j : Nat) :
    (s.th j).beforeClear →
      j = s.cur ∧ (s.flag j = true ∨ ((s.pc = .stopJoin ∨ s.pc = .ngJoin) ∧ s.handle = some j)) := by
  refine h.invariant (by simp [init, Th.beforeClear]) fun hx ih htr => ?_
  obtain ⟨-, hu, ht, -⟩ := untimed_of_init hc hb hx
  have hr := hx.reachable
  have h1 := inv_raised hb hc hx
  have h2 := inv_handle hr
  have h3 := (inv_reaped hr).1
  have h4 := inv_no_early hb hr j
  have h5 := (inv_goPre hr).1
  step_cases htr [MainPc.goPre, MainPc.goMid, MainPc.untimed, reduceCtorEq] at ih h2 h5 hu <;>
    grind [Th.beforeClear]

theorem inv_no_rival (h : ReachableFrom cfg (init cmds) s) (j j' : Nat) :
    s.th j = .notStarted → (s.th j').holds → False := by
  refine h.invariant (by simp [init]) fun hx ih htr => ?_
  have hr := hx.reachable
  have h1 := fun j hj => (inv_before_clear hb hc hx j hj).1
  have h2 := inv_mutex hr
  step_cases htr [MainPc.holds] at h2 <;> grind [Th.beforeClear]

theorem inv_game_kept_untimed (h : ReachableFrom cfg (init cmds) s) (j : Nat) :
    s.th j = .notStarted → s.game = true := by
  refine h.invariant (by simp [init]) fun hx ih htr => ?_
  have hr := hx.reachable
  have h1 := inv_before_clear hb hc hx j
  have h2 := inv_no_rival hb hc hx j
  have h3 := inv_go_game hr
  have h4 := inv_mayTrue hr
  step_cases htr [MainPc.mayTrue] at h3 h4 <;> grind [Th.beforeClear]

/-- if no `go` of the command list sets a timer (no `movetime`, no complete `wtime btime winc binc`;
or `infinite`), the code never panics even without the `reap` repair, whatever the schedule -/
theorem untimed_no_panic (h : ReachableFrom cfg (init cmds) s) :
    s.poisoned = false ∧ (∀ k, s.th k ≠ .panicked) ∧ s.pc ≠ .panicked ∧ s.pc ≠ .exitedErr := by
  have ⟨h1, h2, h3⟩ : NoPanic s :=
    h.invariant (by simp [NoPanic, init]) fun hx => no_panic_step (inv_game_kept_untimed hb hc hx)
  exact ⟨h1, h2, h3, never_exitedErr h.reachable⟩

end untimed

/-! ## the executable enumerator `steps` is exact on reachable states -/

theorem label_le_cur (h : Reachable cfg s) {l : Label} (hn : next cfg s l = some t) : l ∈ labels s := by
  have hf := inv_fresh h
  simp only [labels, List.mem_cons, List.mem_flatMap, List.mem_range]
  cases l with
  | main => simp
  | search k | finish k | fire k =>
    refine .inr ⟨k, ?_, by simp⟩
    have := hf k
    cases next_trans hn <;> grind

theorem mem_steps_iff (h : Reachable cfg s) {l : Label} :
    (l, t) ∈ steps cfg s ↔ next cfg s l = some t := by
  simp only [steps, List.mem_filterMap, Option.map_eq_some_iff, Prod.mk.injEq]
  constructor
  · rintro ⟨l', _, t', h1, rfl, rfl⟩; exact h1
  · intro hn; exact ⟨l, label_le_cur h hn, t, hn, rfl, rfl⟩

theorem step_iff_steps (h : Reachable cfg s) : Step cfg s t ↔ ∃ l, (l, t) ∈ steps cfg s := by
  simp only [Step, mem_steps_iff h]

/-! ## "exactly one `bestmove`": the two ways a search thread can end -/

theorem bestmove_exactly_once_when_done (h : Reachable cfg s) {k : Nat} (hd : s.th k = .done) :
    s.out.count (.bestmove k) = 1 := by
  rw [inv_count h k, hd]; rfl

theorem panicked_never_prints (h : Reachable cfg s) {k : Nat} (hp : s.th k = .panicked) :
    .bestmove k ∉ s.out ∧ ∀ l t, next cfg s l = some t → t.th k = .panicked := by
  constructor
  · simp [bestmove_mem_iff h k, hp, Th.hasPrinted]
  · intro l t hn
    have hg := (inv_goPre h).1
    have htr := next_trans hn
    clear hn
    step_cases htr [MainPc.goPre] at hg <;> grind

#print axioms bestmove_at_most_once
#print axioms bestmove_only_after_go
#print axioms bestmove_exactly_once_when_done
#print axioms panicked_never_prints
#print axioms isready_never_blocks
#print axioms no_deadlock
#print axioms main_returns_to_idle
#print axioms go_after_bestmove_honoured
#print axioms bestmove_flag_false
#print axioms position_honoured
#print axioms go_not_refused
#print axioms go_accepted_iff_game
#print axioms flag_true_implies_search_alive
#print axioms inv_old_false
#print axioms inv_mutex
#print axioms never_exitedErr
#print axioms cell_false_stable_step
#print axioms cell_false_stable
#print axioms timer_fired_flag_false
#print axioms search_step_enabled
#print axioms own_steps_bounded
#print axioms timer_or_stop_leads_to_bestmove
#print axioms stop_clears
#print axioms fire_clears
#print axioms quit_exits
#print axioms eof_exits
#print axioms exited_final
#print axioms repaired_no_panic
#print axioms repaired_flag_true_implies_search_alive
#print axioms repaired_position_quiet
#print axioms quiet_go_accepted
#print axioms quiet_go_not_delayed
#print axioms untimed_no_panic
#print axioms fixed_panic_two_searches
#print axioms fixed_panic_bad_position
#print axioms fixed_panic_ucinewgame_stop
#print axioms fixed_panic_poisoned_lock
#print axioms fixed_no_panic_fails
#print axioms fixed_go_after_position_refused
#print axioms original_bestmove_flag_true
#print axioms original_go_after_bestmove_fails
#print axioms original_position_refused
#print axioms original_cell_false_stable_fails
#print axioms original_timer_lost
#print axioms original_timer_fired_flag_false_fails
#print axioms mem_steps_iff
#print axioms step_iff_steps

end Chess.Session
