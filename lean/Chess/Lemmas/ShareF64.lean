import Chess.Model.Share
import Chess.Lemmas.Budget

/-!
# The float expression of `command_go` satisfies `ShareOK` — C13 without the hypothesis

`Chess.Share.shareF64` (`Chess/Model/Share.lean`) is the exact IEEE-754 binary64 model of

    ((w as f64 * 0.02) as u64)

It never exceeds its argument and is monotone, for **all** naturals `w` (hence all `u64`), so the theorems of
`Chess/Lemmas/Budget.lean` hold for the real float expression with no hypothesis on it.
`shareF64 w = w / 50` is *false* in general (first failure: `w = 2^53 + 7`); it holds below `2^53` (every clock
below 285 000 years), and for `u64` inputs the two differ by at most `-54 … +61` (random 64-bit inputs reach
`-46 … +59`).

`rneP` (the rounding step over an abstract positive `P` in place of `2^q`) is monotone,
within `P/2` of its argument, and never jumps over a multiple of `P`; `round53` inherits
monotonicity inside a binade from `rneP` and across binades from the power of two in between.

Tactics: `omega` for linear facts with unit coefficients; `lia` (core, `grind`'s linear integer
arithmetic) where both sides carry large non-unit coefficients, on which `omega` does not
terminate within the recursion limit.  Concrete values are checked by kernel evaluation (`decide`).
-/
namespace Chess.Share


/-- the rounding step with the power of two abstracted to any positive `P` -/
def rneP (n P : Nat) : Nat :=
  if P < 2 * (n % P) ∨ (2 * (n % P) = P ∧ n / P % 2 = 1) then n / P + 1 else n / P

theorem rne_eq (n q : Nat) : rne n q = rneP n (2 ^ q) := rfl

theorem rneP_mono {a b P : Nat} (hP : 0 < P) (h : a ≤ b) : rneP a P ≤ rneP b P := by
  have ha := Nat.div_add_mod a P
  have hb := Nat.div_add_mod b P
  have hra := Nat.mod_lt a hP
  have hrb := Nat.mod_lt b hP
  have hf : a / P ≤ b / P := Nat.div_le_div_right h
  unfold rneP
  rcases Nat.lt_or_eq_of_le hf with hlt | heq
  · split <;> split <;> omega
  · rw [heq] at ha ⊢
    split <;> split <;> omega

/-- twice the distance to the rounded value is at most `P` -/
theorem rneP_near (n P : Nat) (hP : 0 < P) :
    2 * (rneP n P * P) ≤ 2 * n + P ∧ 2 * n ≤ 2 * (rneP n P * P) + P := by
  have ha := Nat.div_add_mod n P
  have hr := Nat.mod_lt n hP
  rw [Nat.mul_comm] at ha
  unfold rneP
  split
  · rw [Nat.add_mul, Nat.one_mul]; omega
  · omega

theorem rneP_le {n k P : Nat} (hP : 0 < P) (h : n ≤ k * P) : rneP n P ≤ k := by
  have ha := Nat.div_add_mod n P
  have hr := Nat.mod_lt n hP
  have hf : n / P ≤ k := by
    have := Nat.div_le_div_right (c := P) h
    rwa [Nat.mul_div_cancel _ hP] at this
  rcases Nat.lt_or_eq_of_le hf with hlt | heq
  · unfold rneP; split <;> omega
  · have : n % P = 0 := by
      rw [heq, Nat.mul_comm] at ha; omega
    unfold rneP; rw [this]; split <;> omega

theorem le_rneP {n k P : Nat} (hP : 0 < P) (h : k * P ≤ n) : k ≤ rneP n P := by
  have hf : k ≤ n / P := (Nat.le_div_iff_mul_le hP).2 h
  unfold rneP; split <;> omega

theorem rneP_one (n : Nat) : rneP n 1 = n := by
  unfold rneP; simp [Nat.mod_one]

/-! ## rounding to 53 significant bits -/

theorem round53_eq (n : Nat) : round53 n = rneP n (2 ^ dropBits n) * 2 ^ dropBits n := rfl

theorem log2_mono {a b : Nat} (h : a ≤ b) : a.log2 ≤ b.log2 := by
  by_cases ha : a = 0
  · subst ha; simp
  · have hb : b ≠ 0 := by omega
    exact (Nat.le_log2 hb).2 (Nat.le_trans (Nat.log2_self_le ha) h)

theorem dropBits_mono {a b : Nat} (h : a ≤ b) : dropBits a ≤ dropBits b := by
  have := log2_mono h
  unfold dropBits; omega

theorem dropBits_le_of_lt {n e : Nat} (h : n < 2 ^ (e + 53)) : dropBits n ≤ e := by
  by_cases hn : n = 0
  · subst hn; simp [dropBits]
  · have := (Nat.log2_lt hn).2 h
    unfold dropBits; omega

theorem round53_zero : round53 0 = 0 := by decide

/-- small integers are doubles -/
theorem round53_of_lt {n : Nat} (h : n < 2 ^ 53) : round53 n = n := by
  have h0 : dropBits n = 0 := by
    have := dropBits_le_of_lt (n := n) (e := 0) (by simpa using h); omega
  rw [round53_eq, h0]; simp [rneP_one]

/-- a multiple of `2^e` above `n` is above the rounded `n`, if the last kept bit of `n` is at or
below position `e` -/
theorem round53_le_mul {n m e : Nat} (h : n ≤ m * 2 ^ e) (hq : dropBits n ≤ e) :
    round53 n ≤ m * 2 ^ e := by
  have hp : 2 ^ e = 2 ^ (e - dropBits n) * 2 ^ dropBits n := by
    rw [← Nat.pow_add]; congr 1; omega
  rw [hp, ← Nat.mul_assoc] at h ⊢
  exact Nat.mul_le_mul_right _ (rneP_le (Nat.two_pow_pos _) h)

theorem le_round53_mul {n m e : Nat} (h : m * 2 ^ e ≤ n) (hq : dropBits n ≤ e) :
    m * 2 ^ e ≤ round53 n := by
  have hp : 2 ^ e = 2 ^ (e - dropBits n) * 2 ^ dropBits n := by
    rw [← Nat.pow_add]; congr 1; omega
  rw [hp, ← Nat.mul_assoc] at h ⊢
  exact Nat.mul_le_mul_right _ (le_rneP (Nat.two_pow_pos _) h)

theorem round53_mono {a b : Nat} (h : a ≤ b) : round53 a ≤ round53 b := by
  by_cases ha : a = 0
  · subst ha; rw [round53_zero]; exact Nat.zero_le _
  have hb : b ≠ 0 := by omega
  have hq := dropBits_mono h
  rcases Nat.lt_or_eq_of_le hq with hlt | heq
  · -- different binades: a power of two lies between
    have hl : a.log2 + 1 ≤ b.log2 := by unfold dropBits at hlt; omega
    have h1 : round53 a ≤ 1 * 2 ^ (a.log2 + 1) :=
      round53_le_mul (by rw [Nat.one_mul]; exact Nat.le_of_lt Nat.lt_log2_self)
        (by unfold dropBits; omega)
    have h2 : 1 * 2 ^ b.log2 ≤ round53 b :=
      le_round53_mul (by rw [Nat.one_mul]; exact Nat.log2_self_le hb) (by unfold dropBits; omega)
    have h3 : 2 ^ (a.log2 + 1) ≤ 2 ^ b.log2 := Nat.pow_le_pow_right (by decide) hl
    omega
  · rw [round53_eq, round53_eq, heq]
    exact Nat.mul_le_mul_right _ (rneP_mono (Nat.two_pow_pos _) h)

/-- relative error at most `2^-53` -/
theorem round53_rel (n : Nat) :
    round53 n * 2 ^ 53 ≤ n * (2 ^ 53 + 1) ∧ n * (2 ^ 53 - 1) ≤ round53 n * 2 ^ 53 := by
  by_cases h0 : dropBits n = 0
  · have : round53 n = n := by rw [round53_eq, h0]; simp [rneP_one]
    rw [this]; omega
  · have hn : n ≠ 0 := by intro h; subst h; simp [dropBits] at h0
    have hP : 2 ^ dropBits n * 2 ^ 52 ≤ n := by
      rw [← Nat.pow_add]
      have : dropBits n + 52 = n.log2 := by unfold dropBits at h0 ⊢; omega
      rw [this]; exact Nat.log2_self_le hn
    have := rneP_near n (2 ^ dropBits n) (Nat.two_pow_pos _)
    rw [round53_eq]
    omega

/-- absolute error at most half a unit in the last place, the unit being at most `2^e` -/
theorem round53_abs {n e : Nat} (hq : dropBits n ≤ e) :
    2 * round53 n ≤ 2 * n + 2 ^ e ∧ 2 * n ≤ 2 * round53 n + 2 ^ e := by
  have := rneP_near n (2 ^ dropBits n) (Nat.two_pow_pos _)
  have hp : 2 ^ dropBits n ≤ 2 ^ e := Nat.pow_le_pow_right (by decide) hq
  rw [round53_eq]; omega

/-! ## the share -/

theorem fifty_c002 : 50 * c002 = 2 ^ 58 + 6 := by decide

theorem shareRaw_eq (w : Nat) : shareRaw w = round53 (round53 w * c002) / 2 ^ 58 := rfl

theorem shareF64_eq_min (w : Nat) : shareF64 w = min (shareRaw w) (2 ^ 64 - 1) := rfl

theorem shareRaw_mono {a b : Nat} (h : a ≤ b) : shareRaw a ≤ shareRaw b := by
  rw [shareRaw_eq, shareRaw_eq]
  exact Nat.div_le_div_right (round53_mono (Nat.mul_le_mul_right _ (round53_mono h)))

/-- two-sided bound with the relative errors of the two roundings -/
theorem shareRaw_rel (w : Nat) :
    50 * shareRaw w * 2 ^ 56 ≤ w * (2 ^ 56 + 18) ∧
    w * (2 ^ 52 - 1) < 50 * (shareRaw w + 1) * 2 ^ 52 := by
  have h1 := round53_rel w
  have h2 := round53_rel (round53 w * c002)
  rw [shareRaw_eq]
  generalize round53 (round53 w * c002) = y at *
  generalize round53 w = x at *
  unfold c002 at h2
  lia

theorem shareRaw_le (w : Nat) : shareRaw w ≤ w := by
  have := (shareRaw_rel w).1
  lia

theorem shareF64_le (w : Nat) : shareF64 w ≤ w := by
  rw [shareF64_eq_min]; exact Nat.le_trans (Nat.min_le_left _ _) (shareRaw_le w)

theorem shareF64_mono (a b : Nat) (h : a ≤ b) : shareF64 a ≤ shareF64 b := by
  have := shareRaw_mono h
  rw [shareF64_eq_min, shareF64_eq_min]; omega

/-- for `u64` inputs the saturation of `as u64` is inactive (the result is below `2^59`) -/
theorem shareRaw_lt_of_u64 {w : Nat} (hw : w < 2 ^ 64) : shareRaw w < 2 ^ 59 := by
  have := (shareRaw_rel w).1
  lia

theorem shareF64_eq_raw {w : Nat} (hw : w < 2 ^ 64) : shareF64 w = shareRaw w := by
  have := shareRaw_lt_of_u64 hw
  rw [shareF64_eq_min]; omega

/-- for every clock that is a double (in particular below `2^53` ms, 285 000 years) the float
expression is the integer division by fifty -/
theorem shareRaw_eq_div50 {w : Nat} (hw : w < 2 ^ 53) : shareRaw w = w / 50 := by
  have hx : round53 w = w := round53_of_lt hw
  have hlt : w * c002 < 2 ^ (53 + 53) := by
    have hc : c002 < 2 ^ 53 := by decide
    rw [Nat.pow_add]
    exact Nat.mul_lt_mul'' hw hc
  have hq : dropBits (w * c002) ≤ 53 := dropBits_le_of_lt hlt
  have hup := (round53_abs hq).1
  -- lower bound: `(w / 50) * 2^58` is a double below the exact product
  have hlo : (w / 50) * 2 ^ 58 ≤ round53 (w * c002) := by
    apply le_round53_mul _ (by omega)
    have := fifty_c002
    have h50 : 50 * (w / 50) ≤ w := Nat.mul_div_le w 50
    calc (w / 50) * 2 ^ 58 ≤ (w / 50) * (50 * c002) := Nat.mul_le_mul_left _ (by omega)
      _ = (50 * (w / 50)) * c002 := by ac_rfl
      _ ≤ w * c002 := Nat.mul_le_mul_right _ h50
  rw [shareRaw_eq, hx]
  generalize round53 (w * c002) = y at *
  unfold c002 at hup
  lia

theorem shareF64_eq_div50 {w : Nat} (hw : w < 2 ^ 53) : shareF64 w = w / 50 := by
  rw [shareF64_eq_raw (by lia), shareRaw_eq_div50 hw]

theorem shareF64_le_div49 (w : Nat) : shareF64 w ≤ w / 49 := by
  have h := (shareRaw_rel w).1
  have : shareRaw w ≤ w / 49 := by lia
  rw [shareF64_eq_min]; omega

theorem shareF64_le_u64Max (w : Nat) : shareF64 w ≤ Chess.Uci.u64Max := by
  rw [shareF64_eq_min]; unfold Chess.Uci.u64Max; omega

/-- `u64` inputs: the float expression is within `-54 … +61` of the integer division.
(absolute errors: half an ulp `2^10` of `w as f64`, half an ulp `2^5` of the product, and the
excess `6 * 2^-58 / 50` of the literal `0.02` over one fiftieth) -/
theorem shareF64_near_u64 {w : Nat} (hw : w < 2 ^ 64) :
    w / 50 ≤ shareF64 w + 54 ∧ shareF64 w ≤ w / 50 + 61 := by
  have hq1 : dropBits w ≤ 11 := dropBits_le_of_lt (by simpa using hw)
  have a1 := round53_abs hq1
  have hx : round53 w ≤ 1 * 2 ^ 64 := round53_le_mul (by omega) (by omega)
  have hlt : round53 w * c002 < 2 ^ (64 + 53) := by
    have hc : c002 < 2 ^ 53 := by decide
    rw [Nat.pow_add]
    exact Nat.mul_lt_mul_of_le_of_lt (by omega) hc (Nat.two_pow_pos _)
  have hq2 : dropBits (round53 w * c002) ≤ 64 := dropBits_le_of_lt hlt
  have a2 := round53_abs hq2
  rw [shareF64_eq_raw hw, shareRaw_eq]
  generalize round53 (round53 w * c002) = y at *
  generalize round53 w = x at *
  unfold c002 at a2
  lia

/-! ## `ShareOK`, and the theorems of `Budget.lean` without the hypothesis -/

open Chess.Uci

theorem shareOK_f64 : ShareOK shareF64 := ⟨shareF64_le, shareF64_mono⟩

/-- `budget_monotone` for the real float expression: no hypothesis on `share` left. -/
theorem budget_monotone_f64 {wt wt' bt bt' wi bi : Nat}
    {side : Player} (hle : ownClock side wt bt ≤ ownClock side wt' bt')
    {infinite : Bool} {t t' : Nat}
    (h : budget (some wt) (some bt) (some wi) (some bi) none infinite side shareF64 = some t)
    (h' : budget (some wt') (some bt') (some wi) (some bi) none infinite side shareF64 = some t') :
    t ≤ t' :=
  budget_monotone shareOK_f64 hle h h'

theorem budget_monotone_white_f64 {wt wt' : Nat}
    (hle : wt ≤ wt') {btime winc binc movetime : Option Nat} {infinite : Bool} {t t' : Nat}
    (h : budget (some wt) btime winc binc movetime infinite .white shareF64 = some t)
    (h' : budget (some wt') btime winc binc movetime infinite .white shareF64 = some t') :
    t ≤ t' :=
  budget_monotone_white shareOK_f64 hle h h'

theorem budget_monotone_black_f64 {bt bt' : Nat}
    (hle : bt ≤ bt') {wtime winc binc movetime : Option Nat} {infinite : Bool} {t t' : Nat}
    (h : budget wtime (some bt) winc binc movetime infinite .black shareF64 = some t)
    (h' : budget wtime (some bt') winc binc movetime infinite .black shareF64 = some t') :
    t ≤ t' :=
  budget_monotone_black shareOK_f64 hle h h'

/-- the hypothesis of `budget_fits_u64` on `share`, discharged -/
theorem shareF64_fits {w : Nat} (hw : w ≤ u64Max) : shareF64 w ≤ u64Max := shareOK_f64.fits hw

/-- With the mover's clock below `2^53` ms the allotment computed with the float expression is the
allotment computed with `· / 50`: all the `(· / 50)` statements of `Budget.lean` (§5, §6) are
statements about the engine. -/
theorem budget_f64_eq_div50 {wt bt wi bi : Nat} {infinite : Bool} {side : Player}
    (h : ownClock side wt bt < 2 ^ 53) :
    budget (some wt) (some bt) (some wi) (some bi) none infinite side shareF64
      = budget (some wt) (some bt) (some wi) (some bi) none infinite side (· / 50) := by
  rw [budget_clock_eq, budget_clock_eq, shareF64_eq_div50 h]

theorem budget_f64_eq_div50' {wtime btime winc binc movetime : Option Nat} {infinite : Bool}
    {side : Player} (hw : ∀ w, wtime = some w → w < 2 ^ 53) (hb : ∀ w, btime = some w → w < 2 ^ 53) :
    budget wtime btime winc binc movetime infinite side shareF64
      = budget wtime btime winc binc movetime infinite side (· / 50) := by
  cases wtime <;> cases btime <;> cases winc <;> cases binc <;> simp only [budget]
  rename_i wt bt wi bi
  rw [shareF64_eq_div50 (hw wt rfl), shareF64_eq_div50 (hb bt rfl)]

/-- `budget_low_clock_shortens` for the engine's expression -/
theorem budget_low_clock_shortens_f64 {wt bt bi : Nat} (h : wt < 7500) :
    budget (some wt) (some bt) (some 0) (some bi) none false .white shareF64 = some 0 := by
  rw [budget_f64_eq_div50 (by simp only [ownClock]; omega)]
  exact budget_low_clock_shortens h

theorem budget_low_clock_shortens_black_f64 {wt bt wi : Nat} (h : bt < 7500) :
    budget (some wt) (some bt) (some wi) (some 0) none false .black shareF64 = some 0 := by
  rw [budget_f64_eq_div50 (by simp only [ownClock]; omega)]
  exact budget_low_clock_shortens_black h

/-- `budget_two_percent` for the engine's expression (clock below `2^53` ms) -/
theorem budget_two_percent_f64 {wt bt bi : Nat} (h : 7750 ≤ wt) (hu : wt < 2 ^ 53) :
    budget (some wt) (some bt) (some 0) (some bi) none false .white shareF64
      = some (wt / 50 - 155) := by
  rw [budget_f64_eq_div50 (by simpa only [ownClock] using hu)]
  exact budget_two_percent h (by unfold u64Max; omega)

/-! ## TESTS: the model against real doubles

Expected values computed with python3 `int(float(w) * 0.02)` (IEEE binary64, round-to-nearest-even
conversion and product, truncating `int`).  These guard against a wrong model; the bulk comparison
is `check_share_model` in `vlib/sessionchk.py`. -/

section Tests
-- the constant
example : c002 = 0x147AE147AE147B := by decide
example : c002 = 2 ^ 52 + 0x47AE147AE147B := by decide   -- hidden bit + fraction field of 0x3F947AE147AE147B
example : 50 * c002 = 2 ^ 58 + 6 := by decide
example : 2 ^ 52 ≤ c002 ∧ c002 < 2 ^ 53 := by decide
-- small
example : shareF64 0 = 0 := by decide
example : shareF64 1 = 0 := by decide
example : shareF64 49 = 0 := by decide
example : shareF64 50 = 1 := by decide
example : shareF64 51 = 1 := by decide
example : shareF64 7499 = 149 := by decide
example : shareF64 7500 = 150 := by decide
example : shareF64 60000 = 1200 := by decide
-- around 2^53: equal to w / 50 up to 2^53 + 6, different at 2^53 + 7
example : shareF64 9007199254740991 = 180143985094819 := by decide
example : shareF64 9007199254740992 = 180143985094819 := by decide
example : shareF64 9007199254740993 = 180143985094819 := by decide
example : shareF64 9007199254740999 = 180143985094820 := by decide
example : 9007199254740999 / 50 = 180143985094819 := by decide
example : shareF64 18014398509481985 = 360287970189639 := by decide
-- the conversion `as f64` itself: ties to even in both directions, carry into the next binade
example : u64ToF64 9007199254740993 = 9007199254740992 := by decide   -- 2^53+1 ↦ 2^53 (tie, even below)
example : u64ToF64 9007199254740995 = 9007199254740996 := by decide   -- 2^53+3 ↦ 2^53+4 (tie, even above)
example : u64ToF64 18014398509481985 = 18014398509481984 := by decide -- 2^54+1 ↦ 2^54 (below half)
example : u64ToF64 18014398509481987 = 18014398509481988 := by decide -- 2^54+3 ↦ 2^54+4 (above half)
example : u64ToF64 18446744073709551615 = 18446744073709551616 := by decide -- u64::MAX ↦ 2^64
example : u64ToF64 18446744073709550591 = 18446744073709549568 := by decide -- 2^64-1025 ↦ 2^64-2048
example : u64ToF64 18446744073709550592 = 18446744073709551616 := by decide -- 2^64-1024 ↦ 2^64 (tie, carry)
-- large
example : shareF64 9223372036854775808 = 184467440737095520 := by decide      -- 2^63, w/50 + 4
example : shareF64 18446744073709551615 = 368934881474191040 := by decide     -- u64::MAX, w/50 + 8
example : shareF64 18446744073709550591 = 368934881474190976 := by decide     -- w/50 - 35
example : shareF64 18446744073709550592 = 368934881474191040 := by decide     -- w/50 + 29
example : shareF64 10499958131665514997 = 209999162633310304 := by decide
example : shareF64 14799178230035213023 = 295983564600704256 := by decide
example : shareF64 1164115433906158532 = 23282308678123172 := by decide
example : shareF64 2175216119781798972 = 43504322395635976 := by decide
example : shareF64 14037279428536751483 = 280745588570735040 := by decide
example : shareF64 8711387064946514083 = 174227741298930272 := by decide
example : shareF64 437666554764512283 = 8753331095290245 := by decide
example : shareF64 242061413842535959 = 4841228276850719 := by decide
example : shareF64 562460430631906957 = 11249208612638140 := by decide
-- the budget with the float expression (same numbers as the `(· / 50)` examples of Budget.lean)
example : budget (some 60000) (some 60000) (some 1000) (some 1000) none false .white shareF64
    = some 2045 := by decide
example : budget (some 60000) (some 30000) (some 1000) (some 0) none false .black shareF64
    = some 445 := by decide
example : budget (some 1000) (some 60000) (some 0) (some 0) none false .white shareF64
    = some 0 := by decide
/-- with the largest clock: the `min` with the clock is what bounds the allotment -/
example : budget (some u64Max) (some 0) (some u64Max) (some 0) none false .white shareF64
    = some (u64Max - 155) := by decide
end Tests

end Chess.Share

#print axioms Chess.Share.round53_mono
#print axioms Chess.Share.round53_rel
#print axioms Chess.Share.shareRaw_rel
#print axioms Chess.Share.shareF64_le
#print axioms Chess.Share.shareF64_mono
#print axioms Chess.Share.shareF64_eq_raw
#print axioms Chess.Share.shareF64_eq_div50
#print axioms Chess.Share.shareF64_near_u64
#print axioms Chess.Share.shareF64_le_div49
#print axioms Chess.Share.shareOK_f64
#print axioms Chess.Share.budget_monotone_f64
#print axioms Chess.Share.budget_monotone_white_f64
#print axioms Chess.Share.budget_monotone_black_f64
#print axioms Chess.Share.budget_f64_eq_div50
#print axioms Chess.Share.budget_f64_eq_div50'
#print axioms Chess.Share.budget_low_clock_shortens_f64
#print axioms Chess.Share.budget_two_percent_f64
