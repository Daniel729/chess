import Chess.Lemmas.Invariant
import Chess.Lemmas.KeyFacts
import Chess.Lemmas.StartHash

/-!
# The cached hash and score of a well-formed game are the specification's sums (C04, C16, C05)

The caches hold, square by square, the specification's key and value of what stands there
(`CacheInv`), and the residues are the side and state keys (`WF`); so the running hash is
`Spec.zobrist` and the running score `Spec.psq` of the abstract position.  Sensitivity (C05) rests on
the kernel-decided `state_keys_distinct`, `square_keys_distinct`, `side_key_nonzero` of `KeyFacts.lean`;
the colour symmetry of the evaluation is generic in the seven tables.
-/
namespace Chess

/-! ### generic: `foldr` over a 64-vector as a `foldl` over `List.range 64` -/

theorem toList_eq_map_range {α : Type} {n : Nat} (v : Vector α n) (f : Nat → α)
    (h : ∀ (i : Nat) (hi : i < n), v[i] = f i) : v.toList = (List.range n).map f := by
  apply List.ext_getElem
  · simp
  · intro i h1 h2
    simp only [Vector.getElem_toList, List.getElem_map, List.getElem_range]
    exact h i (by simpa using h1)

theorem foldl_add_eq (f : Nat → Int) (l : List Nat) (a : Int) :
    l.foldl (fun s i => s + f i) a = a + (l.map f).sum := by
  induction l generalizing a with
  | nil => simp
  | cons x l ih => simp only [List.foldl_cons, ih, List.map_cons, List.sum_cons]; omega

theorem foldl_xor_eq (f : Nat → UInt64) (l : List Nat) (a : UInt64) :
    l.foldl (fun s i => s ^^^ f i) a = a ^^^ (l.map f).foldr (· ^^^ ·) 0 := by
  induction l generalizing a with
  | nil => simp
  | cons x l ih => simp only [List.foldl_cons, ih, List.map_cons, List.foldr_cons]; ac_rfl

theorem sumAll_eq_fold_of (v : Vector Int 64) (f : Nat → Int)
    (h : ∀ (i : Nat) (hi : i < 64), v[i] = f i) :
    sumAll v = (List.range 64).foldl (fun s i => s + f i) 0 := by
  rw [foldl_add_eq, sumAll, toList_eq_map_range v f h, List.sum]
  simp

theorem xorAll_eq_fold_of (v : Vector UInt64 64) (f : Nat → UInt64)
    (h : ∀ (i : Nat) (hi : i < 64), v[i] = f i) :
    xorAll v = (List.range 64).foldl (fun s i => s ^^^ f i) 0 := by
  rw [foldl_xor_eq, xorAll, toList_eq_map_range v f h]
  simp

/-! ### score (C16) -/

theorem scoreTable_eq_psqTable (t : PieceType) (eg : Bool) :
    Piece.scoreTable t eg = Spec.psqTable t eg := by
  cases t <;> rfl

theorem placeScore_eq_psqSquare {i : Nat} (h : i < 64) (eg : Bool) (x : Option Piece) :
    placeScore (Pos.ofIdx i) eg x = Spec.psqSquare eg i x := by
  cases x with
  | none => rfl
  | some pc =>
    obtain ⟨t, o⟩ := pc
    cases o
    · simp only [placeScore, Piece.score, Spec.psqSquare, Pos.ofIdx, Player.sign,
        scoreTable_eq_psqTable, Int.mul_one]
      congr 1
      omega
    · simp only [placeScore, Piece.score, Spec.psqSquare, Pos.ofIdx, Player.sign,
        scoreTable_eq_psqTable]
      have : (((i / 8 : Nat) : Int) * 8 + ((i % 8 : Nat) : Int)).toNat = i / 8 * 8 + i % 8 := by omega
      rw [this]
      omega


theorem getD_of_lt {α : Type} (v : Vector α 64) (d : α) {i : Nat} (h : i < 64) :
    v.toArray.getD i d = v[i] := by
  simp [Array.getD, h]

theorem sumAll_eq_fold {g : Game} (hc : g.CacheInv) :
    sumAll g.pastScores =
      (List.range 64).foldl (fun s i => s + Spec.psqSquare g.endgame i (g.board.toArray.getD i none)) 0 := by
  apply sumAll_eq_fold_of
  intro i hi
  rw [hc.scores i hi, placeScore_eq_psqSquare hi, getD_of_lt _ _ hi]

/-- the running score of a well-formed game is the specification's piece-square sum of the abstract
position, under the king table of the phase in force -/
theorem wf_score_eq_spec {g : Game} (hw : g.WF) : g.score = Spec.psq g.abs g.endgame := by
  rw [Game.wf_score_sum hw, sumAll_eq_fold hw.cache]
  rfl

theorem score_route_independent {g g' : Game} (hw : g.WF) (hw' : g'.WF)
    (ha : g.abs = g'.abs) (he : g.endgame = g'.endgame) : g.score = g'.score := by
  rw [wf_score_eq_spec hw, wf_score_eq_spec hw', ha, he]

/-! ### hash (C04) -/

theorem asIndex_eq_pieceIndex (pc : Piece) : pc.asIndex = Spec.pieceIndex pc := by
  obtain ⟨t, o⟩ := pc
  cases t <;> cases o <;> rfl

theorem placeHash_eq_squareKey {i : Nat} (h : i < 64) (x : Option Piece) :
    placeHash (Pos.ofIdx i) x = Spec.squareKey i x := by
  cases x with
  | none => rfl
  | some pc =>
    simp only [placeHash, Piece.hash, Spec.squareKey, Pos.idx_ofIdx h, asIndex_eq_pieceIndex]

theorem xorAll_eq_fold {g : Game} (hc : g.CacheInv) :
    xorAll g.pastHashes =
      (List.range 64).foldl (fun h i => h ^^^ Spec.squareKey i (g.board.toArray.getD i none)) 0 := by
  apply xorAll_eq_fold_of
  intro i hi
  rw [hc.hashes i hi, placeHash_eq_squareKey hi, getD_of_lt _ _ hi]

/-- the byte of the specification, computed from the fields read off an engine byte -/
def byteOfFields (s : GState) : Nat :=
  (match (if s.enPassant < 8 then some s.enPassant.toNat else none : Option Nat) with
    | some f => f | none => 8)
  + (if s.wk then 16 else 0) + (if s.wq then 32 else 0) + (if s.bk then 64 else 0)
  + (if s.bq then 128 else 0)

theorem byteOfFields_eq (s : GState) : s.enPassant ≤ 8 → byteOfFields s = s.toNat := by
  revert s; exact GState.forall_uint8 (by decide +kernel)

theorem stateByte_abs {g : Game} (h8 : g.top.enPassant ≤ 8) :
    Spec.stateByte g.abs = g.top.toNat := by
  rw [← byteOfFields_eq _ h8]; rfl

/-- C04: the running hash of a well-formed game is the XOR of the published keys of its abstract
position -/
theorem wf_hash_eq_spec {g : Game} (hw : g.WF) : g.hash = Spec.zobrist g.abs := by
  rw [Game.wf_hash_sum hw, xorAll_eq_fold hw.cache]
  unfold Spec.zobrist
  rw [stateByte_abs hw.ep.2]
  have : (if g.player = .black then Gen.blackToMove else 0)
      = (match g.abs.side with | .white => 0 | .black => Gen.blackToMove) := by
    show _ = (match g.player with | .white => 0 | .black => Gen.blackToMove)
    cases g.player <;> rfl
  rw [this]
  rfl

theorem hash_route_independent {g g' : Game} (hw : g.WF) (hw' : g'.WF)
    (ha : g.abs = g'.abs) : g.hash = g'.hash := by
  rw [wf_hash_eq_spec hw, wf_hash_eq_spec hw', ha]

/-! ### sensitivity (C05) -/

/-- position of a square content in `squareKeys i` -/
def optIndex : Option Piece → Nat
  | none => 0
  | some pc => Spec.pieceIndex pc + 1

theorem pieceIndex_lt (pc : Piece) : Spec.pieceIndex pc < 12 := by
  obtain ⟨t, o⟩ := pc
  cases t <;> cases o <;> decide

theorem pieceIndex_inj {p q : Piece} (h : Spec.pieceIndex p = Spec.pieceIndex q) : p = q := by
  obtain ⟨t, o⟩ := p
  obtain ⟨t', o'⟩ := q
  cases t <;> cases o <;> cases t' <;> cases o' <;> first | rfl | (exact absurd h (by decide))

theorem optIndex_inj : ∀ {x y : Option Piece}, optIndex x = optIndex y → x = y
  | none, none, _ => rfl
  | none, some _, h | some _, none, h => by simp only [optIndex] at h; omega
  | some p, some q, h => by
    simp only [optIndex] at h
    rw [pieceIndex_inj (p := p) (q := q) (by omega)]

theorem squareKeys_length (i : Nat) : (squareKeys i).length = 13 := by simp [squareKeys]

theorem optIndex_lt (i : Nat) (x : Option Piece) : optIndex x < (squareKeys i).length := by
  rw [squareKeys_length]
  cases x
  · simp [optIndex]
  · have := pieceIndex_lt ‹_›; simp only [optIndex]; omega

theorem squareKey_eq_getElem (i : Nat) (x : Option Piece) :
    Spec.squareKey i x = (squareKeys i)[optIndex x]'(optIndex_lt i x) := by
  cases x with
  | none => rfl
  | some pc => simp [Spec.squareKey, squareKeys, optIndex]

theorem squareKey_inj {i : Nat} (h : i < 64) {x y : Option Piece}
    (e : Spec.squareKey i x = Spec.squareKey i y) : x = y := by
  have hd : pairwiseDistinct (squareKeys i) = true :=
    List.all_eq_true.mp square_keys_distinct i (List.mem_range.mpr h)
  rw [squareKey_eq_getElem, squareKey_eq_getElem] at e
  exact optIndex_inj (pairwiseDistinct_inj hd _ _ e)

theorem stateKeys_getD {a : Nat} (h : a < 256) :
    Gen.stateKeys.getD a 0 = Gen.stateKeys.toList[a]'(by simpa [stateKeys_size] using h) := by
  simp [Array.getD, stateKeys_size, h]

theorem stateKey_inj {a b : Nat} (ha : a < 256) (hb : b < 256)
    (e : Gen.stateKeys.getD a 0 = Gen.stateKeys.getD b 0) : a = b := by
  rw [stateKeys_getD ha, stateKeys_getD hb] at e
  exact pairwiseDistinct_inj state_keys_distinct _ _ e

/-- the placement part of the Zobrist sum -/
def placementKey (b : Vector (Option Piece) 64) : UInt64 :=
  (List.range 64).foldl (fun h i => h ^^^ Spec.squareKey i (b.toArray.getD i none)) 0

theorem zobrist_eq (a : Spec.APos) :
    Spec.zobrist a = placementKey a.board
      ^^^ (match a.side with | .white => 0 | .black => Gen.blackToMove)
      ^^^ Gen.stateKeys.getD (Spec.stateByte a) 0 := rfl

theorem placementKey_set (b : Vector (Option Piece) 64) {i : Nat} (h : i < 64) (x : Option Piece) :
    placementKey (b.set i x) = placementKey b ^^^ Spec.squareKey i b[i] ^^^ Spec.squareKey i x := by
  let v : Vector UInt64 64 := Vector.ofFn (fun j : Fin 64 => Spec.squareKey j b[j])
  have e1 : xorAll v = placementKey b := by
    apply xorAll_eq_fold_of
    intro j hj
    simp [v, getD_of_lt _ _ hj]
  have e2 : xorAll (v.set i (Spec.squareKey i x)) = placementKey (b.set i x) := by
    apply xorAll_eq_fold_of
    intro j hj
    rw [getD_of_lt _ _ hj]
    by_cases e : i = j
    · subst e; simp
    · simp [v, Vector.getElem_set_ne, e]
  rw [← e2, xorAll_set _ _ _ h, e1]
  simp [v]

/-- replacing the content of one square by a different content changes the sum -/
theorem single_feature_sensitive_square (a : Spec.APos) {i : Nat} (h : i < 64) (x : Option Piece)
    (hx : x ≠ a.board[i]) :
    Spec.zobrist { a with board := a.board.set i x } ≠ Spec.zobrist a := by
  intro e
  rw [zobrist_eq, zobrist_eq] at e
  simp only [Spec.stateByte, placementKey_set _ h] at e
  have e' := (UInt64.xor_left_inj _).mp ((UInt64.xor_left_inj _).mp e)
  rw [UInt64.xor_assoc] at e'
  have e3 := UInt64.xor_eq_zero_iff.mp ((UInt64.xor_right_inj _).mp (e'.trans UInt64.xor_zero.symm))
  exact hx (squareKey_inj h e3).symm

/-- giving the move to the other side changes the sum -/
theorem single_feature_sensitive_side (a : Spec.APos) :
    Spec.zobrist { a with side := a.side.other } ≠ Spec.zobrist a := by
  intro e
  rw [zobrist_eq, zobrist_eq] at e
  simp only [Spec.stateByte] at e
  have e' := (UInt64.xor_right_inj _).mp ((UInt64.xor_left_inj _).mp e)
  cases hs : a.side <;> simp only [hs, Player.other] at e'
  · exact side_key_nonzero e'
  · exact side_key_nonzero e'.symm

/-- rights / en passant: two positions with the same board and side but different state
bytes have different sums -/
theorem single_feature_sensitive_state (a a' : Spec.APos) (hb : a'.board = a.board)
    (hs : a'.side = a.side) (h : Spec.stateByte a < 256) (h' : Spec.stateByte a' < 256)
    (hne : Spec.stateByte a' ≠ Spec.stateByte a) : Spec.zobrist a' ≠ Spec.zobrist a := by
  intro e
  rw [zobrist_eq, zobrist_eq, hb, hs] at e
  exact hne (stateKey_inj h' h ((UInt64.xor_right_inj _).mp e))

/-- the en-passant field is absent or a file -/
def EpOk (a : Spec.APos) : Prop := ∀ f, a.ep = some f → f < 8

theorem ite_toNat (b : Bool) (k : Nat) : (if b then k else 0) = k * b.toNat := by
  cases b <;> simp

theorem toNat_inj' {a b : Bool} (h : a.toNat = b.toNat) : a = b := by
  cases a <;> cases b <;> simp_all

/-- the low nibble of the state byte -/
def epNibble : Option Nat → Nat
  | some f => f
  | none => 8

theorem stateByte_eq (a : Spec.APos) : Spec.stateByte a =
    epNibble a.ep + 16 * a.wk.toNat + 32 * a.wq.toNat + 64 * a.bk.toNat + 128 * a.bq.toNat := by
  simp only [Spec.stateByte, ite_toNat]
  cases a.ep <;> rfl

theorem epNibble_le {a : Spec.APos} (h : EpOk a) : epNibble a.ep ≤ 8 := by
  unfold EpOk at h
  cases he : a.ep with
  | none => simp [epNibble]
  | some f => have := h f he; simp only [epNibble]; omega

theorem epNibble_inj : ∀ {x y : Option Nat}, (∀ f, x = some f → f < 8) → (∀ f, y = some f → f < 8) →
    epNibble x = epNibble y → x = y
  | none, none, _, _, _ => rfl
  | none, some f, _, h, e | some f, none, h, _, e => by have := h f rfl; simp only [epNibble] at e; omega
  | some f, some f', _, _, e => by simp only [epNibble] at e; rw [e]

/-- the fields are the digits of the byte -/
theorem stateByte_fields {a : Spec.APos} (h : EpOk a) :
    epNibble a.ep = Spec.stateByte a % 16 ∧ a.wk.toNat = Spec.stateByte a / 16 % 2
      ∧ a.wq.toNat = Spec.stateByte a / 32 % 2 ∧ a.bk.toNat = Spec.stateByte a / 64 % 2
      ∧ a.bq.toNat = Spec.stateByte a / 128 ∧ Spec.stateByte a < 256 := by
  rw [stateByte_eq]
  have := epNibble_le h
  have := Bool.toNat_le a.wk; have := Bool.toNat_le a.wq
  have := Bool.toNat_le a.bk; have := Bool.toNat_le a.bq
  omega

theorem stateByte_lt {a : Spec.APos} (h : EpOk a) : Spec.stateByte a < 256 :=
  (stateByte_fields h).2.2.2.2.2

/-- the state byte determines, and is determined by, the four rights and the en-passant field:
each right and each file individually changes the byte -/
theorem stateByte_inj_features {a a' : Spec.APos} (h : EpOk a) (h' : EpOk a') :
    Spec.stateByte a = Spec.stateByte a' ↔
      (a.wk, a.wq, a.bk, a.bq, a.ep) = (a'.wk, a'.wq, a'.bk, a'.bq, a'.ep) := by
  constructor
  · intro e
    obtain ⟨d1, d2, d3, d4, d5, -⟩ := stateByte_fields h
    obtain ⟨d1', d2', d3', d4', d5', -⟩ := stateByte_fields h'
    rw [e] at d1 d2 d3 d4 d5
    rw [toNat_inj' (d2.trans d2'.symm), toNat_inj' (d3.trans d3'.symm), toNat_inj' (d4.trans d4'.symm),
      toNat_inj' (d5.trans d5'.symm), epNibble_inj h h' (d1.trans d1'.symm)]
  · intro e
    simp only [Prod.mk.injEq] at e
    obtain ⟨e1, e2, e3, e4, e5⟩ := e
    simp only [Spec.stateByte, e1, e2, e3, e4, e5]

/-- C05: changing any single feature of an abstract position — the content of
one square, the side to move, one of the rights or the en-passant file — changes its Zobrist sum -/
theorem single_feature_sensitive (a : Spec.APos) :
    (∀ (i : Nat) (h : i < 64) (x : Option Piece), x ≠ a.board[i] →
        Spec.zobrist { a with board := a.board.set i x } ≠ Spec.zobrist a)
    ∧ Spec.zobrist { a with side := a.side.other } ≠ Spec.zobrist a
    ∧ (∀ a' : Spec.APos, a'.board = a.board → a'.side = a.side → EpOk a → EpOk a' →
        (a'.wk, a'.wq, a'.bk, a'.bq, a'.ep) ≠ (a.wk, a.wq, a.bk, a.bq, a.ep) →
        Spec.zobrist a' ≠ Spec.zobrist a) := by
  refine ⟨fun i h x hx => single_feature_sensitive_square a h x hx,
    single_feature_sensitive_side a, ?_⟩
  intro a' hb hs h h' hne
  exact single_feature_sensitive_state a a' hb hs (stateByte_lt h) (stateByte_lt h')
    (fun e => hne ((stateByte_inj_features h' h).mp e))

theorem epOk_abs (g : Game) : EpOk g.abs := by
  intro f hf
  simp only [Game.abs] at hf
  split at hf
  · simp only [Option.some.injEq] at hf; omega
  · cases hf

/-- transfer to the engine: two well-formed games whose abstract positions have different
Zobrist sums have different running hashes -/
theorem hash_sensitive_of_abs {g g' : Game} (hw : g.WF) (hw' : g'.WF)
    (h : Spec.zobrist g'.abs ≠ Spec.zobrist g.abs) : g'.hash ≠ g.hash := by
  rw [wf_hash_eq_spec hw, wf_hash_eq_spec hw']; exact h

/-- two well-formed games whose positions differ in exactly one feature have different hashes -/
theorem hash_sensitive_single_feature {g g' : Game} (hw : g.WF) (hw' : g'.WF) :
    (∀ (i : Nat) (h : i < 64) (x : Option Piece), x ≠ g.board[i] →
        g'.abs = { g.abs with board := g.abs.board.set i x } → g'.hash ≠ g.hash)
    ∧ (g'.abs = { g.abs with side := g.abs.side.other } → g'.hash ≠ g.hash)
    ∧ (g'.board = g.board → g'.player = g.player →
        (g'.top.wk, g'.top.wq, g'.top.bk, g'.top.bq, g'.abs.ep)
          ≠ (g.top.wk, g.top.wq, g.top.bk, g.top.bq, g.abs.ep) → g'.hash ≠ g.hash) := by
  refine ⟨fun i h x hx e => ?_, fun e => ?_, fun hb hp hne => ?_⟩ <;> apply hash_sensitive_of_abs hw hw'
  · rw [e]; exact single_feature_sensitive_square g.abs h x hx
  · rw [e]; exact single_feature_sensitive_side g.abs
  · exact (single_feature_sensitive g.abs).2.2 g'.abs hb hp (epOk_abs g) (epOk_abs g') hne

/-! ### colour symmetry of the evaluation (C16) -/

/-- the rank flip on square indices -/
def mir (i : Nat) : Nat := (7 - i / 8) * 8 + i % 8

theorem mir_perm : ((List.range 64).map mir).Perm (List.range 64) := by decide +kernel

/-- a fold of a commuting update over the 64 squares may be taken in rank-flipped order -/
theorem foldl_mir {β : Type} (f : β → Nat → β) (hc : ∀ z x y, f (f z x) y = f (f z y) x) (b : β) :
    (List.range 64).foldl (fun s i => f s (mir i)) b = (List.range 64).foldl f b := by
  rw [← List.foldl_map]
  exact mir_perm.foldl_eq' (fun x _ y _ z => hc z x y) b

theorem foldl_congr_mem {α β : Type} {f g : β → α → β} {l : List α} (h : ∀ b, ∀ a ∈ l, f b a = g b a)
    (b : β) : l.foldl f b = l.foldl g b := by
  induction l generalizing b with
  | nil => rfl
  | cons a l ih =>
    rw [List.foldl_cons, List.foldl_cons, h b a (List.mem_cons_self ..)]
    exact ih (fun b a ha => h b a (List.mem_cons_of_mem _ ha)) _

theorem foldl_add_neg (F : Nat → Int) (l : List Nat) (b : Int) :
    l.foldl (fun s j => s + -F j) (-b) = -(l.foldl (fun s j => s + F j) b) := by
  induction l generalizing b with
  | nil => rfl
  | cons x l ih => rw [List.foldl_cons, List.foldl_cons, ← Int.neg_add]; exact ih _

/-- swap the colour of a piece -/
def flipPiece (pc : Piece) : Piece := ⟨pc.pieceType, pc.owner.other⟩

theorem mirror_board_getD (a : Spec.APos) {i : Nat} (h : i < 64) :
    (Spec.mirror a).board.toArray.getD i none = (a.board.toArray.getD (mir i) none).map flipPiece := by
  rw [getD_of_lt _ _ h]
  simp only [Spec.mirror, Vector.getElem_ofFn]
  rfl

/-- one square: the colour-swapped piece on the rank-flipped square is worth the opposite -/
theorem psqSquare_mirror (e : Bool) {i : Nat} (h : i < 64) (x : Option Piece) :
    Spec.psqSquare e i (x.map flipPiece) = - Spec.psqSquare e (mir i) x := by
  cases x with
  | none => simp [Spec.psqSquare]
  | some pc =>
    obtain ⟨t, o⟩ := pc
    cases o
    · simp only [Option.map_some, flipPiece, Player.other, Spec.psqSquare]
      have : (7 - mir i / 8) * 8 + mir i % 8 = i / 8 * 8 + i % 8 := by unfold mir; omega
      rw [this]
    · simp only [Option.map_some, flipPiece, Player.other, Spec.psqSquare, Int.neg_neg]
      have : mir i / 8 * 8 + mir i % 8 = (7 - i / 8) * 8 + i % 8 := by unfold mir; omega
      rw [this]

/-- a commuting fold over the squares of the colour-mirrored position is the same fold over the
position itself, of the opposite values -/
theorem foldl_mirror {β : Type} (f : β → Int → β) (hc : ∀ z x y, f (f z x) y = f (f z y) x)
    (a : Spec.APos) (e : Bool) (b : β) :
    (List.range 64).foldl (fun s i => f s (Spec.psqSquare e i ((Spec.mirror a).board.toArray.getD i none))) b
      = (List.range 64).foldl (fun s j => f s (-Spec.psqSquare e j (a.board.toArray.getD j none))) b := by
  rw [← foldl_mir (fun s j => f s (-Spec.psqSquare e j (a.board.toArray.getD j none))) (fun z _ _ => hc z _ _)]
  refine foldl_congr_mem (fun s i hi => ?_) _
  have hi := List.mem_range.mp hi
  rw [mirror_board_getD a hi, psqSquare_mirror e hi]

/-- C16: the piece-square sum of the colour-mirrored position is the opposite, for every
position and either king table — generic in the tables -/
theorem mirror_negates (a : Spec.APos) (e : Bool) :
    Spec.psq (Spec.mirror a) e = - Spec.psq a e :=
  (foldl_mirror (· + ·) (fun z x y => by omega) a e 0).trans (foldl_add_neg _ _ 0)

/-- the end-game test does not see colours -/
theorem lowMaterial_mirror (a : Spec.APos) (e : Bool) :
    Spec.lowMaterial (Spec.mirror a) e = Spec.lowMaterial a e := by
  unfold Spec.lowMaterial
  rw [foldl_mirror (fun s v => s + v.natAbs) (fun z x y => by omega)]
  simp only [Int.natAbs_neg]

end Chess

#print axioms Chess.wf_hash_eq_spec
#print axioms Chess.hash_route_independent
#print axioms Chess.start_hash
#print axioms Chess.startPos_eq_fen
#print axioms Chess.wf_score_eq_spec
#print axioms Chess.score_route_independent
#print axioms Chess.mirror_negates
#print axioms Chess.lowMaterial_mirror
#print axioms Chess.single_feature_sensitive
#print axioms Chess.single_feature_sensitive_square
#print axioms Chess.single_feature_sensitive_side
#print axioms Chess.single_feature_sensitive_state
#print axioms Chess.stateByte_inj_features
#print axioms Chess.hash_sensitive_of_abs
#print axioms Chess.hash_sensitive_single_feature
#print axioms Chess.squareKey_inj
#print axioms Chess.stateKey_inj
#print axioms Chess.state_keys_distinct
#print axioms Chess.square_keys_distinct
#print axioms Chess.side_key_nonzero
