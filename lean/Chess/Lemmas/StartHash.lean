import Chess.Spec.Fen

/-!
# The Zobrist sum of the standard start position is the constant published in the README (C04)

Kernel-decided on the generated keys and on the constant extracted from `README.md`: a change of
key layout, offsets or endianness in the engine's key file breaks this file.
-/
namespace Chess

/-- the back rank, files a–h -/
def backRank (o : Player) : List (Option Piece) :=
  [some ⟨.rook, o⟩, some ⟨.knight, o⟩, some ⟨.bishop, o⟩, some ⟨.queen, o⟩,
   some ⟨.king, o⟩, some ⟨.bishop, o⟩, some ⟨.knight, o⟩, some ⟨.rook, o⟩]

/-- the 64 squares of the standard start position, rank 1 first -/
def startSquares : List (Option Piece) :=
  backRank .white ++ List.replicate 8 (some ⟨.pawn, .white⟩) ++ List.replicate 32 none
    ++ List.replicate 8 (some ⟨.pawn, .black⟩) ++ backRank .black

/-- the standard start position: all four rights, White to move, no en-passant file -/
def startPos : Spec.APos :=
  { board := ⟨startSquares.toArray, by decide⟩
    side := .white, wk := true, wq := true, bk := true, bq := true, ep := none }

/-- `rnbqkbnr/pppppppp/8/8/8/8/PPPPPPPP/RNBQKBNR w KQkq - 0 1` -/
def startFen : List Char :=
  ['r', 'n', 'b', 'q', 'k', 'b', 'n', 'r', '/', 'p', 'p', 'p', 'p', 'p', 'p', 'p', 'p', '/', '8', '/', '8', '/', '8', '/', '8', '/', 'P', 'P', 'P', 'P', 'P', 'P', 'P', 'P', '/', 'R', 'N', 'B', 'Q', 'K', 'B', 'N', 'R', ' ', 'w', ' ', 'K', 'Q', 'k', 'q', ' ', '-', ' ', '0', ' ', '1']

/-- cross-check of the literal above: it is what the specification's strict FEN reading gives for
the standard start text -/
theorem startPos_eq_fen : Spec.fenStrict startFen = some startPos := by decide +kernel

theorem start_hash : Spec.zobrist startPos = Gen.readmeStartHash := by decide +kernel

end Chess
