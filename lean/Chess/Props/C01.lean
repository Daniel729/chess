import Chess.Lemmas.Pseudo
import Chess.Lemmas.Attack
import Chess.Lemmas.Generated
import Chess.Lemmas.Reach
import Chess.Lemmas.Legal
import Chess.Lemmas.Perft
import Chess.Lemmas.FnsEquiv.Position
import Chess.Lemmas.FnsEquiv.PositionAdd

/-!
# C01 — generated moves are exactly the legal moves of chess

Layers (DESIGN §6 C01). The rules are `Chess/Spec/Rules.lean` (`Spec.attacked`, `pseudo`, `play`,
`legal`, `legalList`), written declaratively and sharing no code with the generators.
L1 attack detection = the rules' `attacked`; L2 every generator = the rules' `pseudo` for its piece
kind (the one documented difference: the engine drops king steps next to the enemy king, which
are illegal anyway); the unchecked list has no repetition; L3 the filter is characterised (the
not-in-check shortcut and the filter test read through the refinement square C02); L4 the final
assembly `checked = legal` is `the_main_theorem` below.
-/
namespace Chess.Props.C01
open Chess Chess.Game

variable {g : Game}

/-- **L1** The engine's attack scan (king ring, knight ring, two pawn squares by colour, eight
rays stopping at the first piece) is exactly the rules' "attacked by" — every game, every square. -/
theorem attack_scan_is_the_rules (g : Game) {p : Pos} (hp : p.Valid) (pl : Player) :
    g.isTargeted p pl = Spec.attacked g.abs (p.row, p.col) pl.other :=
  Game.isTargeted_iff_attacked g hp pl

/-- **L2a** Every move of the unchecked list is a geometrically valid piece move of the rules. -/
theorem unchecked_moves_are_valid_piece_moves (hw : g.WF) {m : Move} (hm : m ∈ (g.getMoves false).1) :
    Spec.pseudo g.abs m.toSpec = true :=
  Game.unchecked_subset_pseudo hw (Game.getMoves_subset hw false hm)

/-- **L2b** Conversely every valid piece move of the rules is generated, except king steps onto a
square next to the enemy king (never legal). -/
theorem valid_piece_moves_are_generated (hw : g.WF) (hke : g.kingExists g.player = true)
    {u : Spec.UciMove} (hps : Spec.pseudo g.abs u = true) :
    (∃ m ∈ g.pseudoMoves, m.toSpec = u)
      ∨ (g.get ⟨u.src.1, u.src.2⟩ = some ⟨.king, g.player⟩ ∧ Game.NearKingStep g u) :=
  Game.pseudo_subset_unchecked hw hke hps

theorem king_steps_next_to_enemy_king_are_illegal (hw : g.WF) {u : Spec.UciMove}
    (hg : g.get ⟨u.src.1, u.src.2⟩ = some ⟨.king, g.player⟩) (hps : Spec.pseudo g.abs u = true)
    (hnear : Game.NearKingStep g u)
    (hek : g.get (g.kingPos g.player.other) = some ⟨.king, g.player.other⟩) :
    Spec.legal g.abs u = false ∨ Spec.inCheck g.abs g.player.other = true :=
  Game.near_king_step_illegal g hw hg hps hnear hek

/-- **none repeated** The generated list has no duplicates, neither as engine moves nor as moves
of the rules (distinct generated moves have distinct from/to/promotion). -/
theorem no_move_repeated (hw : g.WF) :
    g.pseudoMoves.Nodup ∧ (g.pseudoMoves.map Move.toSpec).Nodup ∧ (g.getMoves true).1.Nodup := by
  refine ⟨Game.pseudoMoves_nodup hw, Game.pseudoMoves_toSpec_nodup hw, ?_⟩
  have hs := Game.checked_sublist_unchecked hw
  rw [Game.getMoves_false] at hs
  exact hs.nodup (Game.pseudoMoves_nodup hw)

/-- **the filter** A generated move is in the checked list iff it passes the engine's test: the
shortcut applies (king not attacked, a `Normal` move from a square not aligned with the king) or
the mover's king is not attacked after the move. The checked list is a sub-list of the unchecked. -/
theorem checked_list_characterised (hw : g.WF) (m : Move) :
    m ∈ (g.getMoves true).1 ↔
      m ∈ g.pseudoMoves ∧
        ((!g.isTargeted (g.kingPos g.player) g.player && skipsCheck (g.kingPos g.player) m) = true
          ∨ ¬ (g.push m).isTargeted ((g.push m).kingPos g.player) g.player = true) :=
  Game.mem_checked_iff hw m

theorem checked_sublist_of_unchecked (hw : g.WF) : (g.getMoves true).1.Sublist (g.getMoves false).1 :=
  Game.checked_sublist_unchecked hw


/-! ### The property at full strength -/
open Chess.Legal in
/-- **C01** For every position reachable by legal play (moves played into the record or
search-style) from a start position that is sane by the rules (`Spec.sane`: one king each,
possible material, no pawn on the first/eighth rank, side not to move not in check, castling
rights and en-passant file backed by the board): the checked list, read as moves of the rules, is
a PERMUTATION of the legal moves (none missing, none extra), has no repetition, is a sub-list of
the unchecked list, and every move of the unchecked list is a valid piece move whose only possible
fault is that it leaves the mover's own king attacked. -/
theorem the_main_theorem {g0 g : Game} (hw : g0.WF) (h0 : Spec.sane g0.abs = true) (h : LegalReach g0 g) :
    ((g.getMoves true).1.map Move.toSpec).Perm (Spec.legalList g.abs)
    ∧ (g.getMoves true).1.Nodup
    ∧ (g.getMoves true).1.Sublist (g.getMoves false).1
    ∧ ∀ m ∈ (g.getMoves false).1, Spec.pseudo g.abs m.toSpec = true ∧
        (m ∉ (g.getMoves true).1 → Spec.inCheck (Spec.play g.abs m.toSpec) g.player = true) :=
  Chess.Legal.C01 hw h0 h

open Chess.Legal in
/-- …for a start position imported from FEN text: no hypothesis beyond sanity of the text's position. -/
theorem from_imported_text {s : List Char} {g0 g : Game} (hok : Game.ofFen s = .ok g0)
    (h0 : Spec.sane g0.abs = true) (h : LegalReach g0 g) :
    ((g.getMoves true).1.map Move.toSpec).Perm (Spec.legalList g.abs)
    ∧ (g.getMoves true).1.Nodup
    ∧ (g.getMoves true).1.Sublist (g.getMoves false).1
    ∧ ∀ m ∈ (g.getMoves false).1, Spec.pseudo g.abs m.toSpec = true ∧
        (m ∉ (g.getMoves true).1 → Spec.inCheck (Spec.play g.abs m.toSpec) g.player = true) :=
  Chess.Legal.C01_imported hok h0 h

open Chess.Legal in
/-- the texts the engine prints for its checked list are exactly the texts of the legal moves -/
theorem legal_move_texts {g : Game} (hs : SaneG g) :
    ((g.getMoves true).1.map Move.uci).Perm ((Spec.legalList g.abs).map Spec.UciMove.text) :=
  checked_uci_perm hs

open Chess.Legal in
/-- the not-in-check shortcut of the filter is sound (the lemma specific to this engine) -/
theorem shortcut_is_sound {g : Game} (hs : SaneG g) {pc : Piece} {start stop : Pos}
    {cap : Option Piece} (hm : Move.normal pc start stop cap ∈ g.pseudoMoves)
    (hsafe : g.isTargeted (g.kingPos g.player) g.player = false)
    (hskip : skipsCheck (g.kingPos g.player) (.normal pc start stop cap) = true) :
    Spec.inCheck (Spec.play g.abs (Move.normal pc start stop cap).toSpec) g.player = false :=
  shortcut_sound hs hm hsafe hskip

open Chess.Legal in
/-- non-vacuity: the standard start position is imported, is sane, and meets every hypothesis -/
theorem start_position_qualifies : ∃ g, Game.ofFen startFen = .ok g ∧ g.abs = startPos ∧ SaneG g :=
  start_saneG

open Chess.Legal Chess.Perft in
/-- **C01, corollary: the perft counts are the rules' counts.** `Game.perft` mirrors `perft` of
`performance_test.rs` (in-place push / recursion / pop, the `depth == 1` shortcut); `Spec.perft` counts
the legal lines of the given length by the rules. For every position reachable by legal play from a
sane start they agree at EVERY depth, and the function leaves the game as it found it — the six
perft tables of the test suite are instances of this theorem for depths the suite can afford. -/
theorem perft_counts_are_the_rules' {g0 g : Game} (h : LegalReach g0 g) (hw : g0.WF)
    (h0 : Spec.sane g0.abs = true) (d : Nat) :
    g.perft d = Spec.perft d g.abs ∧ g.perftGame d = g :=
  ⟨perft_eq_spec h hw h0 d, perft_restores (legalReach_sane (saneG_of_sane hw h0) h).wf d⟩

end Chess.Props.C01

#print axioms Chess.Props.C01.attack_scan_is_the_rules
#print axioms Chess.Props.C01.unchecked_moves_are_valid_piece_moves
#print axioms Chess.Props.C01.valid_piece_moves_are_generated
#print axioms Chess.Props.C01.king_steps_next_to_enemy_king_are_illegal
#print axioms Chess.Props.C01.no_move_repeated
#print axioms Chess.Props.C01.checked_list_characterised
#print axioms Chess.Props.C01.checked_sublist_of_unchecked
#print axioms Chess.Props.C01.the_main_theorem
#print axioms Chess.Props.C01.from_imported_text
#print axioms Chess.Props.C01.legal_move_texts
#print axioms Chess.Props.C01.shortcut_is_sound
#print axioms Chess.Props.C01.start_position_qualifies
#print axioms Chess.Props.C01.perft_counts_are_the_rules'

/-! ### Translation tie (C01.T)
`tools/translate.py` regenerates `Chess/Gen/Fns.lean` from the Rust text of the leaf functions on every run (a
parser, not patterns); the theorems below — proved in `Chess/Lemmas/FnsEquiv/*` and re-checked by the kernel whenever
the generated term changes — say that the TRANSLATED code equals the hand-written model this file's theorems are
about, for the generator's square arithmetic (`Position::new`, `Position::add`, the rook home squares). A rewrite of the Rust text that keeps the meaning leaves them true; one that changes it breaks the
theorem named after the function. -/
#print axioms Chess.FnsEquiv.Position_new_eq
#print axioms Chess.FnsEquiv.Position_add_eq
#print axioms Chess.FnsEquiv.Position_ROOKS_eq
