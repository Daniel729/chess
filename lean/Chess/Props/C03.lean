import Chess.Lemmas.PushPop
import Chess.Lemmas.Generated

/-!
# C03 — taking a move back restores the game exactly; queries change nothing
-/
namespace Chess.Props.C03
open Chess Chess.Game

/-- **C03.1** Playing a move that fits the game (every generated move does, checked or unchecked,
king captures included: legality is not required) and taking it back yields *the same game
structure*: board, both caches, score, hash, king squares, side, state stack, move record, phase. -/
theorem takeback_restores (g : Game) (m : Move) (hf : g.Fits m) (hc : g.CacheInv) :
    (g.push m).pop m = g :=
  Game.pop_push g m hf hc

/-- a well-bracketed play/take-back word, the shape a search performs -/
inductive Word where
  | done
  | play (m : Move) (inner rest : Word)

/-- run a bracketed word: play `m`, run the inner word, take `m` back, go on -/
def run : Game → Word → Game
  | g, .done => g
  | g, .play m inner rest => run ((run (g.push m) inner).pop m) rest

/-- every move of the word fits the game it is played in, whose caches are consistent -/
def Ok : Game → Word → Prop
  | _, .done => True
  | g, .play m inner rest => g.Fits m ∧ g.CacheInv ∧ Ok (g.push m) inner ∧ Ok g rest

/-- **C03.2** Any nested play/take-back sequence leaves the game exactly as it was. -/
theorem nested_restores (g : Game) (w : Word) (h : Ok g w) : run g w = g := by
  induction w generalizing g with
  | done => rfl
  | play m inner rest ih1 ih2 =>
    obtain ⟨hf, hc, hi, hr⟩ := h
    simp only [run]
    rw [ih1 (g.push m) hi, Game.pop_push g m hf hc]
    exact ih2 g hr

/-- **C03.1'** Every move either generator mode can produce in a well-formed game — checked or
unchecked list, captures of a king included — is restored exactly by take-back. -/
theorem takeback_restores_generated (g : Game) (hw : g.WF) (b : Bool) (m : Move)
    (hm : m ∈ (g.getMoves b).1) : (g.push m).pop m = g :=
  Game.pop_push g m (Game.getMoves_fits hw b hm).1 hw.cache

/-- **C03.3** Asking for the move list (either mode) never alters the game: the game returned
by the query — after all its internal play/test/take-back steps — is the game it was given. -/
theorem query_changes_nothing (g : Game) (hw : g.WF) (b : Bool) : (g.getMoves b).2 = g :=
  Game.getMoves_pure hw b

/-- the checked list is a sub-list of the unchecked one (same order, some moves filtered out) -/
theorem checked_sublist_unchecked (g : Game) (hw : g.WF) :
    (g.getMoves true).1.Sublist (g.getMoves false).1 :=
  Game.checked_sublist_unchecked hw

/-! ### Non-vacuity: a concrete game in which the hypotheses hold -/

/-- an empty board with consistent caches -/
def blank : Game :=
  { score := 0, player := .white, moveStack := [], endgame := false, hash := 0,
    board := Vector.replicate 64 none, pastScores := Vector.replicate 64 0,
    pastHashes := Vector.replicate 64 Gen.emptyPlace, wking := ⟨0, 4⟩, bking := ⟨7, 4⟩, state := [8] }

theorem blank_cacheInv : blank.CacheInv := by
  constructor <;> intro i hi <;> simp [blank, placeHash, placeScore]

/-- a white rook on a1 -/
def rookGame : Game := blank.setPosition ⟨0, 0⟩ (some ⟨.rook, .white⟩)

theorem rookGame_cacheInv : rookGame.CacheInv :=
  setPosition_cacheInv _ _ _ (by decide) blank_cacheInv

theorem rookMove_fits : rookGame.Fits (.normal ⟨.rook, .white⟩ ⟨0, 0⟩ ⟨0, 3⟩ none) := by
  refine ⟨by decide, by decide, by decide, ?_, ?_, by simp⟩
  · exact get_setPosition_self _ _ _ (by decide)
  · rw [rookGame, get_setPosition_ne _ _ _ (by decide) _ (by decide) (by decide)]
    simp [blank, Game.get]

example : (rookGame.push (.normal ⟨.rook, .white⟩ ⟨0, 0⟩ ⟨0, 3⟩ none)).pop
    (.normal ⟨.rook, .white⟩ ⟨0, 0⟩ ⟨0, 3⟩ none) = rookGame :=
  takeback_restores _ _ rookMove_fits rookGame_cacheInv

example : Ok rookGame (.play (.normal ⟨.rook, .white⟩ ⟨0, 0⟩ ⟨0, 3⟩ none) .done .done) :=
  ⟨rookMove_fits, rookGame_cacheInv, trivial, trivial⟩

end Chess.Props.C03

#print axioms Chess.Props.C03.takeback_restores
#print axioms Chess.Props.C03.nested_restores
#print axioms Chess.Props.C03.takeback_restores_generated
#print axioms Chess.Props.C03.query_changes_nothing
#print axioms Chess.Props.C03.checked_sublist_unchecked
