import Chess.Lemmas.Reach
import Chess.Lemmas.SpecSums
import Chess.Lemmas.FenWrite
import Chess.Lemmas.FnsEquiv.GameState
import Chess.Lemmas.FnsEquiv.Piece
import Chess.Lemmas.FnsEquiv.Position
import Chess.Lemmas.FnsEquiv.Hash

/-!
# C04 — the position hash depends only on the position and is stable

`Spec.zobrist a` is the XOR of the published key-file entries of everything the rules care about in
the abstract position `a` (placement, side, rights, en-passant file); the keys are regenerated
from `zobrist_bytes.bin` with the byte offsets and layout parsed out of `zobrist.rs` on every run.
-/
namespace Chess.Props.C04
open Chess

/-- **C04.1** In every reachable game — imported from text, reached by moves played into the
record, or by search-style play and take-back — the incrementally maintained hash IS the key-file
sum of the position. -/
theorem hash_is_the_key_sum {g : Game} (h : Reach g) : g.hash = Spec.zobrist g.abs :=
  wf_hash_eq_spec (reach_wf h)

/-- **C04.2** Hence it does not depend on the route: one move order, another, a round trip, rights
lost by different routes, import from text — equal positions have equal hashes. -/
theorem hash_route_independent {g g' : Game} (h : Reach g) (h' : Reach g') (e : g.abs = g'.abs) :
    g.hash = g'.hash :=
  Chess.hash_route_independent (reach_wf h) (reach_wf h') e

/-- **C04.3** Exporting a reachable game as FEN and importing it again yields the same hash
(whenever the import succeeds: the reader checks that the rights/en-passant data are backed by the
board, so the imported game is reachable, and it denotes the same abstract position). -/
theorem hash_survives_reimport {g g' : Game} (h : Reach g) (hok : Game.ofFen g.fen = .ok g') :
    g'.hash = g.hash := by
  have h' : Reach g' := Reach.imported g.fen g' hok
  exact Chess.hash_route_independent (reach_wf h') (reach_wf h) (fen_roundtrip_abs_of_ok hok)

/-- **C04.4** The standard start position hashes to the constant published in README.md — decided
by the kernel on the generated keys (a change of key file, offsets, layout or endianness breaks
this theorem). `startPos` is the start position written out, and it is what the start FEN denotes. -/
theorem start_position_hash : Spec.zobrist startPos = Gen.readmeStartHash ∧
    Spec.fenStrict startFen = some startPos :=
  ⟨start_hash, startPos_eq_fen⟩

end Chess.Props.C04

#print axioms Chess.Props.C04.hash_is_the_key_sum
#print axioms Chess.Props.C04.hash_route_independent
#print axioms Chess.Props.C04.hash_survives_reimport
#print axioms Chess.Props.C04.start_position_hash

/-! ### Translation tie (C04.T)
`tools/translate.py` regenerates `Chess/Gen/Fns.lean` from the Rust text of the leaf functions on every run (a
parser, not patterns); the theorems below — proved in `Chess/Lemmas/FnsEquiv/*` and re-checked by the kernel whenever
the generated term changes — say that the TRANSLATED code equals the hand-written model this file's theorems are
about, for what indexes the key tables: the state byte (`STATE[bitfield]`), `Piece::as_index` and `Position::as_usize` (`PIECE[sq][index]`). A rewrite of the Rust text that keeps the meaning leaves them true; one that changes it breaks the
theorem named after the function. -/
#print axioms Chess.FnsEquiv.GameState_default_eq
#print axioms Chess.FnsEquiv.GameState_en_passant_eq
#print axioms Chess.FnsEquiv.GameState_set_en_passant_eq
#print axioms Chess.FnsEquiv.Piece_as_index_eq
#print axioms Chess.FnsEquiv.Position_as_usize_eq_of_valid

/-! The INDEX arithmetic of the two key lookups (`STATE[bitfield]`, `PIECE[sq][kind]`): `GameState::hash` and `Piece::hash` as translated, with the generated key tables plugged in, are the model's `GState.hash` and `Piece.hash`. -/
#print axioms Chess.FnsEquiv.GameState_hash_eq
#print axioms Chess.FnsEquiv.Piece_hash_eq
#print axioms Chess.FnsEquiv.pieceRows_shape
