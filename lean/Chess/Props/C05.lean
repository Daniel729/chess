import Chess.Lemmas.Reach
import Chess.Lemmas.SpecSums
import Chess.Lemmas.FnsEquiv.GameState
import Chess.Lemmas.FnsEquiv.Piece
import Chess.Lemmas.FnsEquiv.Hash

/-!
# C05 — different positions get different hashes

A 64-bit hash of more than 2⁶⁴ positions collides somewhere, so "never share a hash" is provable
only feature by feature; collision freedom over the explored set is exploration (reported in the
evidence as such). What IS proved, by kernel evaluation on the generated keys: changing any single
feature of a position changes its hash.
-/
namespace Chess.Props.C05
open Chess

/-- **C05.1** The 256 state keys are pairwise distinct, the 13 keys of every square (empty + 12
pieces) are pairwise distinct, the side key is not zero — decided by the kernel on the keys
generated from the real key file. -/
theorem key_facts : pairwiseDistinct Gen.stateKeys.toList = true
    ∧ (List.range 64).all (fun i => pairwiseDistinct (squareKeys i)) = true
    ∧ Gen.blackToMove ≠ 0 :=
  ⟨state_keys_distinct, square_keys_distinct, side_key_nonzero⟩

/-- **C05.2** Changing the content of one square, or the side to move, or anything among the four
castling rights and the en-passant file, changes the key-file sum. -/
theorem single_feature_changes_the_sum (a : Spec.APos) :
    (∀ (i : Nat) (h : i < 64) (x : Option Piece), x ≠ a.board[i] →
        Spec.zobrist { a with board := a.board.set i x } ≠ Spec.zobrist a)
    ∧ Spec.zobrist { a with side := a.side.other } ≠ Spec.zobrist a
    ∧ (∀ a' : Spec.APos, a'.board = a.board → a'.side = a.side → EpOk a → EpOk a' →
        (a'.wk, a'.wq, a'.bk, a'.bq, a'.ep) ≠ (a.wk, a.wq, a.bk, a.bq, a.ep) →
        Spec.zobrist a' ≠ Spec.zobrist a) :=
  single_feature_sensitive a

/-- **C05.3** …and therefore the hash the engine reports: two reachable games whose positions
differ in exactly one feature have different hashes. -/
theorem single_feature_changes_the_hash {g g' : Game} (h : Reach g) (h' : Reach g') :
    (∀ (i : Nat) (hi : i < 64) (x : Option Piece), x ≠ g.board[i] →
        g'.abs = { g.abs with board := g.abs.board.set i x } → g'.hash ≠ g.hash)
    ∧ (g'.abs = { g.abs with side := g.abs.side.other } → g'.hash ≠ g.hash)
    ∧ (g'.board = g.board → g'.player = g.player →
        (g'.top.wk, g'.top.wq, g'.top.bk, g'.top.bq, g'.abs.ep)
          ≠ (g.top.wk, g.top.wq, g.top.bk, g.top.bq, g.abs.ep) → g'.hash ≠ g.hash) :=
  hash_sensitive_single_feature (reach_wf h) (reach_wf h')

/-- each castling right and each en-passant file individually changes the byte that selects the
state key -/
theorem every_right_and_file_is_mixed_in {a a' : Spec.APos} (h : EpOk a) (h' : EpOk a') :
    Spec.stateByte a = Spec.stateByte a' ↔
      (a.wk, a.wq, a.bk, a.bq, a.ep) = (a'.wk, a'.wq, a'.bk, a'.bq, a'.ep) :=
  stateByte_inj_features h h'

end Chess.Props.C05

#print axioms Chess.Props.C05.key_facts
#print axioms Chess.Props.C05.single_feature_changes_the_sum
#print axioms Chess.Props.C05.single_feature_changes_the_hash
#print axioms Chess.Props.C05.every_right_and_file_is_mixed_in

/-! ### Translation tie (C05.T)
`tools/translate.py` regenerates `Chess/Gen/Fns.lean` from the Rust text of the leaf functions on every run (a
parser, not patterns); the theorems below — proved in `Chess/Lemmas/FnsEquiv/*` and re-checked by the kernel whenever
the generated term changes — say that the TRANSLATED code equals the hand-written model this file's theorems are
about, for the features mixed into the hash: each right and the en-passant file have their own bits of the state byte, each piece kind and colour its own key column. A rewrite of the Rust text that keeps the meaning leaves them true; one that changes it breaks the
theorem named after the function. -/
#print axioms Chess.FnsEquiv.GameState_set_white_king_castling_true_eq
#print axioms Chess.FnsEquiv.GameState_set_white_queen_castling_true_eq
#print axioms Chess.FnsEquiv.GameState_set_black_king_castling_true_eq
#print axioms Chess.FnsEquiv.GameState_set_black_queen_castling_true_eq
#print axioms Chess.FnsEquiv.GameState_set_en_passant_eq
#print axioms Chess.FnsEquiv.Piece_as_index_eq
#print axioms Chess.FnsEquiv.PieceType_discr_eq
#print axioms Chess.FnsEquiv.Player_discr_eq

/-! The key lookups themselves: which key a state byte and a piece on a square read. -/
#print axioms Chess.FnsEquiv.GameState_hash_eq
#print axioms Chess.FnsEquiv.Piece_hash_eq
