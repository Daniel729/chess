import Chess.Lemmas.Reach
import Chess.Lemmas.SearchF

/-!
# C07 — a stop request at any moment still yields a legal move

The stop flag is an arbitrary oracle `runs : Nat → Bool` on the index of the node-entry poll — in
particular one that is false from the very first poll (stop before the first iteration completes).
"Promptly" in wall-clock terms is outside the model (the un-polled depth-1/quiescence subtree in
progress finishes first); what is proved is that nothing is polled or expanded after the first
poll that sees the flag cleared.
-/
namespace Chess.Props.C07
open Chess Chess.Search

variable {G M : Type} [DecidableEq M]

/-- **C07.1** For EVERY stop schedule and every table: if the position has a legal move, a move is
reported (never `bestmove none`). No hypothesis at all. -/
theorem stop_anytime_still_a_move (o : Ops G M) (runs : Nat → Bool) (g : G) (tt : Table M)
    (off : Bool) (md : Option Nat) (h : o.checked g ≠ []) : (driver o runs g tt off md).found.isSome :=
  driver_found_of_moves o runs g tt off md h

/-- **C07.2** …and that move is legal (under the hypotheses of C06). -/
theorem stop_anytime_move_legal {o : Ops G M} {P : G → Prop} (hH : HashOk o P) (hC : Closed o P)
    (runs : Nat → Bool) (g : G) (tt : Table M) (off : Bool) (md : Option Nat) (hP : P g) (hT : TTInv o P tt) :
    ∀ m, (driver o runs g tt off md).found = some m → m ∈ o.checked g :=
  (driver_sound hH hC runs g tt off md hP hT).2

/-- **C07.3** A node is aborted only by a cleared flag: if it does not answer, some poll at or after
the current one saw the flag cleared, and every poll before that one saw it set. That the abort
happens AT that poll and nothing is polled after it is `faithful_abort_at_first_cleared_poll`, for
the model that keeps the poll counter of an abort. -/
theorem abort_at_first_cleared_poll (o : Ops G M) (runs : Nat → Bool) (remaining : Nat) (g : G)
    (α β rd : Int) (st : St M) (h : node o runs remaining g α β rd st = none) :
    ∃ i, st.polls ≤ i ∧ runs i = false ∧ ∀ j, st.polls ≤ j → j < i → runs j = true :=
  node_none_stopped o runs remaining g α β rd st h

/-- **C07.4** A node that answers only ever polled a set flag; the driver stops only on a cleared flag. -/
theorem answered_means_never_stopped (o : Ops G M) (runs : Nat → Bool) (g : G) (tt : Table M) (off : Bool)
    (md : Option Nat) :
    (∀ i, i < (driver o runs g tt off md).st.polls → runs i = true) ∧
    ((driver o runs g tt off md).stopped = true → ∃ i, runs i = false) :=
  ⟨driver_polled o runs g tt off md, driver_stopped o runs g tt off md⟩

/-- chess: `go` immediately followed by `stop` in any well-formed game with a legal move -/
example (g : Game) (tt : Table Move) (h : (g.getMoves true).1 ≠ []) :
    (driver Uci.chessOps (fun _ => false) g tt false none).found.isSome :=
  stop_anytime_still_a_move Uci.chessOps _ g tt false none h


/-! ### The faithful model (`driverF`) -/
open Chess.Search.F in
/-- **C07.5** The same for the model that keeps the aborted iteration's table: a move whenever one
exists; the abort happens at the first cleared poll and the poll counter of the returned state IS
that index (nothing polled afterwards). -/
theorem faithful_stop_anytime (o : Ops G M) (runs : Nat → Bool) (g : G) (tt : Table M)
    (off : Bool) (md : Option Nat) :
    (o.checked g ≠ [] → (driverF o runs g tt off md).found.isSome) ∧
    ((driverF o runs g tt off md).stopped = true → runs (driverF o runs g tt off md).st.polls = false) ∧
    (∀ i, i < (driverF o runs g tt off md).st.polls → runs i = true) :=
  ⟨driverF_found_of_moves o runs g tt off md, (driverF_stop_semantics o runs g tt off md).2.1,
    (driverF_stop_semantics o runs g tt off md).2.2⟩

open Chess.Search.F in
theorem faithful_abort_at_first_cleared_poll (o : Ops G M) (runs : Nat → Bool) (remaining : Nat) (g : G)
    (α β rd : Int) (st : St M) (h : (nodeF o runs remaining g α β rd st).2 = none) :
    ∃ i, st.polls ≤ i ∧ runs i = false ∧ (∀ j, st.polls ≤ j → j < i → runs j = true) ∧
      (nodeF o runs remaining g α β rd st).1.polls = i :=
  nodeF_abort_first_cleared o runs remaining g α β rd st h

end Chess.Props.C07

#print axioms Chess.Props.C07.stop_anytime_still_a_move
#print axioms Chess.Props.C07.stop_anytime_move_legal
#print axioms Chess.Props.C07.abort_at_first_cleared_poll
#print axioms Chess.Props.C07.answered_means_never_stopped
#print axioms Chess.Props.C07.faithful_stop_anytime
#print axioms Chess.Props.C07.faithful_abort_at_first_cleared_poll
