import Chess.Lemmas.Reach
import Chess.Lemmas.SearchF
import Chess.Lemmas.CallShape
import Chess.Lemmas.FnsEquiv.Move

/-!
# C08 — depth-limited and unlimited searches end cleanly whatever the table holds
-/
namespace Chess.Props.C08
open Chess Chess.Search

variable {G M : Type} [DecidableEq M]

/-- **C08.1** Whatever table any history of searches left — in particular an exact root entry
deeper than the requested limit — every iteration reported has `1 ≤ depth ≤ limit ≤ MAX_DEPTH`,
and `≤ N` for `go depth N`, `N ≥ 1`. -/
theorem never_deeper_than_the_limit (o : Ops G M) (reqs : List (Req G)) (r : Req G) :
    ∀ info ∈ (driver o r.runs r.g (tableAfter o {} reqs) r.off r.md).infos,
      1 ≤ info.depth ∧ info.depth ≤ limitOf r.md ∧ info.depth ≤ maxDepth ∧
      ∀ N, r.md = some N → 1 ≤ N → info.depth ≤ N :=
  session_depths o reqs r

/-- **C08.2** For an arbitrary table: depths are consecutive from `min cached limit`, all within
the limit (an exact root entry deeper than the limit cannot push the start above it). -/
theorem depths_consecutive_and_bounded (o : Ops G M) (runs : Nat → Bool) (g : G) (tt : Table M)
    (off : Bool) (md : Option Nat) :
    let out := driver o runs g tt off md
    out.infos.map (·.depth) = List.range' (startDepth o g tt md) out.infos.length ∧
    ∀ info ∈ out.infos, startDepth o g tt md ≤ info.depth ∧ info.depth ≤ limitOf md :=
  driver_depths_partial o runs g tt off md

/-- **C08.3** The search stops by itself: with a flag that stays up the loop is never ended by a
stop, and unless it ended earlier for a single reply or a mate score its last iteration is the
limit. The loop's fuel is never what ends it (the result is the same for any larger fuel). -/
theorem stops_by_itself_at_the_limit (o : Ops G M) (g : G) (tt : Table M) (off : Bool) (md : Option Nat) :
    let out := driver o (fun _ => true) g tt off md
    out.stopped = false ∧
    ((o.checked g).length ≠ 1 → (∀ info ∈ out.infos, ¬ mateRange info.score) →
      out.infos.getLast?.map (·.depth) = some (limitOf md)) :=
  driver_terminates_by_itself o g tt off md

theorem fuel_never_runs_out (o : Ops G M) (runs : Nat → Bool) (g : G) (tt : Table M) (off : Bool)
    (md : Option Nat) (k : Nat) :
    driver o runs g tt off md =
      driverLoop o runs g (limitOf md) (limitOf md - startDepth o g tt md + 1 + k)
        (startDepth o g tt md) (o.checked g).head? [] (initSt tt off) :=
  driver_fuel o runs g tt off md k

/-- **C08.4** Arithmetic on the EXTRACTED constants (`MAX_DEPTH`, killer length), no run in the
statement: a ply with `remaining + ply = depth ≤ MAX_DEPTH` and `remaining ≥ 2` lies inside the
killer table, and a history cell of at most 10000 that receives `d³`, `d ≤ MAX_DEPTH`, stays inside
16 bits. That every node call of every run has `remaining + ply = depth` is C08.6
(`every_killer_access_in_range`); that a history cell stays at most 10000 is not proved (the bonus
is computed in `f64`). -/
theorem killer_and_history_in_range :
    (∀ depth remaining rd : Nat, depth ≤ maxDepth → remaining + rd = depth → 2 ≤ remaining → rd < Gen.killerLen) ∧
    (∀ d h : Nat, d ≤ Gen.maxDepth → h ≤ 10000 → h + d ^ 3 < 65536) :=
  ⟨killer_index_ok, history_no_overflow⟩


/-! ### The faithful model (`driverF`) -/
open Chess.Search.F in
/-- **C08.5** Depth bounds after any history of searches any of which may have been stopped. -/
theorem faithful_never_deeper_than_the_limit (o : Ops G M) (reqs : List (Req G)) (r : Req G) :
    ∀ info ∈ (driverF o r.runs r.g (tableAfterF o {} reqs) r.off r.md).infos,
      1 ≤ info.depth ∧ info.depth ≤ limitOf r.md ∧ info.depth ≤ maxDepth ∧
      ∀ N, r.md = some N → 1 ≤ N → info.depth ≤ N :=
  sessionF_depths o reqs r

open Chess.Search.Shape in
/-- **C08.6 every table access of every run is in range.** The Rust code indexes the killer table
with CHECKED indexing (a miss is a panic); the model's accessors are total, so an out-of-range
index would be silent in the model exactly where the code fails. `driverS` is the faithful driver
with strict accessors that raise a flag on a miss and an observer of the call shape at every node
entry. For EVERY game, flag schedule, position, table and depth argument the strict run equals the
faithful run, no killer access misses, and every node call satisfies
`remaining + ply = max depth 1`, `1 ≤ ply ≤ MAX_DEPTH`, `remaining < MAX_DEPTH`. -/
theorem every_killer_access_in_range (o : Ops G M) (runs : Nat → Bool) (g : G) (tt : Table M)
    (off : Bool) (md : Option Nat) :
    ((driverS o runs shapeObs g tt off md).out = driverF o runs g tt off md ∧
     (driverS o runs shapeObs g tt off md).oobK = false ∧
     (driverS o runs shapeObs g tt off md).offShape = false) ∧
    (driverS o runs
      (fun d r rd => decide ((r : Int) + rd = max d 1 ∧ 1 ≤ rd ∧ rd ≤ maxDepth ∧ r < maxDepth))
      g tt off md).offShape = false :=
  ⟨driverF_killer_accesses_in_range o runs g tt off md, driverF_calls_sum o runs g tt off md⟩

open Chess.Search.Shape Chess.Search.F in
/-- … and for chess also every history-table update, in every game the interface can reach, after
any session of searches. -/
theorem chess_every_table_access_in_range (reqs : List (Req Game)) (r : Req Game) (hr : Reach r.g) :
    driverS Uci.chessOps r.runs shapeObs r.g (tableAfterF Uci.chessOps {} reqs) r.off r.md =
      ⟨driverF Uci.chessOps r.runs r.g (tableAfterF Uci.chessOps {} reqs) r.off r.md, false, false, false⟩ :=
  sessionF_table_accesses_in_range Uci.chessOps Game.WF chess_histOk reqs r (reach_wf hr)

end Chess.Props.C08

#print axioms Chess.Props.C08.never_deeper_than_the_limit
#print axioms Chess.Props.C08.depths_consecutive_and_bounded
#print axioms Chess.Props.C08.stops_by_itself_at_the_limit
#print axioms Chess.Props.C08.fuel_never_runs_out
#print axioms Chess.Props.C08.killer_and_history_in_range
#print axioms Chess.Props.C08.faithful_never_deeper_than_the_limit
#print axioms Chess.Props.C08.every_killer_access_in_range
#print axioms Chess.Props.C08.chess_every_table_access_in_range

/-! ### Translation tie (C08.T)
`tools/translate.py` regenerates `Chess/Gen/Fns.lean` from the Rust text of the leaf functions on every run (a
parser, not patterns); the theorems below — proved in `Chess/Lemmas/FnsEquiv/*` and re-checked by the kernel whenever
the generated term changes — say that the TRANSLATED code equals the hand-written model this file's theorems are
about, for the index of the history table (`Move::index_history`). A rewrite of the Rust text that keeps the meaning leaves them true; one that changes it breaks the
theorem named after the function. -/
#print axioms Chess.FnsEquiv.Move_index_history_eq
