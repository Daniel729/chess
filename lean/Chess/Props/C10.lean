import Chess.Lemmas.Reach
import Chess.Lemmas.Mate
import Chess.Lemmas.Mate2
import Chess.Lemmas.RepetitionGuard

/-!
# C10 — forced mates within the horizon are found; dead positions are reported as such

Proved for every game interface: the dead-root half, the self-stop mechanism, and MATE IN ONE:
from a fresh table a search to depth ≥ 3 (or unlimited) plays a mating move and stops by itself
at depth ≤ 3. Hypotheses of the mate theorem, both shown necessary by the example games `exBig`
and `exCollide` of `Chess/Lemmas/Mate.lean` (by evaluation, `#guard`): `Bounded` (static evaluations
stay out of the driver's mate range ±31767) and `HashSep` (no position with a legal move shares its
hash with a mated child of the root; follows from the Zobrist hypothesis taken over ALL positions,
`HashSep.of_hashOk`, or from an injective hash, `HashSep.of_injective`).

MATE IN TWO (`Chess/Lemmas/Mate2*.lean`). What is TRUE depends on the table:
* table off (the C09 hook): the full statement in its strong reading, for every game (C10.5);
* table on, strong reading ("the move mates in two"): FALSE once a position can be reached at two
  different distances from the root, even with an injective hash — mate scores are coded by
  root distance and a stored one is reused elsewhere (`strong_reading_fails_with_transpositions`,
  the generic-model form of what the implementation does on `8/8/8/5r2/8/4k1K1/8/5q2 b`);
* table on, weak reading ("after the move the opponent cannot escape a forced mate"): proved for
  games in which no position has more than three legal moves (`Narrow`: the null-window re-search
  never happens), and — strong reading — for such games without transpositions between different
  distances (`Graded`) (C10.6, C10.7); soundness of a reported mate score at every depth (C10.8).
  For general games with the table on the weak statement is OPEN on the theorem side (the stored
  entries are not inductively sound through the re-search: see the notes in `Mate2.lean`); there it
  is decided on the implementation by the independent solver (`Chess/Spec/Mates.lean`), partial.
  In all versions the mating move must survive the root's repetition filter (`m1 ∈ rootMoves`):
  when it does not, the engine gives the mate up — the known finding of this property.
-/
namespace Chess.Props.C10
open Chess Chess.Search

variable {G M : Type} [DecidableEq M]

/-- **C10.1** In a position with no legal move the engine reports that it has no move — for every
table reachable from the empty one, every limit, every stop schedule (and conversely it reports
none ONLY then). -/
theorem dead_position_reports_no_move {o : Ops G M} {P : G → Prop} (hH : HashOk o P) (hC : Closed o P)
    (reqs : List (Req G)) (hreqs : ∀ r ∈ reqs, P r.g) (r : Req G) (hP : P r.g) :
    (driver o r.runs r.g (tableAfter o {} reqs) r.off r.md).found = none ↔ o.checked r.g = [] :=
  (session_sound hH hC reqs hreqs r hP).2.1

/-- **C10.2** With a fresh table no hypothesis at all is needed: a root without legal moves
reports no move, for every limit and every stop schedule. -/
theorem dead_root_fresh_table (o : Ops G M) (runs : Nat → Bool) (g : G) (off : Bool) (md : Option Nat)
    (h : o.checked g = []) : (driver o runs g {} off md).found = none := by
  have hH : HashOk o (fun g' => o.checked g' = []) := by
    intro a b ha hb _; rw [ha, hb]
  have hC : Closed o (fun g' => o.checked g' = []) := by
    intro a m ha hm; rw [ha] at hm; cases hm
  cases hf : (driver o runs g {} off md).found with
  | none => rfl
  | some m =>
    have hm := (driver_sound hH hC runs g {} off md h (TTInv_empty o _)).2 m hf
    rw [h] at hm; cases hm

/-- **C10.3** The search stops by itself as soon as an iteration reports a mate-range score (or
the limit, or a single reply): the loop is never ended by a stop when the flag stays up, and its
last iteration is the limit unless it ended earlier for one of those reasons. -/
theorem stops_by_itself (o : Ops G M) (g : G) (tt : Table M) (off : Bool) (md : Option Nat) :
    let out := driver o (fun _ => true) g tt off md
    out.stopped = false ∧
    ((o.checked g).length ≠ 1 → (∀ info ∈ out.infos, ¬ mateRange info.score) →
      out.infos.getLast?.map (·.depth) = some (limitOf md)) :=
  driver_terminates_by_itself o g tt off md

open Chess.Search.Mate in
/-- **C10.4 mate in one is found.** If some root move leaves the opponent without a legal move
and in check, then from a fresh table, with a flag that stays up, for every limit `N ≥ 3` or none,
the driver reports a move that mates, is not stopped, and never searches deeper than 3. -/
theorem mate_in_one_is_played (o : Ops G M) (hb : Bounded o) (g : G) (hsep : HashSep o g)
    (hmate : ∃ m ∈ rootMoves o g, Mated o (o.push g m))
    (runs : Nat → Bool) (hr : ∀ i, runs i = true) (off : Bool) (md : Option Nat)
    (hmd : md = none ∨ ∃ N, md = some N ∧ 3 ≤ N) :
    let out := driver o runs g {} off md
    ∃ m, out.found = some m ∧ MatingMove o g m ∧ out.stopped = false ∧
      ∀ info ∈ out.infos, info.depth ≤ 3 :=
  mate_in_one_found o hb g hsep hmate runs hr off md hmd

open Chess.Search.Mate in
/-- a mated position two or more plies above the horizon returns the exact mate score whatever
its window (the value argument behind C10.4) -/
theorem mated_node_scores_exactly {o : Ops G M} {runs : Nat → Bool} {c : G} (hm : Mated o c)
    (remaining : Nat) (h2 : 2 ≤ remaining) (a b rd : Int) (st : St M)
    (hr : runs st.polls = true) (hnone : st.tt[o.hash c]? = none) :
    node o runs remaining c a b rd st = some (scoreMin + Gen.mateNode + rd, pollSt st) ∧
      (pollSt st).tt[o.hash c]? = none :=
  mated_child_value hm remaining h2 a b rd st hr hnone

open Chess.Search.Mate2 in
/-- **C10.5 mate in two, table off: the full statement, strong reading, every game.** -/
theorem mate_in_two_is_kept_table_off (o : Ops G M) (hb : Mate.Bounded o) (g : G) (m1 : M)
    (hk : m1 ∈ rootMoves o g) (h2 : KeepsMate o g m1) (runs : Nat → Bool)
    (hr : ∀ i, runs i = true) (md : Option Nat) (hmd : md = none ∨ ∃ N, md = some N ∧ 5 ≤ N) :
    let out := driver o runs g {} true md
    ∃ m, out.found = some m ∧ KeepsMate o g m ∧ out.stopped = false ∧ ∀ info ∈ out.infos, info.depth ≤ 5 :=
  mate_in_two_found_off o hb g m1 hk h2 runs hr md hmd

open Chess.Search.Mate2 in
/-- **C10.6 mate in two, table on or off, weak reading, narrow games** (no position with more than
three legal moves): the driver answers by depth 5 with a move after which the opponent cannot
escape a forced mate, and stops by itself. `…_partial`: the full statement drops `Narrow`. -/
theorem mate_in_two_is_kept_partial (o : Ops G M) (hb : Mate.Bounded o) (hn : Narrow o) (hs : HashSem o) (g : G)
    (m1 : M) (h2 : ForcedMate2 o g m1) (hk : m1 ∈ rootMoves o g) (hno1 : ¬ MateIn1 o g)
    (runs : Nat → Bool) (hr : ∀ i, runs i = true) (off : Bool) (md : Option Nat)
    (hmd : md = none ∨ ∃ N, md = some N ∧ 5 ≤ N) :
    let out := driver o runs g {} off md
    ∃ m, out.found = some m ∧ KeepsForcedMate o g m ∧ out.stopped = false ∧ ∀ info ∈ out.infos, info.depth ≤ 5 :=
  mate_in_two_found o hb hn hs g m1 h2 hk hno1 runs hr off md hmd

open Chess.Search.Mate2 in
/-- **C10.7 … and the strong reading** when positions determine their distance from the root
(`Graded`) and the hash is injective. -/
theorem mate_in_two_strong_partial (o : Ops G M) (hb : Mate.Bounded o) (hn : Narrow o) (g : G)
    (hinj : ∀ x y, o.hash x = o.hash y → x = y) (lvl : G → Nat) (hg : Graded o g lvl)
    (m1 : M) (h2 : ForcedMate2 o g m1) (hk : m1 ∈ rootMoves o g) (hno1 : ¬ MateIn1 o g)
    (runs : Nat → Bool) (hr : ∀ i, runs i = true) (off : Bool) (md : Option Nat)
    (hmd : md = none ∨ ∃ N, md = some N ∧ 5 ≤ N) :
    let out := driver o runs g {} off md
    ∃ m, out.found = some m ∧ KeepsMate o g m ∧ out.stopped = false ∧ ∀ info ∈ out.infos, info.depth ≤ 5 :=
  mate_in_two_found_strong o hb hn g hinj lvl hg m1 h2 hk hno1 runs hr off md hmd

open Chess.Search.Mate2 in
/-- **C10.8 a reported mate score is sound at every depth** (narrow games): a final score above the
evaluation range comes with a move that keeps a forced mate; one below it means the root is lost. -/
theorem reported_mate_score_is_sound_partial (o : Ops G M) (hb : Mate.Bounded o) (hn : Narrow o) (hs : HashSem o) (g : G)
    (hrep : rootMoves o g = o.checked g) (hl : 2 ≤ (o.checked g).length) (runs : Nat → Bool)
    (hr : ∀ i, runs i = true) (off : Bool) (md : Option Nat) :
    let out := driver o runs g {} off md
    out.stopped = false ∧ ∀ info, out.infos.getLast? = some info →
      (Mate.evalBound < info.score → ∃ m, out.found = some m ∧ KeepsForcedMate o g m) ∧
      (info.score < -Mate.evalBound - 1 → Lose o g) :=
  driver_mate_sound o hb hn hs g hrep hl runs hr off md

open Chess.Search.Mate2 Chess.Search.Mate2.Example in
/-- the strong reading fails with the table on as soon as a position is reachable at two distances
from the root — a six-position game with an injective hash: the only move that mates in two is
move 1, move 0 keeps a mate in three only, and no grading exists. (That the driver answers move 0
there with the mate-in-two score is checked by evaluation, `#guard`, in `Mate2.lean`:
`Std.HashMap` does not reduce in the kernel.) -/
theorem strong_reading_fails_with_transpositions :
    ForcedMate2 exT 0 1 ∧ (∀ m, KeepsMate exT 0 m → m = 1) ∧ ¬ KeepsMate exT 0 0 ∧
      KeepsMateWithin exT 2 0 0 ∧ (∀ x y, exT.hash x = exT.hash y → x = y) ∧ ¬ ∃ lvl, Graded exT 0 lvl :=
  ⟨exT_forced, exT_unique, exT_strong_fails, exT_move0, exT_inj, exT_not_graded⟩

open Chess.Search.Mate2 Chess.Search.Rep in
/-- **C10.9 the known finding, as a theorem about the model** (`Lemmas/RepetitionGuard*.lean`): in
every reachable chess game whose record ends `… x m0 x' M' x` (the opponent has just repeated its
move, so the root's repetition guard takes `m0` out of the move list) and in which `m0` is the ONLY
move that keeps a forced mate, the engine — fresh table, flag up, any depth limit — answers with a
legal move other than `m0` that keeps no forced mate in either reading. C10 is false of model and
code alike in this situation; that is why every mate theorem above carries `m1 ∈ rootMoves`. -/
theorem repetition_guard_gives_up_the_mate {g : Game} (h : Reach g) (m0 : Move)
    (hrec : ∃ x M' x' rest, g.moveStack = x :: M' :: x' :: m0 :: x :: rest)
    (hl2 : 2 ≤ (g.getMoves true).1.length)
    (honly : ∀ m, KeepsForcedMate Uci.chessOps g m → m = m0)
    (runs : Nat → Bool) (hr : ∀ i, runs i = true) (off : Bool) (md : Option Nat) :
    ∃ m, (driver Uci.chessOps runs g {} off md).found = some m ∧ m ∈ (g.getMoves true).1 ∧
      m ≠ m0 ∧ ¬ KeepsForcedMate Uci.chessOps g m ∧ ¬ KeepsMate Uci.chessOps g m :=
  chess_guard_gives_up_the_mate h m0 hrec hl2 honly runs hr off md

open Chess.Search.Mate2 Chess.Search.Rep in
/-- the generic form, and a concrete game meeting all its hypotheses (kernel-checked): a forced
mate in two through the guarded move only, which the engine does not play -/
theorem guard_finding_generic (o : Ops G M) (P : G → Prop) (hP : EvalOk o P) (g : G)
    (hroot : ∀ m ∈ o.checked g, P (o.push g m)) (m0 : M) (h2 : ForcedMate2 o g m0)
    (hrep : o.repetition g = some m0) (hnd : (o.checked g).Nodup)
    (hl2 : 2 ≤ (o.checked g).length) (honly : ∀ m, KeepsForcedMate o g m → m = m0)
    (runs : Nat → Bool) (hr : ∀ i, runs i = true) (off : Bool) (md : Option Nat) :
    ¬ ∃ m, (driver o runs g {} off md).found = some m ∧ KeepsForcedMate o g m :=
  c10_fails_under_guard o P hP g hroot m0 h2 hrep hnd hl2 honly runs hr off md

/-- chess instance of C10.2 -/
example (g : Game) (h : (g.getMoves true).1 = []) :
    (driver Uci.chessOps (fun _ => true) g {} false none).found = none :=
  dead_root_fresh_table Uci.chessOps _ g false none h

end Chess.Props.C10

#print axioms Chess.Props.C10.dead_position_reports_no_move
#print axioms Chess.Props.C10.dead_root_fresh_table
#print axioms Chess.Props.C10.stops_by_itself
#print axioms Chess.Props.C10.mate_in_one_is_played
#print axioms Chess.Props.C10.mated_node_scores_exactly
#print axioms Chess.Props.C10.mate_in_two_is_kept_table_off
#print axioms Chess.Props.C10.mate_in_two_is_kept_partial
#print axioms Chess.Props.C10.mate_in_two_strong_partial
#print axioms Chess.Props.C10.reported_mate_score_is_sound_partial
#print axioms Chess.Props.C10.strong_reading_fails_with_transpositions
#print axioms Chess.Props.C10.repetition_guard_gives_up_the_mate
#print axioms Chess.Props.C10.guard_finding_generic
