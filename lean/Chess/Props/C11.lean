import Chess.Lemmas.Reach
import Chess.Lemmas.FenWrite
import Chess.Lemmas.SpecSums
import Chess.Lemmas.FnsEquiv.Letters

/-!
# C11 — exported FEN describes the position and re-imports to the same game

`Spec.fenLoose` / `Spec.fenStrict` are the FEN grammar read declaratively (rank 8 first, files
a→h, digits = runs of empty squares, `w|b`, subset of `KQkq` or `-`, en-passant square = file +
rank 6 if White is to move else 3), independent of the engine's scanner and printer.
-/
namespace Chess.Props.C11
open Chess

/-- **C11.1** For EVERY game the exported text has exactly six non-empty fields (four for the
position), and no two digits of the placement field are adjacent. That the placement field has
eight ranks each describing exactly the eight squares of its row, with piece letters and digits
1–8 only, is the rest of `fenBoard_shape`. -/
theorem export_is_six_well_formed_fields (g : Game) :
    ((Spec.fields g.fen4).length = 4 ∧ (Spec.fields g.fen).length = 6
      ∧ (∀ f ∈ Spec.fields g.fen4, f ≠ []) ∧ (∀ f ∈ Spec.fields g.fen, f ≠ []))
    ∧ Spec.noAdjacentDigits (fenBoard g) = true :=
  ⟨fen_fields_length g, (fenBoard_shape g).2.2.2⟩

/-- **C11.2** The exported text is a well-formed FEN that denotes exactly the game's position:
placement, side, castling rights, en-passant file (read by the independent grammar). -/
theorem export_denotes_the_position (g : Game) :
    Spec.fenStrict g.fen = some g.abs ∧ Spec.fenLoose g.fen4 = some g.abs :=
  ⟨fen_strict g, fen4_denotes g⟩

/-- **C11.3** Importing the exported text succeeds — for boards with possible material whose
castling rights and en-passant file are backed by the board, which is exactly what the reader
checks (`reimport_succeeds_iff`) — and yields a game with the same placement, side, rights and
en-passant file. -/
theorem reimport_gives_the_same_position (g : Game) (hm : MaterialOK g)
    (hr : RightsOkBoard g.abs) (he : EpOkBoard g.abs) :
    ∃ g', Game.ofFen g.fen = .ok g' ∧ g'.abs = g.abs :=
  fen_roundtrip_abs g hm hr he

/-- …in particular for every game whose position the rules call sane. -/
theorem reimport_of_sane_gives_the_same_position (g : Game) (hs : Spec.sane g.abs = true) :
    ∃ g', Game.ofFen g.fen = .ok g' ∧ g'.abs = g.abs :=
  fen_roundtrip_abs_of_sane g hs

/-- the three conditions are necessary and sufficient for the re-import to succeed, and whenever
it succeeds the position is the same -/
theorem reimport_succeeds_iff (g : Game) :
    ((∃ g', Game.ofFen g.fen = .ok g') ↔ MaterialOK g ∧ RightsOkBoard g.abs ∧ EpOkBoard g.abs)
    ∧ ∀ g', Game.ofFen g.fen = .ok g' → g'.abs = g.abs :=
  ⟨fen_reimport_iff g, fun _ h => fen_roundtrip_abs_of_ok h⟩

/-- **C11.4** Two reachable games with the same position have the same hash (C04): so a game and
its re-import (C11.3) do, when both are reachable. -/
theorem reimport_gives_the_same_hash {g g' : Game} (h : Reach g) (h' : Reach g') (e : g'.abs = g.abs) :
    g'.hash = g.hash :=
  hash_route_independent (reach_wf h') (reach_wf h) e

end Chess.Props.C11

#print axioms Chess.Props.C11.export_is_six_well_formed_fields
#print axioms Chess.Props.C11.export_denotes_the_position
#print axioms Chess.Props.C11.reimport_gives_the_same_position
#print axioms Chess.Props.C11.reimport_of_sane_gives_the_same_position
#print axioms Chess.Props.C11.reimport_succeeds_iff
#print axioms Chess.Props.C11.reimport_gives_the_same_hash

/-! ### Translation tie (C11.T)
`tools/translate.py` regenerates `Chess/Gen/Fns.lean` from the Rust text of the leaf functions on every run (a
parser, not patterns); the theorems below — proved in `Chess/Lemmas/FnsEquiv/*` and re-checked by the kernel whenever
the generated term changes — say that the TRANSLATED code equals the hand-written model and the generated tables this
file's theorems are about, for the letters the FEN writer uses (`as_char_ascii`). A rewrite of the Rust text that keeps the meaning leaves them true; one that
changes it breaks the theorem named after the function. -/
#print axioms Chess.FnsEquiv.Piece_as_char_ascii_eq
#print axioms Chess.FnsEquiv.Piece_as_char_ascii_table
