import Chess.Lemmas.Budget
import Chess.Lemmas.Go
import Chess.Lemmas.ShareF64

/-!
# C13 — thinking time never exceeds the time available

`Uci.budget` mirrors the arithmetic of `command_go` (extracted constants: latency allowance
`Gen.latencyMs`, sleep cut `Gen.sleepCutMs`); its parameter `share` is the float expression
`(w as f64 * 0.02) as u64`, which `Chess/Model/Share.lean` models EXACTLY (`Share.shareF64`:
u64→binary64 conversion, product with the binary64 literal, both round-to-nearest-even, truncating
cast) — validated against real doubles by `check_share_model` of `vlib/sessionchk.py` and against
the engine's `info time` by the correspondence check. The bounds C13.1/2/4 hold for EVERY `share`; monotonicity
is proved under `ShareOK share` and the low-clock statement for `· / 50`, and both for `shareF64`
itself (C13.3′, C13.5′; `Share.shareOK_f64` is `ShareOK shareF64`). The binary64 literal is tied to the source: the extractor
computes significand and exponent of the text of `FRACTION_OF_TOTAL_TIME` and `fraction_is_the_source_literal`
compares them with the constants of the model. All statements quantify over all natural numbers,
hence all `u64` clock values.
-/
namespace Chess.Props.C13
open Chess Chess.Uci

/-- **C13.1** With all four clock parameters the allotted time leaves the latency allowance and
the sleep cut inside the mover's own clock — for every clock, increment and `share`. -/
theorem allotment_le_own_clock {wt bt wi bi t : Nat} {infinite : Bool} {side : Player} {share : Nat → Nat}
    (h : budget (some wt) (some bt) (some wi) (some bi) none infinite side share = some t) :
    t ≤ ownClock side wt bt - Gen.latencyMs - Gen.sleepCutMs ∧ t ≤ ownClock side wt bt :=
  ⟨budget_le_clock_sub h, budget_le_clock h⟩

/-- **C13.2** A fixed move time is never exceeded. -/
theorem allotment_le_movetime {wtime btime winc binc : Option Nat} {mt t : Nat} {infinite : Bool}
    {side : Player} {share : Nat → Nat}
    (h : budget wtime btime winc binc (some mt) infinite side share = some t) : t ≤ mt :=
  budget_le_movetime h

/-- **C13.3** A smaller clock never yields a larger allotment (low clocks shorten thinking). -/
theorem allotment_monotone {share : Nat → Nat} (hs : ShareOK share) {wt wt' bt bt' wi bi : Nat}
    {side : Player} (hle : ownClock side wt bt ≤ ownClock side wt' bt') {infinite : Bool} {t t' : Nat}
    (h : budget (some wt) (some bt) (some wi) (some bi) none infinite side share = some t)
    (h' : budget (some wt') (some bt') (some wi) (some bi) none infinite side share = some t') :
    t ≤ t' :=
  budget_monotone hs hle h h'

/-- **C13.4** The allotment is a `u64` whenever the clocks and the move time are. That every
intermediate value of the chain is one too (the only subtractions are saturating) is
`Uci.budget_fits_u64`; `Uci.clock64_refines` runs the chain on `UInt64`. -/
theorem allotment_fits_u64 {wtime btime winc binc movetime : Option Nat} {infinite : Bool}
    {side : Player} {share : Nat → Nat} {t : Nat}
    (hw : ∀ w, wtime = some w → w ≤ u64Max) (hb : ∀ w, btime = some w → w ≤ u64Max)
    (hm : ∀ w, movetime = some w → w ≤ u64Max)
    (h : budget wtime btime winc binc movetime infinite side share = some t) : t ≤ u64Max :=
  budget_result_fits_u64 hw hb hm h

/-- **C13.5** Below 7.5 s without increment the allotment is zero (for `share = · / 50`). Before
commit f609d5e of /repo the subtraction was a plain `-` and wrapped in this range, to about 2⁶⁴ ms. -/
theorem low_clock_gives_zero {wt bt bi : Nat} (h : wt < 7500) :
    budget (some wt) (some bt) (some 0) (some bi) none false .white (· / 50) = some 0 :=
  budget_low_clock_shortens h

/-- the timer is absent exactly for `infinite` or an incomplete clock without move time -/
theorem no_timer_iff (wtime btime winc binc movetime : Option Nat) (infinite : Bool)
    (side : Player) (share : Nat → Nat) :
    budget wtime btime winc binc movetime infinite side share = none ↔
      infinite = true ∨ (movetime = none ∧ (wtime = none ∨ btime = none ∨ winc = none ∨ binc = none)) :=
  budget_none_iff wtime btime winc binc movetime infinite side share

open Chess.Share in
/-- **C13.3′** Monotone for the engine's own float expression, no hypothesis left. -/
theorem allotment_monotone_f64 {wt wt' bt bt' wi bi : Nat}
    {side : Player} (hle : ownClock side wt bt ≤ ownClock side wt' bt') {infinite : Bool} {t t' : Nat}
    (h : budget (some wt) (some bt) (some wi) (some bi) none infinite side shareF64 = some t)
    (h' : budget (some wt') (some bt') (some wi) (some bi) none infinite side shareF64 = some t') :
    t ≤ t' :=
  budget_monotone_f64 hle h h'

open Chess.Share in
/-- **C13.5′** Below 7.5 s without increment the allotment is zero — with the float expression. -/
theorem low_clock_gives_zero_f64 {wt bt bi : Nat} (h : wt < 7500) :
    budget (some wt) (some bt) (some 0) (some bi) none false .white shareF64 = some 0 :=
  budget_low_clock_shortens_f64 h

open Chess.Share in
/-- the float expression never exceeds its argument, is monotone, is `w / 50` exactly below 2^53 ms
and within +61/−54 of it on all of `u64` -/
theorem float_share_facts :
    (∀ w, shareF64 w ≤ w) ∧ (∀ a b, a ≤ b → shareF64 a ≤ shareF64 b) ∧
    (∀ w, w < 2 ^ 53 → shareF64 w = w / 50) ∧
    (∀ w, w < 2 ^ 64 → w / 50 ≤ shareF64 w + 54 ∧ shareF64 w ≤ w / 50 + 61) :=
  ⟨shareF64_le, shareF64_mono, fun _ h => shareF64_eq_div50 h, fun _ h => shareF64_near_u64 h⟩

/-- the binary64 value of the source's literal (regenerated on every run) is the model's constant -/
theorem fraction_is_the_source_literal :
    Share.c002 = Gen.fractionMant ∧ Share.c002Exp = Gen.fractionExp := by decide

/-- **C13.6 over the raw command.** `goArgs` is the argument loop of `command_go` (keywords, values,
resets, overrides, junk — `Chess/Model/Go.lean`). For EVERY list of words after `go`: an armed
timer is armed for at most the understood move time, else for at most the mover's own clock less
the latency allowance and the sleep cut; the value is a `u64`; `infinite` arms none. -/
theorem raw_command_bounded (words : List (List Char)) (side : Player) (share : Nat → Nat) {t : Nat}
    (h : goBudget words side share = some t) :
    (∀ mt, (goArgs words).movetime = some mt → t ≤ mt) ∧
    ((goArgs words).movetime = none → ∃ wt bt, (goArgs words).wtime = some wt ∧ (goArgs words).btime = some bt ∧
        t ≤ ownClock side wt bt - Gen.latencyMs - Gen.sleepCutMs) ∧
    t ≤ u64Max ∧ (goArgs words).infinite = false :=
  goBudget_bounded words side share h

/-- every value the loop understands is a value of its Rust type, whatever the words -/
theorem raw_arguments_fit (words : List (List Char)) : (goArgs words).Fit := goArgs_fit words

-- non-vacuity
example : goBudget (splitWs "wtime 60000 btime 60000 winc 1000 binc 1000 wtime 30000".toList) .white (· / 50)
    = some 1445 := by decide
example : ShareOK (· / 50) := shareOK_div50
example : budget (some 60000) (some 60000) (some 1000) (some 1000) none false .white (· / 50) = some 2045 := by decide
example : budget (some 1000) (some 1000) (some 0) (some 0) none false .white (· / 50) = some 0 := by decide
example : budget (some 100) (some 100) (some 5000) (some 5000) none false .black (· / 50) = some 0 := by decide

end Chess.Props.C13

#print axioms Chess.Props.C13.allotment_le_own_clock
#print axioms Chess.Props.C13.allotment_le_movetime
#print axioms Chess.Props.C13.allotment_monotone
#print axioms Chess.Props.C13.allotment_fits_u64
#print axioms Chess.Props.C13.low_clock_gives_zero
#print axioms Chess.Props.C13.no_timer_iff
#print axioms Chess.Props.C13.raw_command_bounded
#print axioms Chess.Props.C13.raw_arguments_fit
#print axioms Chess.Props.C13.allotment_monotone_f64
#print axioms Chess.Props.C13.low_clock_gives_zero_f64
#print axioms Chess.Props.C13.float_share_facts
#print axioms Chess.Props.C13.fraction_is_the_source_literal
