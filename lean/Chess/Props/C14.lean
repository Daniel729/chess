import Chess.Lemmas.Session

/-!
# C14 — each `go` gets exactly one `bestmove`; the session never wedges or dies

`Chess/Model/Session.lean` is a labelled transition system of the three kinds of threads of
`uci.rs` (main loop, one search thread per accepted `go`, zero or one timer thread per `go`) with
every observable action — atomic load/store, lock/unlock, spawn, join, print — as one atomic
step, in program order (`Chess/Model/SessionNotes.md` maps each step to its source lines).
`Reachable cfg s` quantifies over ALL command sequences and ALL schedules, with no bound on length.
The code as it is now is the configuration `repaired` (`buggy = false`, `reap = true`); `original`
(the pinned code) and `fixed` (after the two re-orderings of D7 only) are kept so that the
theorems can be seen to FAIL there, each with a concrete kernel-checked schedule.
The single `Relaxed` flag is modelled sequentially consistent (assumption, see DESIGN §7).
-/
namespace Chess.Props.C14
open Chess.Session

variable {s t : State}

/-- **C14.1** At most one `bestmove` per `go`, and only for a `go` that was accepted. -/
theorem at_most_one_bestmove_per_go {cfg : Cfg} (h : Reachable cfg s) (k : Nat) :
    s.out.count (.bestmove k) ≤ 1 ∧ (.bestmove k ∈ s.out → s.th k ≠ .none ∧ k ≤ s.cur) :=
  ⟨bestmove_at_most_once h k, fun hk => bestmove_only_after_go h hk⟩

/-- **C14.2** Exactly one once its search thread is done. -/
theorem exactly_one_bestmove_when_done {cfg : Cfg} (h : Reachable cfg s) {k : Nat} (hd : s.th k = .done) :
    s.out.count (.bestmove k) = 1 :=
  bestmove_exactly_once_when_done h hd

/-- **C14.3** `isready` is answered in one step of the main loop whatever the other threads do:
it takes no lock and reads no flag. -/
theorem isready_answered_while_searching {cfg : Cfg} {rest : List Cmd} (hidle : s.pc = .idle)
    (hi : s.input = .isready :: rest) :
    next cfg s .main = some ({ s with input := rest }.emit .readyok) :=
  isready_never_blocks hidle hi

/-- **C14.4** The process never panics, the mutex is never poisoned, and the error exit of
`ucinewgame` is unreachable — for the code as it is now, under every schedule. -/
theorem never_panics (h : Reachable repaired s) :
    s.poisoned = false ∧ (∀ k, s.th k ≠ .panicked) ∧ s.pc ≠ .panicked ∧ s.pc ≠ .exitedErr :=
  repaired_no_panic rfl h

/-- **C14.5** No deadlock: in every reachable state of a running process some thread can step,
except the one benign wait the interface defines (`wait` on a search that cannot end by itself
and has not been told to stop). -/
theorem never_deadlocks {cfg : Cfg} (h : Reachable cfg s) (hrun : s.running) :
    (∃ l t, next cfg s l = some t) ∨ Benign s :=
  no_deadlock h hrun

/-- **C14.6** Once `bestmove k` has been printed the flag of search `k` is down. (The main loop
refuses a command with "search is still running" when the flag of the latest search, `s.flag s.cur`,
is up; the statement is about slot `k`.) `go_after_position_accepted`: a `position` that succeeds
is followed by a `go` that is accepted and not delayed by anybody. -/
theorem commands_after_bestmove_honoured (h : Reachable repaired s) {k : Nat} (hk : .bestmove k ∈ s.out) :
    s.flag k = false :=
  bestmove_flag_false rfl h hk

theorem go_after_position_accepted (h : Reachable repaired s) {keep : Bool} {g : GoArgs} {rest : List Cmd}
    (hpc : s.pc = .posHold true keep) (hi : s.input = .go g :: rest) :
    ∃ t, next repaired s .main = some t ∧ t.out = s.out ∧ Quiet t ∧ GoPhase t g rest :=
  repaired_position_quiet rfl h hpc hi

/-- **C14.7** Once the flag of a search whose thread exists is down (`stop` and the timer bring it
down: `stop_clears`, `fire_clears`) it stays down; from then on the search thread takes at most five
steps of its own, each of which is enabled whenever the mutex is free or its own, and `bestmove` is
in the output once at most one is left, unless the thread panicked.  Safety and enabledness only:
nothing is assumed of the scheduler. -/
theorem stop_or_timer_leads_to_bestmove (h : Reachable repaired s) {k : Nat}
    (hs : s.th k ≠ .none) (hf : s.flag k = false) {ls : List Label} (hr : run repaired s ls = some t) :
    t.flag k = false ∧ (t.th k).rank + ownCount k ls ≤ (s.th k).rank ∧
    (t.running → (t.th k).live → (t.mutex = none ∨ t.mutex = some (.search k) ∨ t.poisoned) →
      ∃ u, next repaired t (.search k) = some u) ∧
    ((t.th k).rank ≤ 1 → t.th k ≠ .panicked → .bestmove k ∈ t.out) :=
  timer_or_stop_leads_to_bestmove rfl h hs hf hr

/-- **C14.8** `quit` and end of input exit in one step, whatever the other threads do. -/
theorem quit_exits_cleanly {cfg : Cfg} {rest : List Cmd} (hidle : s.pc = .idle) :
    (s.input = .quit :: rest → next cfg s .main = some { s with input := rest, pc := .exited }) ∧
    (s.input = [] → next cfg s .main = some { s with pc := .exited }) :=
  ⟨fun hi => quit_exits hidle hi, fun hi => eof_exits hidle hi⟩

/-- C14.4 FAILS for `fixed`, the code with only the D7 re-orderings, on a concrete schedule checked
by the kernel: a search thread that starts after its timer expired finds the game taken and
panics. For `original` see `original_timer_lost` (a timer that fires before the flag is raised is
lost) and `original_position_refused` (the command sent right after `bestmove` is refused). -/
theorem earlier_code_fails :
    ¬ ∀ s, Reachable fixed s → s.poisoned = false ∧ (∀ k, s.th k ≠ .panicked) ∧ s.pc ≠ .panicked :=
  fixed_no_panic_fails

end Chess.Props.C14

#print axioms Chess.Props.C14.at_most_one_bestmove_per_go
#print axioms Chess.Props.C14.exactly_one_bestmove_when_done
#print axioms Chess.Props.C14.isready_answered_while_searching
#print axioms Chess.Props.C14.never_panics
#print axioms Chess.Props.C14.never_deadlocks
#print axioms Chess.Props.C14.commands_after_bestmove_honoured
#print axioms Chess.Props.C14.go_after_position_accepted
#print axioms Chess.Props.C14.stop_or_timer_leads_to_bestmove
#print axioms Chess.Props.C14.quit_exits_cleanly
#print axioms Chess.Props.C14.earlier_code_fails
