import Chess.Lemmas.Bounds
import Chess.Lemmas.Autoplay
import Chess.Lemmas.ScoreRange
import Chess.Lemmas.FnsEquiv.Position
import Chess.Lemmas.FnsEquiv.Move
import Chess.Lemmas.FnsEquiv.Search
import Chess.Lemmas.FnsEquiv.Hash

/-!
# C15 — unchecked fast paths stay within bounds

In the model the operations that mirror the Rust `get_unchecked`/`push_unchecked`/
`unwrap_unchecked`/`add_unsafe` sites are TOTAL (they test the index and fall back), so "in
bounds" is not true by typing: it is one explicit obligation per site class, proved here. The
inventory of unchecked sites is regenerated from the Rust source on every run
(`Gen.unsafeSites`); `inventory_is_covered` fails if a site appears, moves or is duplicated (a site that disappears —
an unchecked access rewritten as a checked one — removes an obligation and breaks nothing).

NOT provable with the means present, and therefore a NAMED HYPOTHESIS (never an axiom):
`MoveCountBound` — no reachable position has more than 256 pseudo-legal moves (the known
maximum, 218, comes from computer search over placements; the best counting bound is
`56 × 16 > 256`, `crude_bound_insufficient`). Everything else is proved outright.
-/
namespace Chess.Props.C15
open Chess Chess.Bounds Chess.Game

/-- **C15.0** Every unchecked site the extractor found lies in a `(file, function)` class this file
covers and occurs at most as often as was analysed (24 occurrences in all). The counts are `≤`: a
site that disappears from the Rust source goes unnoticed. -/
theorem inventory_is_covered :
    Gen.unsafeSites.length = Gen.unsafeSiteCount
    ∧ (Gen.unsafeSites.all fun e => coveredSites.contains (e.1, e.2.1)) = true
    ∧ (Gen.unsafeSites.all fun e => decide (Gen.unsafeSites.count e ≤ analysedCount e)) = true
    ∧ (analysedSites.all fun a => coveredSites.contains (a.1.1, a.1.2.1)) = true
    ∧ (analysedSites.foldl (fun s a => s + a.2) 0) = 24 :=
  unsafe_inventory

/-- **C15.1 square indexing** (`get_position`, `set_position`): every square a fitting move makes
`push`/`pop` write is on the board; so is each kind of square the generators read (squares of
the scan, results of `Position::add`, the literal castling squares, the cached king squares, and
the two `add_unsafe` squares of the pawn double push, guarded by "on the first row") — five facts,
one per kind; that the generators read no other kind of square is not part of the statement. On a
square of the board the model's read IS the array access (`board_access_is_real`). -/
theorem squares_written_are_on_the_board {g : Game} {m : Move} (hf : g.Fits m) : ∀ p ∈ touched m, p.Valid :=
  pos_valid_of_fits hf

theorem squares_read_are_on_the_board :
    (∀ p ∈ allSquares, p.Valid)
    ∧ (∀ (p q : Pos) (d : Int × Int), p.add d = some q → q.Valid)
    ∧ (∀ (pl : Player) (c : Int), 0 ≤ c → c < 8 → (⟨homeRow pl, c⟩ : Pos).Valid)
    ∧ (∀ (g : Game) (pl : Player), g.KingInv → (g.kingPos pl).Valid)
    ∧ (∀ (p : Pos) (o : Player), p.Valid → p.row = (pawnConsts o).1 →
        (p.addUnsafe (pawnConsts o).2.1).Valid ∧ (p.addUnsafe (pawnConsts o).2.2).Valid) :=
  generator_squares_valid

theorem board_access_is_real (g : Game) {p : Pos} (hp : p.Valid) :
    g.get p = g.board[p.idx]'(Pos.idx_lt hp) :=
  get_eq_getElem g hp

/-- **C15.2 table lookups** (`Piece::score`, `Piece::hash`, `GameState::hash`): real reads of the
64-entry score tables, the 768-entry piece-key table and the 256-entry state-key table. -/
theorem table_lookups_are_real (pc : Piece) {p : Pos} (hp : p.Valid) (e : Bool) (s : GState) :
    pc.score p e = (Piece.scoreTable pc.pieceType e)[scoreIndex pc p]'(scoreIndex_lt pc hp e) * pc.owner.sign
    ∧ pc.hash p = Gen.pieceKeys[p.idx * 12 + pc.asIndex]'(piece_key_index_lt pc hp)
    ∧ GState.hash s = Gen.stateKeys[s.toNat]'(state_key_index_lt s) :=
  ⟨score_eq_getElem pc hp e, piece_hash_eq_getElem pc hp, state_hash_eq_getElem s⟩

/-- **C15.3 state stack never empty** (`state()`'s `unwrap_unchecked`, `pop`'s truncate). -/
theorem state_stack_never_empty {g : Game} (h : Reach g) : g.state ≠ [] ∧ g.top ∈ g.state :=
  ⟨reach_state_ne_nil h, reach_top_mem h⟩

/-- **C15.4 state stack below its capacity** (`push_unchecked`, 512): every game the `position`
command accepts is shorter than the interface's guard; along any search line of at most
`MAX_DEPTH` moves followed by any quiescence line (every tactical move strictly decreases
"men + pawns", which is at most 48 in every reachable game) one more push still fits. -/
theorem position_keeps_games_short (cur : Option Game) (terms : List (List Char)) (g' : Game)
    (h : Uci.commandPosition cur terms = (true, some g')) : g'.len < Gen.lenGuard :=
  commandPosition_len cur terms g' h

theorem state_stack_below_capacity {g : Game} {ms qs : List Move} (hr : Reach g)
    (hlen : g.len < Gen.lenGuard) (hl : Line g ms) (hd : ms.length ≤ Gen.maxDepth)
    (hq : QLine (playLine g ms) qs) :
    ∀ m, ((playLine g (ms ++ qs)).push m).len ≤ Gen.stateCap :=
  reach_search_line_below_cap hr hlen hl hd hq

theorem capacity_arithmetic :
    Gen.lenGuard - 1 + Gen.maxDepth + 48 + 1 ≤ Gen.stateCap
    ∧ ∀ len depth q : Nat, len < Gen.lenGuard → depth ≤ Gen.maxDepth → q ≤ 48 →
        len + depth + q < Gen.stateCap ∧ len + depth + q + 1 ≤ Gen.stateCap :=
  stack_below_cap

/-- **C15.5 history table** (checked indexing in Rust: a miss would be a panic). The killer table
is `Bounds.killer_index_lt` and `C08.every_killer_access_in_range`. -/
theorem history_index_in_range {g : Game} {m : Move} {i : Nat} (hf : g.Fits m)
    (h : m.indexHistory = some i) : i < Gen.historyLen :=
  index_history_lt_of_fits hf h

/-- **C15.6 move buffer** (`push_unchecked`, 256): the named hypothesis, and what IS provable:
with at most four own pieces the crude per-piece bound suffices. -/
theorem move_buffer_small_material {g : Game} (h : ownCount g ≤ 4) : g.pseudoMoves.length ≤ Gen.movesCap :=
  pseudoMoves_length_le_of_few_pieces g h

theorem move_buffer_of_hypothesis (h : MoveCountBound) {g : Game} (hr : Reach g) :
    g.pseudoMoves.length ≤ Gen.movesCap := h g hr

/-- **C15.7 self-play of unbounded length** (`autoplay.rs`, modelled in `Chess/Model/Autoplay.lean`:
one table for the whole game, a fresh flag per move cut by the timer at ANY poll): every game the
loop searches is reachable and shorter than the guard — so C15.1–C15.5 apply to it and the search
that follows has its stack room. Under the Zobrist hypothesis of C06 (a colliding table entry could
otherwise make the search answer with a move of another position). -/
theorem selfplay_of_any_length_stays_in_bounds (hz : ZobristOk) (g0 : Game) (h0 : Uci.defaultGame = some g0)
    (rounds : List (Nat → Bool)) :
    ∀ g ∈ Chess.Auto.run rounds ⟨g0, {}⟩, Reach g ∧ g.len < Gen.autoLenGuard ∧ g.len < Gen.lenGuard :=
  Chess.Auto.selfplay_stays_in_bounds hz g0 h0 rounds

/-- **C15.8 the reader's material bound is an invariant of play** (so "positions with many promoted
pieces" never exceed what the buffers and the 16-bit score were sized for): one king at most and
pawns + promoted pieces ≤ 8 per side in every reachable game. -/
theorem material_stays_possible {g : Game} (h : Reach g) : Chess.Range.MaterialInv g :=
  Chess.Range.reach_material h

end Chess.Props.C15

#print axioms Chess.Props.C15.inventory_is_covered
#print axioms Chess.Props.C15.squares_written_are_on_the_board
#print axioms Chess.Props.C15.squares_read_are_on_the_board
#print axioms Chess.Props.C15.board_access_is_real
#print axioms Chess.Props.C15.table_lookups_are_real
#print axioms Chess.Props.C15.state_stack_never_empty
#print axioms Chess.Props.C15.position_keeps_games_short
#print axioms Chess.Props.C15.state_stack_below_capacity
#print axioms Chess.Props.C15.capacity_arithmetic
#print axioms Chess.Props.C15.history_index_in_range
#print axioms Chess.Props.C15.move_buffer_small_material
#print axioms Chess.Props.C15.move_buffer_of_hypothesis
#print axioms Chess.Props.C15.selfplay_of_any_length_stays_in_bounds
#print axioms Chess.Props.C15.material_stays_possible

/-! ### Translation tie (C15.T)
`tools/translate.py` regenerates `Chess/Gen/Fns.lean` from the Rust text of the leaf functions on every run (a
parser, not patterns); the theorems below — proved in `Chess/Lemmas/FnsEquiv/*` and re-checked by the kernel whenever
the generated term changes — say that the TRANSLATED code equals the hand-written model this file's theorems are
about, for the indices handed to unchecked accesses (`Position::as_usize`, `new_unsafe`, `index_history`) and the `unwrap` in `move_score`. A rewrite of the Rust text that keeps the meaning leaves them true; one that changes it breaks the
theorem named after the function. -/
#print axioms Chess.FnsEquiv.Position_as_usize_eq
#print axioms Chess.FnsEquiv.Position_as_usize_eq_of_valid
#print axioms Chess.FnsEquiv.Position_new_unsafe_eq
#print axioms Chess.FnsEquiv.Move_index_history_eq
#print axioms Chess.FnsEquiv.move_score_unwrap_safe

/-! Likewise `Position::new_assert` (its assertion is exactly `Pos.inBoard`), `Position::add_unsafe`, and the indices of the two unchecked key lookups. -/
#print axioms Chess.FnsEquiv.Position_new_assert_eq
#print axioms Chess.FnsEquiv.Position_add_unsafe_eq
#print axioms Chess.FnsEquiv.GameState_hash_eq
#print axioms Chess.FnsEquiv.Piece_hash_eq
