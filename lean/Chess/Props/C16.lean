import Chess.Lemmas.Reach
import Chess.Lemmas.SpecSums
import Chess.Lemmas.ScoreRangePop
import Chess.Lemmas.ScoreRangeExamples
import Chess.Lemmas.FnsEquiv.Piece

/-!
# C16 — the evaluation score is the piece-square sum of the board

`Spec.psq a e` = Σ over squares of sign(owner) × table(kind, phase e)[rank-flipped for White],
both kings by the table of the SAME phase; tables regenerated from `scores.rs` on every run.
-/
namespace Chess.Props.C16
open Chess

/-- **C16.1** In every reachable game — text import in any phase, moves played into the record
(across the switch into the endgame), search-style play/take-back — the incrementally maintained
score is the piece-square sum of the position under the phase in force. -/
theorem score_is_the_psq_sum {g : Game} (h : Reach g) : g.score = Spec.psq g.abs g.endgame :=
  wf_score_eq_spec (reach_wf h)

/-- **C16.2** A function of position and phase, not of the route. -/
theorem score_route_independent {g g' : Game} (h : Reach g) (h' : Reach g') (e : g.abs = g'.abs)
    (ep : g.endgame = g'.endgame) : g.score = g'.score :=
  Chess.score_route_independent (reach_wf h) (reach_wf h') e ep

/-- **C16.3** The colour-mirrored position has exactly the negated score, and the same material
phase test — for every position and either phase, on the engine's tables (the proof does not look
into them). -/
theorem mirror_negates (a : Spec.APos) (e : Bool) :
    Spec.psq (Spec.mirror a) e = - Spec.psq a e ∧ Spec.lowMaterial (Spec.mirror a) e = Spec.lowMaterial a e :=
  ⟨Chess.mirror_negates a e, lowMaterial_mirror a e⟩

/-- the phase switch keeps the invariant (this is the step that failed on the pinned tree: the
kings were not re-scored when the king table was swapped) -/
theorem phase_switch_keeps_the_sum {g : Game} (h : g.WF) :
    g.updatePhase.score = Spec.psq g.updatePhase.abs g.updatePhase.endgame :=
  wf_score_eq_spec (Game.updatePhase_wf h)

/-- **C16.4 the 16-bit score never wraps.** The Rust score is an `i16` updated in place; the model
uses `Int`. In every reachable game the score is within ±30565 (one king, the reader's material
bound — preserved by every generated move — and the extreme entries of the regenerated tables). -/
theorem score_fits_i16 {g : Game} (h : Reach g) : -32768 ≤ g.score ∧ g.score ≤ 32767 :=
  Chess.Range.score_fits_i16 h

/-- **C16.5** … and so does every intermediate value of the incremental computation: each
`score -= old; score += new` half-step of every `set_position` of a push (checked or unchecked list,
so also the trial pushes of the legality filter), of the king re-scoring at the phase switch, of a
move played into the record, and of the take-back. -/
theorem every_intermediate_score_fits_i16 {g : Game} (h : Reach g) :
    (∀ b m, m ∈ (g.getMoves b).1 → ∀ s ∈ Chess.Range.pushTrace g m, -32768 ≤ s ∧ s ≤ 32767) ∧
    (∀ s ∈ Chess.Range.phaseTrace g, -32768 ≤ s ∧ s ≤ 32767) ∧
    (∀ m, m ∈ (g.getMoves true).1 → ∀ s ∈ Chess.Range.pushHistoryTrace g m, -32768 ≤ s ∧ s ≤ 32767) ∧
    (∀ b m, m ∈ (g.getMoves b).1 → ∀ v ∈ Chess.Range.popTrace (g.push m) m, -32768 ≤ v ∧ v ≤ 32767) :=
  ⟨fun _ _ hm => Chess.Range.push_intermediate_fits h hm, Chess.Range.updatePhase_intermediate_fits h,
   fun _ hm => Chess.Range.pushHistory_intermediate_fits h hm, fun _ _ hm => Chess.Range.pop_intermediate_fits h hm⟩

/-- the traces end in the model's own result: they are the traces of THIS computation -/
theorem trace_ends_in_the_score (g : Game) (m : Move) :
    ((Chess.Range.pushTrace g m).getLast?).getD g.score = (g.push m).score :=
  Chess.Range.pushTrace_getLast g m

/-- the material bound is needed: a board the reader refuses has a score beyond `i16` -/
theorem material_bound_needed :
    ∃ g : Game, g.score = sumAll g.pastScores ∧ Chess.Range.CacheBounded g.board g.pastScores
      ∧ ¬ Chess.Range.MaterialInv g ∧ ¬ (g.score ≤ 32767) :=
  Chess.Range.material_hypothesis_needed

end Chess.Props.C16

#print axioms Chess.Props.C16.score_is_the_psq_sum
#print axioms Chess.Props.C16.score_route_independent
#print axioms Chess.Props.C16.mirror_negates
#print axioms Chess.Props.C16.phase_switch_keeps_the_sum
#print axioms Chess.Props.C16.score_fits_i16
#print axioms Chess.Props.C16.every_intermediate_score_fits_i16
#print axioms Chess.Props.C16.material_bound_needed

/-! ### Translation tie (C16.T)
`tools/translate.py` regenerates `Chess/Gen/Fns.lean` from the Rust text of the leaf functions on every run (a
parser, not patterns); the theorems below — proved in `Chess/Lemmas/FnsEquiv/*` and re-checked by the kernel whenever
the generated term changes — say that the TRANSLATED code equals the hand-written model this file's theorems are
about, for `Piece::score` on the engine's own tables in both phases (rank flip for White, sign by owner), the material values and the endgame threshold. A rewrite of the Rust text that keeps the meaning leaves them true; one that changes it breaks the
theorem named after the function. -/
#print axioms Chess.FnsEquiv.Piece_score_eq
#print axioms Chess.FnsEquiv.PieceType_material_value_eq
#print axioms Chess.FnsEquiv.Piece_material_value_eq
#print axioms Chess.FnsEquiv.ENDGAME_THRESHOLD_eq
