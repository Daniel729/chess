import Chess.Lemmas.Reach
import Chess.Lemmas.SearchF

/-!
# C18 — reported principal variations are playable lines
-/
namespace Chess.Props.C18
open Chess Chess.Search

variable {G M : Type} [DecidableEq M]

/-- **C18.1** Every `info pv` line is a sequence of moves each of which is a checked (legal) move
in the position reached so far — for every table satisfying the invariant (C06 shows every table
reachable from the empty one does). Hypotheses as in C06 (`HashOk` is the Zobrist hypothesis). -/
theorem pv_lines_are_playable {o : Ops G M} {P : G → Prop} (hH : HashOk o P) (hC : Closed o P)
    (runs : Nat → Bool) (g : G) (tt : Table M) (off : Bool) (md : Option Nat) (hP : P g) (hT : TTInv o P tt) :
    ∀ info ∈ (driver o runs g tt off md).infos, LegalLine o g info.pv :=
  driver_pv_legal hH hC runs g tt off md hP hT

/-- **C18.2** After any history of searches from the empty table. -/
theorem pv_lines_playable_after_any_history {o : Ops G M} {P : G → Prop} (hH : HashOk o P) (hC : Closed o P)
    (reqs : List (Req G)) (hreqs : ∀ r ∈ reqs, P r.g) (r : Req G) (hP : P r.g) :
    ∀ info ∈ (driver o r.runs r.g (tableAfter o {} reqs) r.off r.md).infos, LegalLine o r.g info.pv :=
  (session_sound hH hC reqs hreqs r hP).2.2

/-- **C18.2 for the chess engine**: after any history of searches of reachable games the `info pv`
lines are playable, under the Zobrist hypothesis `ZobristOk`. -/
theorem chess_pv_playable (hZ : ZobristOk) (reqs : List (Req Game)) (hreqs : ∀ r ∈ reqs, Reach r.g)
    (r : Req Game) (hr : Reach r.g) :
    ∀ info ∈ (driver Uci.chessOps r.runs r.g (tableAfter Uci.chessOps {} reqs) r.off r.md).infos,
      LegalLine Uci.chessOps r.g info.pv :=
  pv_lines_playable_after_any_history hZ chess_closed reqs (fun q hq => reach_wf (hreqs q hq)) r (reach_wf hr)


/-! ### The faithful model (`driverF`) -/
open Chess.Search.F in
/-- **C18.3** PV lines are playable after any history of searches any of which may have been stopped. -/
theorem faithful_pv_playable {o : Ops G M} {P : G → Prop} (hH : HashOk o P) (hC : Closed o P)
    (reqs : List (Req G)) (hreqs : ∀ r ∈ reqs, P r.g) (r : Req G) (hP : P r.g) :
    ∀ info ∈ (driverF o r.runs r.g (tableAfterF o {} reqs) r.off r.md).infos, LegalLine o r.g info.pv :=
  (sessionF_sound hH hC reqs hreqs r hP).2.2.1

end Chess.Props.C18

#print axioms Chess.Props.C18.pv_lines_are_playable
#print axioms Chess.Props.C18.pv_lines_playable_after_any_history
#print axioms Chess.Props.C18.chess_pv_playable
#print axioms Chess.Props.C18.faithful_pv_playable
