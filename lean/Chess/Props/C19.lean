import Chess.Lemmas.Reach
import Chess.Lemmas.SearchF
import Chess.Lemmas.FnsEquiv.Search

/-!
# C19 — fixed-depth search is reproducible

In Lean every function is deterministic; the content is WHICH state the result may depend on and
that the implementation IS that function (the correspondence check runs the real binary repeatedly
— fresh, after `ucinewgame`, under load, with stretched thread start-up — and compares every
transcript with this model's).
-/
namespace Chess.Props.C19
open Chess Chess.Search

variable {G M : Type} [DecidableEq M]

/-- **C19.1** The search result is a function of (position, table, limit, flag values at the
polls) only; after a reset the table is empty whatever was searched before, so the transcript is
that of a fresh engine. -/
theorem reset_forgets_history (o : Ops G M) (runs : Nat → Bool) (g : G) (off : Bool) (md : Option Nat)
    (tt₁ tt₂ : Table M) (hist₁ hist₂ : List (Req G)) :
    driver o runs g (resetTable (tableAfter o tt₁ hist₁)) off md =
      driver o runs g (resetTable (tableAfter o tt₂ hist₂)) off md :=
  fresh_equiv o runs g off md tt₁ tt₂ hist₁ hist₂

/-- **C19.2** Timing cannot influence a search that is not stopped: any two runs that were not
stopped — whatever their flag oracles did at polls the other never reached — return the same best
move, the same scores, node counts and principal variations. -/
theorem unstopped_runs_agree (o : Ops G M) (runs runs' : Nat → Bool) (g : G) (tt : Table M)
    (off : Bool) (md : Option Nat) (h : (driver o runs g tt off md).stopped = false)
    (h' : (driver o runs' g tt off md).stopped = false) :
    driver o runs g tt off md = driver o runs' g tt off md :=
  driver_flag_free_unstopped o runs runs' g tt off md h h'

/-- **C19.3** A search with a flag that stays up, with a depth limit or without, is never stopped
(it ends by itself). -/
theorem depth_search_not_stopped (o : Ops G M) (g : G) (tt : Table M) (off : Bool) (md : Option Nat) :
    (driver o (fun _ => true) g tt off md).stopped = false :=
  (driver_terminates_by_itself o g tt off md).1


/-! ### The faithful model (`driverF`) -/
open Chess.Search.F in
/-- **C19.4** Unstopped runs of the faithful driver agree; what it reports always agrees with the
dropping model (`faithful_reports_agree`: only the table handed on differs, and only after a stop). -/
theorem faithful_unstopped_runs_agree (o : Ops G M) (runs runs' : Nat → Bool) (g : G) (tt : Table M)
    (off : Bool) (md : Option Nat) (h : (driverF o runs g tt off md).stopped = false)
    (h' : (driverF o runs' g tt off md).stopped = false) :
    driverF o runs g tt off md = driverF o runs' g tt off md :=
  driverF_flag_free_unstopped o runs runs' g tt off md h h'

open Chess.Search.F in
theorem faithful_reports_agree (o : Ops G M) (runs : Nat → Bool) (g : G) (tt : Table M) (off : Bool)
    (md : Option Nat) :
    (driverF o runs g tt off md).found = (driver o runs g tt off md).found ∧
    (driverF o runs g tt off md).infos = (driver o runs g tt off md).infos ∧
    (driverF o runs g tt off md).stopped = (driver o runs g tt off md).stopped :=
  driverF_agrees o runs g tt off md

end Chess.Props.C19

#print axioms Chess.Props.C19.reset_forgets_history
#print axioms Chess.Props.C19.unstopped_runs_agree
#print axioms Chess.Props.C19.depth_search_not_stopped
#print axioms Chess.Props.C19.faithful_unstopped_runs_agree
#print axioms Chess.Props.C19.faithful_reports_agree

/-! ### Translation tie (C19.T)
`tools/translate.py` regenerates `Chess/Gen/Fns.lean` from the Rust text of the leaf functions on every run (a
parser, not patterns); the theorems below — proved in `Chess/Lemmas/FnsEquiv/*` and re-checked by the kernel whenever
the generated term changes — say that the TRANSLATED code equals the hand-written model this file's theorems are
about, for the ordering key (`move_score`), which together with the history counters decides the order in which moves are searched. A rewrite of the Rust text that keeps the meaning leaves them true; one that changes it breaks the
theorem named after the function. -/
#print axioms Chess.FnsEquiv.move_score_eq
