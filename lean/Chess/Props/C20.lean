import Chess.Lemmas.MoveText
import Chess.Lemmas.FnsEquiv.Letters

/-!
# C20 — the board display and move record show what was actually played
-/
namespace Chess.Props.C20
open Chess

/-- **C20.1** Every entry of the move record is, for every move kind, exactly: piece letter
(`K Q R B N`, none for pawns), origin file, `x` iff it captured, destination square, and on
promotion `=` and the letter of the piece ACTUALLY promoted to; castling `O-O`/`O-O-O`.
(`specPgn` is written with explicit matches; the engine's letter tables are the extracted ones,
so a wrong letter in the source makes this theorem fail.) -/
theorem record_entry_is_what_was_played (m : Move) (hb : OnBoard m) : Move.pgn m = specPgn m :=
  pgn_entry_spec m hb

/-- every move that fits a game is on the board, so its entry is the specified one -/
theorem record_entry_of_played {g : Game} {m : Move} (h : g.Fits m) : Move.pgn m = specPgn m :=
  pgn_entry_spec_fits h

/-- the promotion letter of the record identifies the piece promoted to -/
theorem promotion_letter_identifies {t t' : PieceType}
    (h : t = .queen ∨ t = .rook ∨ t = .bishop ∨ t = .knight)
    (h' : t' = .queen ∨ t' = .rook ∨ t' = .bishop ∨ t' = .knight)
    (e : pgnPromoLetter t = pgnPromoLetter t') : t = t' :=
  pgnPromoLetter_inj h h' e

/-- **C20.2** The printed record is the numbered list of the entries of the moves given to
`push_history`, in the order played; search-style play/take-back never alters it. -/
theorem record_grows_by_the_move_played (g : Game) (m : Move) :
    (g.pushHistory m).pgn = g.pgn ++ recordEntry g.moveStack.length m :=
  pgn_pushHistory g m

theorem record_untouched_by_search (g : Game) (m : Move) : (g.push m).pgn = g.pgn ∧ (g.pop m).pgn = g.pgn :=
  ⟨pgn_push g m, pgn_pop g m⟩

/-- **C20.3** `Game.show`, the model of `Display for Game`, unfolded (`rfl`): the hash of the game
in hexadecimal, its FEN and its record, then the diagram of its board, all four taken from the one
game `g`. What the FEN and the record say is C11 and C20.1/C20.2. -/
theorem show_is_the_current_game (g : Game) :
    g.show = ['\n'] ++ "Hash: ".toList ++ hexUpper g.hash ++ ['\n'] ++ "Fen: ".toList ++ g.fen ++ ['\n']
      ++ "PGN: ".toList ++ g.pgn ++ ['\n', '\n'] ++ g.diagram := rfl

-- non-vacuity: concrete entries (two promotions, which /repo recorded wrongly before commit 2281d05, one of them a capture; a knight move)
example : Move.pgn (.promotion .white .bishop ⟨6, 0⟩ ⟨7, 1⟩ (some ⟨.knight, .black⟩)) = "axb8=B".toList := by decide
example : Move.pgn (.promotion .white .knight ⟨6, 0⟩ ⟨7, 0⟩ none) = "aa8=N".toList := by decide
example : Move.pgn (.normal ⟨.knight, .white⟩ ⟨0, 6⟩ ⟨2, 5⟩ none) = "Ngf3".toList := by decide

end Chess.Props.C20

#print axioms Chess.Props.C20.record_entry_is_what_was_played
#print axioms Chess.Props.C20.record_entry_of_played
#print axioms Chess.Props.C20.promotion_letter_identifies
#print axioms Chess.Props.C20.record_grows_by_the_move_played
#print axioms Chess.Props.C20.record_untouched_by_search
#print axioms Chess.Props.C20.show_is_the_current_game

/-! ### Translation tie (C20.T)
`tools/translate.py` regenerates `Chess/Gen/Fns.lean` from the Rust text of the leaf functions on every run (a
parser, not patterns); the theorems below — proved in `Chess/Lemmas/FnsEquiv/*` and re-checked by the kernel whenever
the generated term changes — say that the TRANSLATED code equals the hand-written model and the generated tables this
file's theorems are about, for the piece letters of the move record (`as_str_pgn`) and the glyphs of the diagram (`as_char`, both colours). A rewrite of the Rust text that keeps the meaning leaves them true; one that
changes it breaks the theorem named after the function. -/
#print axioms Chess.FnsEquiv.Piece_as_str_pgn_eq
#print axioms Chess.FnsEquiv.Piece_as_str_pgn_table
#print axioms Chess.FnsEquiv.Piece_as_char_eq
#print axioms Chess.FnsEquiv.Piece_as_char_table
