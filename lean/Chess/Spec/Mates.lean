import Chess.Spec.Rules

/-!
# Specification: forced mates (the solver the C10 check runs on the implementation's answers)

`legalListFast` enumerates the legal moves from the squares that hold a piece of the mover only;
`legalListFast_eq` proves it is the SAME list as the one-line definition `legalList` of
`Rules.lean` (it is an evaluation shortcut, not a second definition of legality).
-/
namespace Chess.Spec

def ownAt (a : APos) (s : Sq) : Bool :=
  match a.at s with
  | some pc => pc.owner = a.side
  | none => false

def variants (s t : Sq) : List UciMove :=
  [⟨s, t, none⟩, ⟨s, t, some .queen⟩, ⟨s, t, some .rook⟩, ⟨s, t, some .bishop⟩, ⟨s, t, some .knight⟩]

def movesFrom (s : Sq) : List UciMove := allSqs.flatMap (variants s)

def legalListFast (a : APos) : List UciMove :=
  (allSqs.filter (ownAt a)).flatMap (fun s => (movesFrom s).filter (legal a))

theorem legal_src_own {a : APos} {m : UciMove} (h : legal a m = true) : ownAt a m.src = true := by
  unfold legal pseudo at h
  unfold ownAt
  cases hs : a.at m.src with
  | none => rw [hs] at h; simp at h
  | some pc => rw [hs] at h; simp at h ⊢; exact h.1.2.1

theorem mem_movesFrom {s : Sq} {m : UciMove} (h : m ∈ movesFrom s) : m.src = s := by
  unfold movesFrom at h
  rw [List.mem_flatMap] at h
  obtain ⟨t, _, hm⟩ := h
  simp only [variants, List.mem_cons, List.not_mem_nil, or_false] at hm
  rcases hm with rfl | rfl | rfl | rfl | rfl <;> rfl

theorem flatMap_filter_of_nil {α β : Type} (p : α → Bool) (f : α → List β)
    (h : ∀ x, p x = false → f x = []) (l : List α) : (l.filter p).flatMap f = l.flatMap f := by
  induction l with
  | nil => rfl
  | cons x xs ih =>
    cases hp : p x
    · rw [List.filter_cons_of_neg (by simp [hp]), List.flatMap_cons, h x hp, ih]; rfl
    · rw [List.filter_cons_of_pos (by simp [hp]), List.flatMap_cons, List.flatMap_cons, ih]

theorem legalListFast_eq (a : APos) : legalListFast a = legalList a := by
  unfold legalListFast legalList candidates
  rw [flatMap_filter_of_nil]
  · rw [List.filter_flatMap]; rfl
  · intro s hs
    rw [List.filter_eq_nil_iff]
    intro m hm hl
    have := legal_src_own hl
    rw [mem_movesFrom hm, hs] at this
    cases this

/-- the side to move is checkmated -/
def isMated (a : APos) : Bool := (legalListFast a).isEmpty && inCheck a a.side

/-- the side to move can force checkmate with at most `n` moves of its own -/
def winsIn : Nat → APos → Bool
  | 0, _ => false
  | n + 1, a => (legalListFast a).any (fun m =>
      let b := play a m
      let replies := legalListFast b
      if replies.isEmpty then inCheck b b.side
      else replies.all (fun r => winsIn n (play b r)))

/-- the moves after which the opponent is mated at once or cannot avoid a mate within `n - 1`
further moves of the mover: the moves that KEEP a forced mate of at most `n` moves -/
def keepMoves (n : Nat) (a : APos) : List UciMove :=
  (legalListFast a).filter (fun m =>
    let b := play a m
    let replies := legalListFast b
    if replies.isEmpty then inCheck b b.side
    else replies.all (fun r => winsIn (n - 1) (play b r)))

/-- the length of the shortest forced mate, if it is at most `n` moves -/
def mateLength (n : Nat) (a : APos) : Option Nat := (List.range (n + 1)).find? (fun k => winsIn k a)

theorem any_eq_filter {α : Type} (l : List α) (p : α → Bool) : l.any p = !(l.filter p).isEmpty := by
  induction l with
  | nil => rfl
  | cons x xs ih => cases h : p x <;> simp [h, ih]

/-- a forced mate within `n + 1` moves exists iff some move keeps it -/
theorem winsIn_succ_iff (n : Nat) (a : APos) : winsIn (n + 1) a = !(keepMoves (n + 1) a).isEmpty := by
  unfold keepMoves
  rw [winsIn, any_eq_filter]
  rfl

end Chess.Spec
