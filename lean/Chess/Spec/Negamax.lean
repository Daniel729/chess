import Chess.Model.Search

/-!
# The reference search: plain negamax, no window, no ordering, no table

`refQ`, `refD1`, `refNode`, `refRoot` give the value the engine's search is *meant* to compute at a
quiescence node, a depth-1 node, an interior node and the root, over the same abstract game
interface `Ops` as `Chess.Model.Search`. Every value is a maximum over a move list, written as a
fold of `max`; `refNode_perm` / `refRoot_perm` say that it does not depend on the order in which
the moves are listed ("the value does not depend on the order in which moves are tried").
-/
namespace Chess.Search

/-- maximum of a list of integers, `d` for the empty list -/
def maxL (d : Int) : List Int → Int
  | [] => d
  | x :: xs => xs.foldl max x

theorem foldl_max_le_iff (l : List Int) (a c : Int) :
    l.foldl max a ≤ c ↔ a ≤ c ∧ ∀ y ∈ l, y ≤ c := by
  induction l generalizing a with
  | nil => simp
  | cons x xs ih =>
    simp only [List.foldl_cons, ih, List.mem_cons, forall_eq_or_imp, Int.max_le, and_assoc]

theorem maxL_le_iff {l : List Int} (h : l ≠ []) (d c : Int) :
    maxL d l ≤ c ↔ ∀ y ∈ l, y ≤ c := by
  cases l with
  | nil => exact absurd rfl h
  | cons x xs => simp only [maxL, foldl_max_le_iff, List.mem_cons, forall_eq_or_imp]

theorem foldl_max_perm {l l' : List Int} (p : l.Perm l') (a : Int) :
    l.foldl max a = l'.foldl max a :=
  p.foldl_eq' (fun x _ y _ z => by rw [Int.max_assoc, Int.max_comm x y, Int.max_assoc]) a

theorem maxL_perm {l l' : List Int} (p : l.Perm l') (d : Int) : maxL d l = maxL d l' := by
  by_cases h : l = []
  · subst h; rw [List.nil_perm.1 p]
  · have h' : l' ≠ [] := fun e => h (by subst e; exact List.perm_nil.1 p)
    have key : ∀ c, maxL d l ≤ c ↔ maxL d l' ≤ c := fun c => by
      rw [maxL_le_iff h, maxL_le_iff h']
      exact forall_congr' fun y => by rw [p.mem_iff]
    exact Int.le_antisymm ((key _).2 (Int.le_refl _)) ((key _).1 (Int.le_refl _))

variable {G M : Type}

/-- value of a node without moves -/
def deadValue (o : Ops G M) (mate : Int) (g : G) (rd : Int) : Int :=
  if o.safe g then 0 else scoreMin + mate + rd

/-- quiescence: stand pat or the best capture, to the same fuel as `qsearch` -/
def refQ (o : Ops G M) : Nat → G → Int → Int
  | 0, g, _ => o.eval g
  | fuel + 1, g, rd =>
    let ms := o.unchecked g
    if ms.isEmpty then deadValue o Gen.mateQ g rd
    else ((ms.filter o.tactical).map fun m => -(refQ o fuel (o.push g m) (rd + 1))).foldl max (o.eval g)

/-- the value of move `m` at a depth-1 node -/
def d1Score (o : Ops G M) (g : G) (rd : Int) (m : M) : Int :=
  -(refQ o qFuel (o.push g m) (rd + 1))

/-- depth 1: the best move, each answered by quiescence -/
def refD1 (o : Ops G M) (g : G) (rd : Int) : Int :=
  let ms := o.unchecked g
  if ms.isEmpty then deadValue o Gen.mateD1 g rd
  else maxL 0 (ms.map (d1Score o g rd))

/-- interior node: the best legal move -/
def refNode (o : Ops G M) : Nat → G → Int → Int
  | 0, g, rd => refQ o qFuel g rd
  | 1, g, rd => refD1 o g rd
  | r + 2, g, rd =>
    let ms := o.checked g
    if ms.isEmpty then deadValue o Gen.mateNode g rd
    else maxL 0 (ms.map fun m => -(refNode o (r + 1) (o.push g m) (rd + 1)))

/-- the move list of `rootSearch` before sorting -/
def rootMoves [DecidableEq M] (o : Ops G M) (g : G) : List M :=
  match o.repetition g with
  | some rep => swapRemoveFirst rep (o.checked g)
  | none => o.checked g

/-- the value of root move `m` -/
def rootScore (o : Ops G M) (depth : Nat) (g : G) (m : M) : Int :=
  -(refNode o (depth - 1) (o.push g m) 1)

/-- root: the best root move, floored at the engine's initial `best_score` -/
def refRoot [DecidableEq M] (o : Ops G M) (depth : Nat) (g : G) : Int :=
  ((rootMoves o g).map (rootScore o depth g)).foldl max (scoreMin + 1)

/-! ## Order independence -/

/-- `refNode` with the children's values and the move list given explicitly -/
def nodeValue (dead : Int) (f : M → Int) (ms : List M) : Int :=
  if ms.isEmpty then dead else maxL 0 (ms.map f)

theorem nodeValue_perm {ms ms' : List M} (p : ms.Perm ms') (dead : Int) (f : M → Int) :
    nodeValue dead f ms = nodeValue dead f ms' := by
  unfold nodeValue
  rw [p.isEmpty_eq, maxL_perm (p.map f)]

theorem refNode_succ_succ (o : Ops G M) (r : Nat) (g : G) (rd : Int) :
    refNode o (r + 2) g rd =
      nodeValue (deadValue o Gen.mateNode g rd)
        (fun m => -(refNode o (r + 1) (o.push g m) (rd + 1))) (o.checked g) := by
  simp only [refNode, nodeValue]

theorem refD1_eq (o : Ops G M) (g : G) (rd : Int) :
    refD1 o g rd = nodeValue (deadValue o Gen.mateD1 g rd) (d1Score o g rd) (o.unchecked g) := by
  simp only [refD1, nodeValue]

theorem refNode_perm (o : Ops G M) (r : Nat) (g : G) (rd : Int) {ms : List M}
    (p : (o.checked g).Perm ms) :
    refNode o (r + 2) g rd =
      nodeValue (deadValue o Gen.mateNode g rd)
        (fun m => -(refNode o (r + 1) (o.push g m) (rd + 1))) ms := by
  rw [refNode_succ_succ, nodeValue_perm p]

theorem refD1_perm (o : Ops G M) (g : G) (rd : Int) {ms : List M} (p : (o.unchecked g).Perm ms) :
    refD1 o g rd = nodeValue (deadValue o Gen.mateD1 g rd) (d1Score o g rd) ms := by
  rw [refD1_eq, nodeValue_perm p]

/-- `o'` is `o` with the move lists of every position listed in another order -/
structure Reordered (o o' : Ops G M) : Prop where
  push : o'.push = o.push
  eval : o'.eval = o.eval
  safe : o'.safe = o.safe
  tactical : o'.tactical = o.tactical
  checked : ∀ g, (o.checked g).Perm (o'.checked g)
  unchecked : ∀ g, (o.unchecked g).Perm (o'.unchecked g)

theorem deadValue_reordered {o o' : Ops G M} (h : Reordered o o') (mate : Int) (g : G) (rd : Int) :
    deadValue o' mate g rd = deadValue o mate g rd := by
  simp only [deadValue, h.safe]

/-- the quiescence value does not depend on the order in which any position lists its moves -/
theorem refQ_reordered {o o' : Ops G M} (h : Reordered o o') (fuel : Nat) (g : G) (rd : Int) :
    refQ o' fuel g rd = refQ o fuel g rd := by
  induction fuel generalizing g rd with
  | zero => simp only [refQ, h.eval]
  | succ f ih =>
    simp only [refQ, ← (h.unchecked g).isEmpty_eq, deadValue_reordered h, h.eval, h.push,
      h.tactical, ih]
    split
    · rfl
    · exact foldl_max_perm (((h.unchecked g).symm.filter _).map _) _

/-- the depth-1 value does not depend on the order in which any position lists its moves -/
theorem refD1_reordered {o o' : Ops G M} (h : Reordered o o') (g : G) (rd : Int) :
    refD1 o' g rd = refD1 o g rd := by
  have hs : d1Score o' g rd = d1Score o g rd := by
    funext m; simp only [d1Score, refQ_reordered h, h.push]
  rw [refD1_eq, refD1_eq, deadValue_reordered h, hs]
  exact nodeValue_perm (h.unchecked g).symm _ _

/-- the value of an interior node does not depend on the order in which any position lists its
moves -/
theorem refNode_reordered {o o' : Ops G M} (h : Reordered o o') (remaining : Nat) (g : G) (rd : Int) :
    refNode o' remaining g rd = refNode o remaining g rd := by
  induction remaining using Nat.strongRecOn generalizing g rd with
  | _ n ih =>
    match n with
    | 0 => simp only [refNode, refQ_reordered h]
    | 1 => simp only [refNode, refD1_reordered h]
    | r + 2 =>
      rw [refNode_succ_succ, refNode_succ_succ, deadValue_reordered h, h.push]
      have : (fun m => -(refNode o' (r + 1) (o.push g m) (rd + 1))) =
          (fun m => -(refNode o (r + 1) (o.push g m) (rd + 1))) := by
        funext m; rw [ih (r + 1) (by omega)]
      rw [this]
      exact nodeValue_perm (h.checked g).symm _ _

theorem refRoot_perm [DecidableEq M] (o : Ops G M) (depth : Nat) (g : G) {ms : List M}
    (p : (rootMoves o g).Perm ms) :
    refRoot o depth g = (ms.map (rootScore o depth g)).foldl max (scoreMin + 1) := by
  unfold refRoot
  exact foldl_max_perm (p.map _) _

/-! ## `swapRemoveFirst` removes one occurrence, as a multiset -/

theorem swapRemove_perm_eraseIdx (ms : List M) (i : Nat) (last : M) (hl : ms.getLast? = some last)
    (hi : i < ms.length) :
    (if i = ms.length - 1 then ms.dropLast else (ms.set i last).dropLast).Perm (ms.eraseIdx i) := by
  obtain ⟨init, rfl⟩ := List.getLast?_eq_some_iff.1 hl
  simp only [List.length_append, List.length_singleton, Nat.add_sub_cancel, List.dropLast_concat]
    at hi ⊢
  split
  · next h =>
    subst h
    rw [List.eraseIdx_append_of_length_le (Nat.le_refl _), Nat.sub_self, List.eraseIdx_zero,
      List.tail_cons, List.append_nil]
  · next h =>
    have hi' : i < init.length := by omega
    rw [List.set_append_left _ _ hi', List.dropLast_concat, List.eraseIdx_append_of_lt_length hi',
      List.set_eq_take_append_cons_drop, if_pos hi', List.eraseIdx_eq_take_drop_succ]
    exact List.perm_middle.trans (List.perm_append_singleton _ _).symm

theorem swapRemoveFirst_perm_erase [DecidableEq M] (x : M) (ms : List M) :
    (swapRemoveFirst x ms).Perm (ms.erase x) := by
  unfold swapRemoveFirst
  rw [List.erase_eq_eraseIdx]
  cases hidx : ms.idxOf? x with
  | none => exact List.Perm.refl _
  | some i =>
    have hi : i < ms.length := by
      unfold List.idxOf? at hidx
      exact (List.findIdx?_eq_some_iff_getElem.1 hidx).1
    simp only []
    cases hl : ms.getLast? with
    | none =>
      rw [List.getLast?_eq_none_iff] at hl
      subst hl; cases hi
    | some last => exact swapRemove_perm_eraseIdx ms i last hl hi

theorem rootMoves_reordered [DecidableEq M] {o o' : Ops G M} (h : Reordered o o')
    (hrep : o'.repetition = o.repetition) (g : G) : (rootMoves o g).Perm (rootMoves o' g) := by
  unfold rootMoves
  rw [hrep]
  cases o.repetition g with
  | none => exact h.checked g
  | some rep =>
    exact (swapRemoveFirst_perm_erase rep _).trans
      (((h.checked g).erase rep).trans (swapRemoveFirst_perm_erase rep _).symm)

/-- the root value does not depend on the order in which any position lists its moves -/
theorem refRoot_reordered [DecidableEq M] {o o' : Ops G M} (h : Reordered o o')
    (hrep : o'.repetition = o.repetition) (depth : Nat) (g : G) :
    refRoot o' depth g = refRoot o depth g := by
  have hs : rootScore o' depth g = rootScore o depth g := by
    funext m; simp only [rootScore, refNode_reordered h, h.push]
  rw [refRoot_perm o depth g (rootMoves_reordered h hrep g), ← hs, refRoot]

end Chess.Search
